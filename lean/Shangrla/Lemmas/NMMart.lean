/-
  Refinement lemmas for the ALPHA / betting martingale tests of the literal model
  (`Shangrla.NM.alphaMart`, `bettingMart`): the vectorised pipeline of the code
  (`sjm`, estimator, `np.cumprod`) equals a single walk over the sample with state `(S, j, T)`; zone
  monotonicity of the null conditional mean; the running product is a non-negative rational wherever
  the null mean is strictly inside `(0, u)`.
-/
import Shangrla.Lemmas.NMCausal
import Shangrla.Lemmas.PHist
import Mathlib.Tactic.Linarith
import Mathlib.Tactic.Positivity
import Mathlib.Tactic.FieldSimp
import Mathlib.Tactic.Ring
import Mathlib.Algebra.Order.Field.Basic
import Mathlib.Algebra.Order.Ring.Rat

namespace Shangrla.NM
open Shangrla XR

/-! ### the walk -/

/-- the ALPHA factor computed by `alphaTerms` for observation `a`, raw estimate `e`, null mean `m` -/
def alphaFactorX (u : Rat) (m : Rat) (a : Rat) (e : XR) : XR :=
  let e' := XR.npmin (.fin u) (XR.npmax e (.fin m))
  ((XR.fin a) * e' / (XR.fin m) + (XR.fin (u - a)) * ((XR.fin u) - e') / (XR.fin (u - m))) / (XR.fin u)

/-- the betting factor computed by `bettingTerms` -/
def betFactorX (m : Rat) (a : Rat) (l : XR) : XR := (1 : XR) + l * (XR.fin (a - m))

/-- one walk over `(observation, parameter)` pairs with state `(S, j, T)`:
emits `(m_j, T_j)` where `T_j` is the running (unmasked) product -/
def walk (fac : Rat → Rat → XR → XR) (N : Option Nat) (t : Rat) :
    Rat → Nat → XR → List (Rat × XR) → List (Rat × XR)
  | _, _, _, [] => []
  | S, j, T, (a, e) :: rest =>
    let m := mu N t S j
    let T' := T * fac m a e
    (m, T') :: walk fac N t (S + a) (j + 1) T' rest

theorem length_walk (fac : Rat → Rat → XR → XR) (N : Option Nat) (t : Rat) :
    ∀ (l : List (Rat × XR)) (S : Rat) (j : Nat) (T : XR), (walk fac N t S j T l).length = l.length := by
  intro l
  induction l with
  | nil => intro S j T; rfl
  | cons p rest ih => intro S j T; exact congrArg (· + 1) (ih _ _ _)

/-- fusion: zipping the null means with the cumulative product of the ALPHA factors is the walk -/
theorem alpha_fusion (u : Rat) (N : Option Nat) (t : Rat) :
    ∀ (x : List Rat) (eta0 : List XR) (S : Rat) (j : Nat) (T : XR), eta0.length = x.length →
      let m := nullMeansFrom N t S j x
      let etaj := (eta0.zip m).map (fun (p : XR × Rat) => XR.npmin (.fin u) (XR.npmax p.1 (.fin p.2)))
      let factors := (x.zip (etaj.zip m)).map fun (p : Rat × XR × Rat) =>
        ((XR.fin p.1) * p.2.1 / (XR.fin p.2.2) + (XR.fin (u - p.1)) * ((XR.fin u) - p.2.1) / (XR.fin (u - p.2.2))) / (XR.fin u)
      m.zip (XR.cumprodFrom T factors) = walk (alphaFactorX u) N t S j T (x.zip eta0) := by
  intro x
  induction x with
  | nil => intro eta0 S j T _; rfl
  | cons a x ih =>
    intro eta0 S j T hlen
    cases eta0 with
    | nil => cases hlen
    | cons e eta0 =>
      exact congrArg ((mu N t S j, T * alphaFactorX u (mu N t S j) a e) :: ·)
        (ih eta0 (S + a) (j + 1) _ (Nat.succ.inj hlen))

theorem betting_fusion (N : Option Nat) (t : Rat) :
    ∀ (x : List Rat) (lam : List XR) (S : Rat) (j : Nat) (T : XR), lam.length = x.length →
      let m := nullMeansFrom N t S j x
      let factors := (x.zip (lam.zip m)).map fun (p : Rat × XR × Rat) => (1 : XR) + p.2.1 * (XR.fin (p.1 - p.2.2))
      m.zip (XR.cumprodFrom T factors) = walk betFactorX N t S j T (x.zip lam) := by
  intro x
  induction x with
  | nil => intro lam S j T _; rfl
  | cons a x ih =>
    intro lam S j T hlen
    cases lam with
    | nil => cases hlen
    | cons l lam =>
      exact congrArg ((mu N t S j, T * betFactorX (mu N t S j) a l) :: ·)
        (ih lam (S + a) (j + 1) _ (Nat.succ.inj hlen))

/-! ### zones of the null conditional mean -/

/-- "strictly inside so far": both numerators of the null mean at state `(S, j)` are positive,
i.e. `0 < N t - S` and `N t - S < (N - j + 1) u`; for infinite `N` simply `0 < t < u` -/
def Zst (N : Option Nat) (t u S : Rat) (j : Nat) : Prop :=
  match N with
  | none => 0 < t ∧ t < u
  | some n => 0 < (n : Rat) * t - S ∧ 0 < ((n : Rat) - (j : Rat) + 1) * u - ((n : Rat) * t - S)

/-- at least `k` draws remain at position `j`, the current one included -/
def Room (N : Option Nat) (j : Nat) (k : Nat) : Prop :=
  match N with
  | none => True
  | some n => j + k ≤ n + 1

theorem Room.cons {N : Option Nat} {j k : Nat} (h : Room N j (k + 1)) : Room N j 1 ∧ Room N (j + 1) k := by
  cases N with
  | none => exact ⟨trivial, trivial⟩
  | some n => simp only [Room] at h ⊢; omega

theorem room_of_le {N : Option Nat} {k : Nat} (h : ∀ n, N = some n → k ≤ n) : Room N 1 k := by
  cases N with
  | none => trivial
  | some n => exact (Nat.add_comm 1 k).trans_le (Nat.succ_le_succ (h n rfl))

theorem Zst_iff_mu {N : Option Nat} {t u S : Rat} {j : Nat} (hroom : Room N j 1) :
    Zst N t u S j ↔ 0 < mu N t S j ∧ mu N t S j < u := by
  cases N with
  | none => exact Iff.rfl
  | some n =>
    have hD : (0 : Rat) < (n : Rat) - (j : Rat) + 1 :=
      add_pos_of_nonneg_of_pos (sub_nonneg.2 (Nat.cast_le.2 (Nat.le_of_succ_le_succ hroom))) one_pos
    exact and_congr (div_pos_iff_of_pos_right hD).symm
      (by rw [mu, div_lt_iff₀ hD, sub_pos, mul_comm u])

theorem Zst_step {N : Option Nat} {t u S a : Rat} {j : Nat} (h0 : 0 ≤ a) (hu : a ≤ u)
    (h : Zst N t u (S + a) (j + 1)) : Zst N t u S j := by
  cases N with
  | none => exact h
  | some n =>
    obtain ⟨h1, h2⟩ := h
    rw [Nat.cast_succ] at h2
    exact ⟨by linarith, by linarith⟩

/-! ### the invariant of the walk -/

/-- the parameters along the walk are acceptable for the factor at their own null mean -/
def OkWalk (ok : Rat → Rat → XR → Prop) (u : Rat) (N : Option Nat) (t : Rat) :
    Rat → Nat → List (Rat × XR) → Prop
  | _, _, [] => True
  | S, j, (a, e) :: rest =>
    ok (mu N t S j) a e ∧ 0 ≤ a ∧ a ≤ u ∧ OkWalk ok u N t (S + a) (j + 1) rest

theorem OkWalk.mono {ok ok' : Rat → Rat → XR → Prop} (h : ∀ m a e, ok m a e → ok' m a e) {u : Rat}
    {N : Option Nat} {t : Rat} : ∀ {l : List (Rat × XR)} {S : Rat} {j : Nat},
      OkWalk ok u N t S j l → OkWalk ok' u N t S j l
  | [], _, _, _ => trivial
  | _ :: _, _, _, ⟨h1, h2, h3, h4⟩ => ⟨h _ _ _ h1, h2, h3, h4.mono h⟩

theorem okWalk_nonneg {ok : Rat → Rat → XR → Prop} {u : Rat} {N : Option Nat} {t : Rat} (x : List Rat) :
    ∀ (l : List XR) (S : Rat) (j : Nat), l.length = x.length →
      OkWalk ok u N t S j (x.zip l) → ∀ a ∈ x, 0 ≤ a := by
  induction x with
  | nil => intro _ _ _ _ _ a ha; cases ha
  | cons b x ih =>
    intro l S j hlen h a ha
    cases l with
    | nil => cases hlen
    | cons e l =>
      obtain ⟨-, h0, -, hrest⟩ := h
      rcases List.mem_cons.1 ha with rfl | ha
      · exact h0
      · exact ih l _ _ (Nat.succ.inj hlen) hrest a ha

/-- invariant of the walk: wherever the null mean is strictly inside `(0,u)`, the running product
is a non-negative rational — provided it was so at the start and every factor is non-negative
at the indices that are strictly inside -/
theorem walk_good (fac : Rat → Rat → XR → XR) (ok : Rat → Rat → XR → Prop) (u : Rat)
    (N : Option Nat) (t : Rat)
    (hfac : ∀ m a e, ok m a e → 0 < m → m < u → 0 ≤ a → a ≤ u → ∃ q : Rat, 0 ≤ q ∧ fac m a e = .fin q) :
    ∀ (l : List (Rat × XR)) (S : Rat) (j : Nat) (T : XR),
      OkWalk ok u N t S j l → Room N j l.length →
      (Zst N t u S j → ∃ q : Rat, 0 ≤ q ∧ T = .fin q) →
      ∀ p ∈ walk fac N t S j T l, 0 < p.1 → p.1 < u → ∃ q : Rat, 0 ≤ q ∧ p.2 = .fin q := by
  intro l
  induction l with
  | nil => intro S j T _ _ _ p hp; cases hp
  | cons hd rest ih =>
    intro S j T hok hroom hT p hp
    obtain ⟨a, e⟩ := hd
    obtain ⟨hoke, ha0, hau, hrest⟩ := hok
    obtain ⟨hroom1, hroom'⟩ := hroom.cons
    -- the product after this step is a non-negative rational whenever this state is inside
    have hstep : Zst N t u S j → ∃ q : Rat, 0 ≤ q ∧ T * fac (mu N t S j) a e = .fin q := by
      intro hz
      obtain ⟨q, hq, rfl⟩ := hT hz
      obtain ⟨hm0, hmu⟩ := (Zst_iff_mu hroom1).1 hz
      obtain ⟨f, hf, hfe⟩ := hfac _ _ _ hoke hm0 hmu ha0 hau
      exact ⟨q * f, mul_nonneg hq hf, by rw [hfe, XR.fin_mul]⟩
    rcases List.mem_cons.1 hp with rfl | hp
    · exact fun hm0 hmu => hstep ((Zst_iff_mu hroom1).2 ⟨hm0, hmu⟩)
    · exact ih _ _ _ hrest hroom' (fun hz => hstep (Zst_step ha0 hau hz)) p hp

/-! ### the factors are non-negative rationals strictly inside `(0,u)` -/

/-- one factor of the ALPHA martingale over rationals: observation `a`, null mean `m`, alternative `c` -/
def alphaFactorQ (u m a c : Rat) : Rat := (a * c / m + (u - a) * (u - c) / (u - m)) / u

theorem alphaExpr_fin (u m a c : Rat) (hm : m ≠ 0) (hum : u - m ≠ 0) (hu : u ≠ 0) :
    ((XR.fin a) * (.fin c) / (XR.fin m) + (XR.fin (u - a)) * ((XR.fin u) - (.fin c)) / (XR.fin (u - m))) /
      (XR.fin u) = .fin (alphaFactorQ u m a c) := by
  rw [XR.fin_mul, XR.fin_sub, XR.fin_mul, XR.fin_div _ _ hm, XR.fin_div _ _ hum, XR.fin_add,
    XR.fin_div _ _ hu, alphaFactorQ]

theorem alphaFactorX_fin (u m a q : Rat) (hm0 : 0 < m) (hmu : m < u) :
    alphaFactorX u m a (.fin q) = .fin (alphaFactorQ u m a (min u (max q m))) := by
  rw [alphaFactorX, npmax_fin, npmin_fin]
  exact alphaExpr_fin u m a _ hm0.ne' (sub_pos.2 hmu).ne' (hm0.trans hmu).ne'

theorem alphaFactorQ_nonneg (u m a c : Rat) (hm0 : 0 < m) (hmu : m < u) (ha0 : 0 ≤ a) (hau : a ≤ u)
    (hc0 : 0 ≤ c) (hcu : c ≤ u) : 0 ≤ alphaFactorQ u m a c :=
  div_nonneg
    (add_nonneg (div_nonneg (mul_nonneg ha0 hc0) hm0.le)
      (div_nonneg (mul_nonneg (sub_nonneg.2 hau) (sub_nonneg.2 hcu)) (sub_pos.2 hmu).le))
    (hm0.trans hmu).le

theorem clip_range (u m q : Rat) (hmu : m < u) : m ≤ min u (max q m) ∧ min u (max q m) ≤ u :=
  ⟨le_min hmu.le (le_max_right _ _), min_le_left _ _⟩

/-- what `alpha_mart` needs of the raw estimate: it is a finite number -/
def okAlpha (_m _a : Rat) (e : XR) : Prop := ∃ q : Rat, e = .fin q

theorem alpha_fac_good (u : Rat) : ∀ m a e, okAlpha m a e → 0 < m → m < u → 0 ≤ a → a ≤ u →
    ∃ q : Rat, 0 ≤ q ∧ alphaFactorX u m a e = .fin q := by
  rintro m a e ⟨q, rfl⟩ hm0 hmu ha0 hau
  obtain ⟨h1, h2⟩ := clip_range u m q hmu
  exact ⟨_, alphaFactorQ_nonneg u m a _ hm0 hmu ha0 hau (hm0.le.trans h1) h2, alphaFactorX_fin u m a q hm0 hmu⟩

/-- what `betting_mart` needs of the bet: a finite number in `[0, 1/m]` wherever `m > 0` -/
def okBet (m _a : Rat) (e : XR) : Prop := ∃ l : Rat, e = .fin l ∧ 0 ≤ l ∧ (0 < m → l * m ≤ 1)

theorem betFactorX_fin (m a l : Rat) : betFactorX m a (.fin l) = .fin (1 + l * (a - m)) := rfl

theorem betFactor_nonneg {m a l : Rat} (ha : 0 ≤ a) (hl0 : 0 ≤ l) (hl1 : l * m ≤ 1) :
    0 ≤ 1 + l * (a - m) := by
  have := mul_nonneg hl0 ha
  linarith

end Shangrla.NM
