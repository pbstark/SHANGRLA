/-
  Chain lemma of DESIGN.md Appendix F: for every true assertion that contradicts a complete order `π`,
  `find_best_audit` examines an assertion of the same difficulty at a suffix of `π` of length ≥ 2 (the same
  winner, loser and tallies, the eliminated set possibly listed otherwise); consequences for a leaf of the search
  tree (a complete alternative order): the cheapest examined assertion along its ancestor chain bounds every
  sufficient set from below, and if the chain has no assertion at all no audit is possible.
-/
import Shangrla.Lemmas.RaireNode
import Shangrla.Lemmas.RaireSocial
import Mathlib.Data.List.Perm.Subperm

namespace Shangrla.Raire
open Spec

-- fixed statements of this file stand in a section with instance arguments they do not all use
set_option linter.unusedSectionVars false

section Chain
variable {α : Type} [DecidableEq α] {D : Type} [DiffOrd D] [DiffOrd.Lawful D]
variable (asn : Nat → Nat → Nat → Nat → D) (C : Contest α) (cvrs : List (Option (Ballot α))) (winner : α)

theorem exists_not_mem_of_length_lt {cands t : List α} (hC : cands.Nodup) (hlen : t.length < cands.length) :
    ∃ c ∈ cands, c ∉ t :=
  Classical.byContradiction fun h => Nat.not_le_of_lt hlen
    (List.subperm_of_subset hC fun c hc => Classical.byContradiction fun hct => h ⟨c, hc, hct⟩).length_le

/-- **Chain**, the inclusion that the search needs, up to difficulty: a true assertion `a` that contradicts the
complete order `π` does so at the suffix `t` of `π` that starts with `a.winner`, and `find_best_audit` examines at `t`
an assertion `b` of the same difficulty. The witness `b` is the record that `mkNeb` / `mkNen` builds from the same
winner, loser and tallies as `a` (for NEN: with `notIn C t` for `a.eliminated`, which has the same elements). -/
theorem chain (hC : C.candidates.Nodup) (π : List α) (hπ : π.Perm C.candidates) (a : Assertion α D)
    (ha : Fam asn C cvrs a) (hc : contradicts a π) :
    ∃ t, t <:+ π ∧ 2 ≤ t.length ∧
      ∃ b, some b ∈ candAt asn C (cvrs.filterMap id) (nebTable asn C cvrs) t ∧ b.difficulty = a.difficulty := by
  obtain ⟨hw, hl, hne, hnen, ⟨hv1, hv2, hv3⟩, hd⟩ := ha
  have hlen : ∀ {post : List α}, a.loser ∈ post → 2 ≤ (a.winner :: post).length := fun h =>
    Nat.succ_le_succ (List.length_pos_of_mem h)
  unfold contradicts contra at hc
  cases hk : a.kind with
  | neb =>
    rw [hk] at hc hv1 hv2
    obtain ⟨pre, post, rfl, hlp⟩ := hc
    refine ⟨a.winner :: post, ⟨pre, rfl⟩, hlen hlp, ?_, ?_, ?_⟩
    rotate_left
    · simp only [candAt, List.mem_append, List.mem_map]
      refine Or.inl (Or.inl ⟨a.loser, hlp, ?_⟩)
      rw [nebLookup_table asn C cvrs _ _ hw hl, if_neg hne]
      unfold mkNeb
      simp only [tallies] at hv1 hv2
      simp only [← hv1, ← hv2]
      -- leaves `some ?b = some { .. }`, closed by `rfl`: this is where the witness `b` is fixed
      rw [if_pos hv3]
    · exact hd.symm
  | nen =>
    rw [hk] at hc hv1 hv2
    obtain ⟨pre, post, rfl, hE, hlp⟩ := hc
    have hset : ∀ y, y ∈ notIn C (a.winner :: post) ↔ y ∈ a.eliminated :=
      fun y => (mem_notIn_suffix hC hπ y).trans (hE y).symm
    refine ⟨a.winner :: post, ⟨pre, rfl⟩, hlen hlp, ?_, ?_, ?_⟩
    rotate_left
    · simp only [candAt, List.mem_append, List.mem_map]
      refine Or.inr ⟨a.loser, hlp, ?_⟩
      unfold mkNen
      simp only [tallies] at hv1 hv2
      simp only
      rw [tally_congr _ a.winner hset, tally_congr _ a.loser hset, ← hv1, ← hv2, if_pos hv3]
    · exact hd.symm

/-- the difficulty every sufficient set of true assertions must reach is at least `x` -/
def LeOPT (x : Diff D) : Prop :=
  ∀ S : List (Assertion α D), (∀ a ∈ S, Fam asn C cvrs a) → Sufficient C.candidates winner S →
    ∃ a ∈ S, Diff.le x (Diff.fin a.difficulty) = true

/-- some alternative order is contradicted by no true assertion: no audit is possible -/
def BadLeaf : Prop := ∃ π, Alt C.candidates winner π ∧ ∀ a : Assertion α D, Fam asn C cvrs a → ¬ contradicts a π

variable {asn C cvrs winner}

theorem LeOPT.mono {x y : Diff D} (h : LeOPT asn C cvrs winner x) (hle : Diff.le y x = true) :
    LeOPT asn C cvrs winner y := by
  intro S h1 h2
  obtain ⟨a, ha, hx⟩ := h S h1 h2
  exact ⟨a, ha, Diff.le_trans hle hx⟩

theorem leaf_alt {s : Store α D} {i : Nat} (hok : NodeOK asn C cvrs winner s i)
    (hlen : (s.get i).tail.length = C.candidates.length) : Alt C.candidates winner (s.get i).tail :=
  ⟨(List.subperm_of_subset hok.nodup hok.sub).perm_of_length_le (Nat.le_of_eq hlen.symm), hok.alt⟩

theorem leaf_bound (hC : C.candidates.Nodup) {s : Store α D} {i : Nat} (hok : NodeOK asn C cvrs winner s i)
    (hlen : (s.get i).tail.length = C.candidates.length) (a : Assertion α D) (ha : Fam asn C cvrs a)
    (hc : contradicts a (s.get i).tail) :
    Diff.le (s.get i).estimate (Diff.fin a.difficulty) = true ∨
    ∃ j, (s.get i).bestAnc = some j ∧ Diff.le (s.get j).estimate (Diff.fin a.difficulty) = true := by
  obtain ⟨t, ht, ht2, b, hb, hbd⟩ := chain asn C cvrs hC _ (leaf_alt hok hlen).1 a ha hc
  have hle := fba_estimate_le asn C (cvrs.filterMap id) (nebTable asn C cvrs) t b hb
  rw [hbd] at hle
  by_cases hl : t.length = (s.get i).tail.length
  · left
    rw [hok.est, ← ht.eq_of_length hl]; exact hle
  · right
    have hlt : t.length < (s.get i).tail.length := Nat.lt_of_le_of_ne ht.length_le hl
    cases hanc : (s.get i).bestAnc with
    | none => exact absurd (hok.ancNone hanc ▸ hlt) (Nat.not_lt.2 ht2)
    | some j => exact ⟨j, rfl, Diff.le_trans (hok.ancMin j hanc t ht ht2 hlt) hle⟩

/-- a leaf without ancestor (two-candidate contest): its own estimate is the bound -/
theorem leaf_leOPT_root (hC : C.candidates.Nodup) {s : Store α D} {i : Nat} (hok : NodeOK asn C cvrs winner s i)
    (hlen : (s.get i).tail.length = C.candidates.length) (hj : (s.get i).bestAnc = none) :
    LeOPT asn C cvrs winner (s.get i).estimate := by
  intro S h1 h2
  obtain ⟨a, ha, hc⟩ := h2 _ (leaf_alt hok hlen)
  refine ⟨a, ha, ?_⟩
  rcases leaf_bound hC hok hlen a (h1 a ha) hc with h | ⟨j', hj', _⟩
  · exact h
  · rw [hj] at hj'; cases hj'

theorem leaf_bad (hC : C.candidates.Nodup) {s : Store α D} {i : Nat} (hok : NodeOK asn C cvrs winner s i)
    (hlen : (s.get i).tail.length = C.candidates.length) (hinf : (s.get i).estimate = Diff.inf)
    (hanc : ∀ j, (s.get i).bestAnc = some j → (s.get j).estimate = Diff.inf) :
    BadLeaf asn C cvrs winner := by
  refine ⟨_, leaf_alt hok hlen, ?_⟩
  intro a ha hc
  rcases leaf_bound hC hok hlen a ha hc with h | ⟨j, hj, h⟩
  · rw [hinf] at h; cases h
  · rw [hanc j hj] at h; cases h

variable (asn C cvrs winner)

/-- (O1) the value by which `manage_node` raises the lower bound at a leaf is below every sufficient set -/
theorem leaf_leOPT (hC : C.candidates.Nodup) {s : Store α D} {i j : Nat} (hok : NodeOK asn C cvrs winner s i)
    (hlen : (s.get i).tail.length = C.candidates.length) (hj : (s.get i).bestAnc = some j) :
    LeOPT asn C cvrs winner
      (if Diff.le (s.get j).estimate (s.get i).estimate then (s.get j).estimate else (s.get i).estimate) := by
  intro S h1 h2
  obtain ⟨a, ha, hc⟩ := h2 _ (leaf_alt hok hlen)
  refine ⟨a, ha, ?_⟩
  rcases leaf_bound hC hok hlen a (h1 a ha) hc with h | ⟨j', hj', h⟩
  · split
    · rename_i hle; exact Diff.le_trans hle h
    · exact h
  · rw [hj] at hj'; cases hj'
    split
    · exact h
    · rename_i hle
      exact Diff.le_trans (Diff.le_of_not_le (Bool.eq_false_iff.2 hle)) h

end Chain
end Shangrla.Raire
