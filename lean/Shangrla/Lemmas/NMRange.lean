/-
  For the range properties (C13) of the estimators and bets of `Shangrla.NM` (the literal model of
  `shangrla/core/NonnegMean.py`): every shipped estimator / bet, under its guard, returns `.ok` of an explicit
  list, read entry by entry against the null means, and every entry is finite under the parameter guards.
  The parameters are taken as the methods resolve them (`Cfg.etaV`, …); `sqrtF` is any function with the two
  properties the driver's `sqrtRat` is shown to have at the end.
-/
import Shangrla.Lemmas.NMMart
import Mathlib.Tactic.NormNum

namespace Shangrla.XRRange
open Shangrla Shangrla.XR

/-! ### `np.minimum` / `np.maximum` with an infinite argument -/

theorem npmin_fin_pinf (a : Rat) : npmin (fin a) pinf = fin a := rfl

theorem npmin_fin_ninf (a : Rat) : npmin (fin a) ninf = ninf := rfl

theorem npmax_fin_ninf (a : Rat) : npmax (fin a) ninf = fin a := rfl

theorem npmin_pinf_fin (a : Rat) : npmin pinf (fin a) = fin a := rfl

theorem npmin_ninf_fin (a : Rat) : npmin ninf (fin a) = ninf := rfl

theorem npmin_pinf_pinf : npmin pinf pinf = pinf := rfl

theorem npmin_ninf_ninf : npmin ninf ninf = ninf := rfl

theorem npmin_pinf_ninf : npmin pinf ninf = ninf := rfl

theorem npmin_ninf_pinf : npmin ninf pinf = ninf := rfl

theorem npmax_fin_pinf (a : Rat) : npmax (fin a) pinf = pinf := rfl

end Shangrla.XRRange

namespace Shangrla.NM

/-! ### the parameters as the methods resolve them (`getattr(self, name, default)`) -/

/-- `getattr(self, "eta", u*(1-eps))` -/
def Cfg.etaV (cfg : Cfg) : Rat := cfg.kw.eta.getD (cfg.u * (1 - eps))
def Cfg.cV (cfg : Cfg) : Rat := cfg.kw.c.getD (1 / 2)
def Cfg.dV (cfg : Cfg) : Rat := cfg.kw.d.getD 100
def Cfg.fV (cfg : Cfg) : Rat := cfg.kw.f.getD 0
def Cfg.minsdV (cfg : Cfg) : Rat := cfg.kw.minsd.getD (1 / 1000000)
def Cfg.lamV (cfg : Cfg) : Rat := cfg.kw.lam.getD (1 / 2)
def Cfg.c0V (cfg : Cfg) : Rat := cfg.kw.cG0.getD (1 - eps)
def Cfg.cmV (cfg : Cfg) : Rat := cfg.kw.cGmax.getD (1 - eps)
def Cfg.cgV (cfg : Cfg) : Rat := cfg.kw.cGgrow.getD 0
def Cfg.p2V (cfg : Cfg) : Rat := cfg.kw.rateError2.getD (1 / 10000)
end Shangrla.NM

namespace Shangrla.NMRange
open Shangrla Shangrla.NM
open Shangrla.XR (fin)

theorem eps_lt_one : eps < 1 := by unfold eps; norm_num
theorem one_sub_eps_pos : 0 < 1 - eps := sub_pos.2 eps_lt_one
theorem one_sub_eps_le_one : 1 - eps ≤ 1 := sub_le_self 1 eps_pos.le

/-! ### the sample fits the population -/

/-- not more draws than the population has items (`N = np.inf`: no constraint): the denominators `N - j + 1` of the
null means stay positive -/
def LenOK (N : Option Nat) (x : List Rat) : Prop := ∀ n, N = some n → x.length ≤ n

theorem lenOK_none (x : List Rat) : LenOK none x := fun _ h => nomatch h

theorem sqrtX_fin (sqrtF : Rat → Rat) {q : Rat} (h : 0 ≤ q) : sqrtX sqrtF (fin q) = fin (sqrtF q) :=
  if_neg (not_lt.2 h)

/-! ### the null means entry by entry -/

theorem nullMeans_of_prefixSums {N : Option Nat} {t S : Rat} {j : Nat} {x : List Rat} {i : Nat} {s : Rat}
    (h : (prefixSumsFrom S x)[i]? = some s) : (nullMeansFrom N t S j x)[i]? = some (mu N t s (j + i)) := by
  rw [nullMeansFrom_eq_mapIdxFrom, mapIdxFrom_getElem?, h]; rfl

theorem prefixSums_of_nullMeans {N : Option Nat} {t S : Rat} {j : Nat} {x : List Rat} {i : Nat} {m : Rat}
    (h : (nullMeansFrom N t S j x)[i]? = some m) :
    ∃ s, (prefixSumsFrom S x)[i]? = some s ∧ m = mu N t s (j + i) := by
  rw [nullMeansFrom_eq_mapIdxFrom, mapIdxFrom_getElem?] at h
  obtain ⟨s, hs, hm⟩ := Option.map_eq_some_iff.1 h
  exact ⟨s, hs, hm.symm⟩

theorem lt_length_of_nullMeans {N : Option Nat} {t S : Rat} {j : Nat} {x : List Rat} {i : Nat} {m : Rat}
    (h : (nullMeansFrom N t S j x)[i]? = some m) : i < x.length :=
  length_nullMeansFrom N t S j x ▸ lt_length_of_getElem? h

theorem nullMeans_none {t S : Rat} {j : Nat} {x : List Rat} {i : Nat} {m : Rat}
    (h : (nullMeansFrom none t S j x)[i]? = some m) : m = t := by
  obtain ⟨s, _, hm⟩ := prefixSums_of_nullMeans h
  exact hm

theorem nullMeans_zero (N : Option Nat) (t : Rat) (a : Rat) (x : List Rat) (hN : LenOK N (a :: x)) :
    (nullMeansFrom N t 0 1 (a :: x))[0]? = some t := by
  refine congrArg some ?_
  cases N with
  | none => rfl
  | some n =>
    have hn : (n : Rat) ≠ 0 := Nat.cast_ne_zero.2 (Nat.ne_of_gt (Nat.succ_le_of_lt (Nat.succ_pos _) |>.trans (hN n rfl)))
    simp only [mu, Nat.cast_one, sub_zero, sub_add_cancel]
    exact mul_div_cancel_left₀ t hn

theorem sjm_nil (N : Option Nat) (t : Rat) : sjm N t [] = .error .index := rfl

/-! ### Welford: the running variance is non-negative -/

theorem welford_step_nonneg (xi m : Rat) (k : Nat) :
    0 ≤ (xi - m) * (xi - (m + (xi - m) / ((k + 1 : Nat) : Rat))) := by
  have hk : (1 : Rat) ≤ ((k + 1 : Nat) : Rat) := Nat.one_le_cast.2 (Nat.le_add_left 1 k)
  have h1 : 1 / ((k + 1 : Nat) : Rat) ≤ 1 := (div_le_one (one_pos.trans_le hk)).2 hk
  -- with `d = xi - m` the product is `d * d * (1 - 1/(k+1))`
  rw [← sub_sub, div_eq_mul_one_div (xi - m), ← mul_one_sub, ← mul_assoc]
  exact mul_nonneg (mul_self_nonneg _) (sub_nonneg.2 h1)

theorem welfordFrom_var_nonneg (m v : Rat) (i : Nat) (x : List Rat) (hv : 0 ≤ v) :
    ∀ w ∈ (welfordFrom m v i x).2, 0 ≤ w := by
  induction x generalizing m v i with
  | nil => intro w hw; cases hw
  | cons a x ih =>
    have hstep : 0 ≤ v + (a - m) * (a - (m + (a - m) / ((i + 1 : Nat) : Rat))) :=
      add_nonneg hv (welford_step_nonneg a m i)
    intro w hw
    rcases List.mem_cons.1 hw with rfl | hw
    · exact div_nonneg hstep (Nat.cast_nonneg _)
    · exact ih _ _ _ hstep w hw

theorem welford_var_nonneg (x : List Rat) : ∀ w ∈ (welford x).2, 0 ≤ w := by
  cases x with
  | nil => intro w hw; cases hw
  | cons a x =>
    intro w hw
    rcases List.mem_cons.1 hw with rfl | hw
    · exact le_refl _
    · exact welfordFrom_var_nonneg a 0 1 x (le_refl _) w hw

/-! ### the standard deviations used by `shrink_trunc` are finite and positive -/

/-- `sdj` of `shrink_trunc` (L313-316) -/
def sdList (sqrtF : Rat → Rat) (minsd : Rat) (x : List Rat) : List XR :=
  mapIdxFrom (fun i s => if i = 1 then (1 : XR) else s) 0
    (shiftIn (1 : XR) ((welford x).2.map (fun vi => XR.npmax (sqrtX sqrtF (.fin vi)) (.fin minsd))))

@[simp] theorem length_sdList (sqrtF : Rat → Rat) (minsd : Rat) (x : List Rat) :
    (sdList sqrtF minsd x).length = x.length := by
  simp [sdList]

theorem sdList_posFin (sqrtF : Rat → Rat) (minsd : Rat) (hm : 0 < minsd)
    (x : List Rat) : ∀ e ∈ sdList sqrtF minsd x, ∃ p : Rat, e = fin p ∧ 0 < p := by
  intro e he
  obtain ⟨k, a, ha, rfl⟩ := mem_mapIdxFrom he
  split
  · exact ⟨1, rfl, one_pos⟩
  · rcases mem_shiftIn ha with rfl | ha
    · exact ⟨1, rfl, one_pos⟩
    · obtain ⟨v, hv, rfl⟩ := List.mem_map.1 ha
      rw [sqrtX_fin sqrtF (welford_var_nonneg x v hv), XR.npmax_fin]
      exact ⟨_, rfl, lt_of_lt_of_le hm (le_max_right _ _)⟩

/-! ### closed forms of the estimators -/

/-- `fixed_alternative_mean` returns the vector of null means computed with `eta` in place of `t`, truncated above at `u` -/
theorem fixedAlternativeMean_eq (cfg : Cfg) (x : List Rat) (hx : x ≠ []) (hN : LenOK cfg.N x) :
    fixedAlternativeMean cfg x =
      .ok ((nullMeansFrom cfg.N cfg.etaV 0 1 x).map (fun mj => fin (min cfg.u mj))) := by
  unfold fixedAlternativeMean
  show (sjm cfg.N cfg.etaV x >>= _) = _
  rw [sjm_eq _ _ _ hx hN]
  simp only [min_def_lt]
  rfl

/-- one entry of `shrink_trunc` (L317-322): draw `j`, prefix sum `s`, null mean `mj`, thresholded sd `sd` -/
def stEntry (sqrtF : Rat → Rat) (u eta c d f : Rat) (j : Nat) (row : Rat × Rat × XR) : XR :=
  let (s, mj, sd) := row
  let dj : XR := .fin (d + (j : Rat) - 1)
  let weighted : XR := ((XR.fin (d * eta + s)) / dj + (XR.fin (u * f)) / sd) / ((1 : XR) + (XR.fin f) / sd)
  let lower : XR := (XR.fin mj) + (XR.fin c) / sqrtX sqrtF dj
  XR.npmin (.fin (u * (1 - eps))) (XR.npmax weighted lower)

theorem shrinkTrunc_eq (sqrtF : Rat → Rat) (cfg : Cfg) (x : List Rat) (hx : x ≠ []) (hN : LenOK cfg.N x) :
    shrinkTrunc sqrtF cfg x =
      .ok (mapIdxFrom (stEntry sqrtF cfg.u cfg.etaV cfg.cV cfg.dV cfg.fV) 1
        ((prefixSums x).zip ((nullMeansFrom cfg.N cfg.t 0 1 x).zip (sdList sqrtF cfg.minsdV x)))) := by
  unfold shrinkTrunc
  show (sjm cfg.N cfg.t x >>= _) = _
  rw [sjm_eq _ _ _ hx hN]
  rfl

/-- the shrunk estimate before truncation -/
def stWeighted (u eta d f : Rat) (j : Nat) (s p : Rat) : Rat :=
  ((d * eta + s) / (d + (j : Rat) - 1) + u * f / p) / (1 + f / p)

theorem stEntry_fin (sqrtF : Rat → Rat) (hs : ∀ q, 0 < q → 0 < sqrtF q) (u eta c d f : Rat) (hd : 0 < d)
    (hf : 0 ≤ f) (j : Nat) (hj : 1 ≤ j) (s mj p : Rat) (hp : 0 < p) :
    stEntry sqrtF u eta c d f j (s, mj, fin p) =
      fin (min (u * (1 - eps)) (max (stWeighted u eta d f j s p) (mj + c / sqrtF (d + (j : Rat) - 1)))) := by
  have hdj : 0 < d + (j : Rat) - 1 := by
    have : (1 : Rat) ≤ (j : Rat) := Nat.one_le_cast.2 hj
    linarith
  have h1 : 1 + f / p ≠ 0 := (add_pos_of_pos_of_nonneg one_pos (div_nonneg hf hp.le)).ne'
  simp only [stEntry, stWeighted, sqrtX_fin sqrtF hdj.le, XR.fin_div _ _ hdj.ne', XR.fin_div _ _ hp.ne',
    XR.fin_div _ _ (hs _ hdj).ne', XR.one_def, XR.fin_add, XR.fin_div _ _ h1, XR.npmax_fin, XR.npmin_fin]

/-- every entry of `shrink_trunc` (`d, minsd > 0`, `f ≥ 0`): the shrunk estimate `w`, raised to
`mu_j + c/sqrt(d+j-1)`, truncated at `u(1-eps)` (`i = j - 1`) -/
theorem shrinkTrunc_entry (sqrtF : Rat → Rat) (hs : ∀ q, 0 < q → 0 < sqrtF q) (cfg : Cfg) (x : List Rat)
    (hx : x ≠ []) (hN : LenOK cfg.N x) (hd : 0 < cfg.dV) (hf : 0 ≤ cfg.fV) (hmin : 0 < cfg.minsdV) :
    ∃ l, shrinkTrunc sqrtF cfg x = .ok l ∧ l.length = x.length ∧
      ∀ (i : Nat) (m : Rat), (nullMeansFrom cfg.N cfg.t 0 1 x)[i]? = some m →
        ∃ w : Rat, l[i]? = some (fin (min (cfg.u * (1 - eps))
          (max w (m + cfg.cV / sqrtF (cfg.dV + (i : Rat)))))) := by
  refine ⟨_, shrinkTrunc_eq sqrtF cfg x hx hN, by simp, fun i m hm => ?_⟩
  have hi : i < x.length := lt_length_of_nullMeans hm
  obtain ⟨s, hs'⟩ := exists_getElem? (prefixSums x) ((length_prefixSums x).symm ▸ hi)
  obtain ⟨sd, hsd⟩ := exists_getElem? (sdList sqrtF cfg.minsdV x) ((length_sdList _ _ x).symm ▸ hi)
  obtain ⟨p, rfl, hp⟩ := sdList_posFin sqrtF _ hmin x sd (List.mem_of_getElem? hsd)
  have hcast : cfg.dV + ((1 + i : Nat) : Rat) - 1 = cfg.dV + (i : Rat) := by
    rw [Nat.cast_add, Nat.cast_one]; ring
  rw [mapIdxFrom_getElem?, getElem?_zip_some hs' (getElem?_zip_some hm hsd), Option.map_some,
    stEntry_fin sqrtF hs _ _ _ _ _ hd hf (1 + i) (Nat.le_add_right 1 i) s m p hp, hcast]
  exact ⟨_, rfl⟩

theorem optimalComparison_eq (cfg : Cfg) (x : List Rat) (hu : cfg.u ≠ 1) :
    optimalComparison cfg x = .ok (List.replicate x.length (fin (min cfg.u (max 0
      ((1 - cfg.u * (1 - cfg.p2V)) / (2 - 2 * cfg.u) + cfg.u * (1 - cfg.p2V) - 1 / 2))))) := by
  have h2 : (2 : Rat) - 2 * cfg.u ≠ 0 := fun h => hu (by linarith)
  simp only [optimalComparison, if_neg h2, List.map_const', ← max_def_lt, ← min_def_lt]
  rw [min_comm]
  rfl

theorem optimalComparison_zerodiv (cfg : Cfg) (x : List Rat) (hu : cfg.u = 1) :
    optimalComparison cfg x = .error .zerodiv :=
  if_pos (by rw [hu]; norm_num)

/-! ### closed forms of the bets -/

theorem fixedBet_eq (cfg : Cfg) (x : List Rat) (lam : Rat) (h : cfg.kw.lam = some lam) :
    fixedBet cfg x = .ok (List.replicate x.length (fin lam)) := by
  simp only [fixedBet, h, List.map_const']

/-- the truncation level `c_j` of aGRAPA before draw `i+1` (L431): a rational -/
def cJ (sqrtF : Rat → Rat) (c0 cm cg : Rat) (i : Nat) : Rat :=
  c0 + (cm - c0) * (1 - 1 / (1 + cg * sqrtF (i : Rat)))

/-- one entry of `agrapa` (L431-432): index `i` (0-based), shifted raw bet `l`, adjusted null mean `ta` -/
def agEntry (sqrtF : Rat → Rat) (c0 cm cg : Rat) (i : Nat) (row : XR × XR) : XR :=
  let (l, ta) := row
  let c : XR := (XR.fin c0) + (XR.fin (cm - c0)) *
    ((1 : XR) - (1 : XR) / ((1 : XR) + (XR.fin cg) * sqrtX sqrtF (.fin (i : Rat))))
  XR.npmax (0 : XR) (XR.npmin (c / ta) l)

/-- the raw aGRAPA bets (L424-425), NaN replaced by 0 -/
def agRaw (x : List Rat) (tAdj : List XR) : List XR :=
  ((welford x).1.zip ((welford x).2.zip tAdj)).map fun (mu, s2, ta) =>
    let r : XR := ((XR.fin mu) - ta) / ((XR.fin s2) + (ta - (XR.fin mu)) * (ta - (XR.fin mu)))
    if r.isNan then (0 : XR) else r

/-- `t_adj` of `agrapa` (L419-423) -/
def agTAdj (cfg : Cfg) (x : List Rat) : List XR :=
  match cfg.N with
  | none => x.map (fun _ => XR.fin cfg.t)
  | some n => mapIdxFrom (fun i s => (XR.fin ((n : Rat) * cfg.t - s)) / (XR.fin ((n : Rat) - (i : Rat)))) 0
      (prefixSums x)

theorem agrapa_eq (sqrtF : Rat → Rat) (cfg : Cfg) (x : List Rat) (hx : x ≠ []) :
    agrapa sqrtF cfg x =
      .ok (mapIdxFrom (agEntry sqrtF cfg.c0V cfg.cmV cfg.cgV) 0
        ((shiftIn (fin cfg.lamV) (agRaw x (agTAdj cfg x))).zip (agTAdj cfg x))) := by
  rw [agrapa, if_neg (by simpa using hx)]
  rfl

theorem agrapa_nil (sqrtF : Rat → Rat) (cfg : Cfg) : agrapa sqrtF cfg [] = .error .index := rfl

theorem agTAdj_eq (cfg : Cfg) (x : List Rat) (hN : LenOK cfg.N x) :
    agTAdj cfg x = (nullMeansFrom cfg.N cfg.t 0 1 x).map fin := by
  unfold agTAdj
  apply List.ext_getElem?
  intro i
  rw [List.getElem?_map, nullMeansFrom_eq_mapIdxFrom, mapIdxFrom_getElem?]
  cases hNn : cfg.N with
  | none =>
    rw [List.getElem?_map]
    rcases Nat.lt_or_ge i x.length with hi | hi
    · obtain ⟨s, hs⟩ := exists_getElem? (prefixSumsFrom 0 x) ((length_prefixSumsFrom 0 x).symm ▸ hi)
      rw [List.getElem?_eq_getElem hi, hs]; rfl
    · rw [List.getElem?_eq_none hi, List.getElem?_eq_none ((length_prefixSumsFrom 0 x).symm ▸ hi)]; rfl
  | some n =>
    rw [mapIdxFrom_getElem?]
    cases hs : (prefixSumsFrom 0 x)[i]? with
    | none => exact (congrArg (Option.map _) hs).trans rfl
    | some s =>
      -- the denominators `N - i` and `N - j + 1` (`j = i + 1`) agree and do not vanish
      have hin : (i : Rat) < (n : Rat) :=
        Nat.cast_lt.2 (((length_prefixSumsFrom 0 x) ▸ lt_length_of_getElem? hs).trans_le (hN n hNn))
      have hden : (n : Rat) - ((1 + i : Nat) : Rat) + 1 = (n : Rat) - ((0 + i : Nat) : Rat) := by
        rw [Nat.cast_add, Nat.cast_one, Nat.zero_add]; ring
      refine (congrArg (Option.map _) hs).trans (congrArg some ?_)
      show fin (n * cfg.t - s) / fin (n - ((0 + i : Nat) : Rat)) = fin (mu (some n) cfg.t s (1 + i))
      rw [XR.fin_div _ _ (by rw [Nat.zero_add]; exact (sub_pos.2 hin).ne'), mu, hden]

@[simp] theorem length_agTAdj (cfg : Cfg) (x : List Rat) : (agTAdj cfg x).length = x.length := by
  unfold agTAdj
  cases cfg.N <;> simp

theorem length_agRaw (x : List Rat) (tAdj : List XR) (h : tAdj.length = x.length) :
    (agRaw x tAdj).length = x.length := by
  simp [agRaw, h]

theorem cJ_xr (sqrtF : Rat → Rat) (hs0 : ∀ q, 0 ≤ sqrtF q) (c0 cm cg : Rat) (hg : 0 ≤ cg) (i : Nat) :
    ((XR.fin c0) + (XR.fin (cm - c0)) *
      ((1 : XR) - (1 : XR) / ((1 : XR) + (XR.fin cg) * sqrtX sqrtF (.fin (i : Rat))))) = fin (cJ sqrtF c0 cm cg i) := by
  have h1 : (1 + cg * sqrtF (i : Rat)) ≠ 0 :=
    (add_pos_of_pos_of_nonneg one_pos (mul_nonneg hg (hs0 _))).ne'
  simp only [sqrtX_fin sqrtF (Nat.cast_nonneg i), XR.one_def, XR.fin_mul, XR.fin_add, XR.fin_div _ _ h1,
    XR.fin_sub, cJ]

theorem cJ_between (sqrtF : Rat → Rat) (hs0 : ∀ q, 0 ≤ sqrtF q) (c0 cm cg : Rat) (hg : 0 ≤ cg)
    (h0m : c0 ≤ cm) (i : Nat) : c0 ≤ cJ sqrtF c0 cm cg i ∧ cJ sqrtF c0 cm cg i ≤ cm := by
  -- `r = 1/(1 + cg sqrt i)` lies in `(0, 1]`, and `c_j = c0 + (cm - c0)(1 - r)`
  have hge : 1 ≤ 1 + cg * sqrtF (i : Rat) := le_add_of_nonneg_right (mul_nonneg hg (hs0 _))
  have hr1 : 1 / (1 + cg * sqrtF (i : Rat)) ≤ 1 := (div_le_one (one_pos.trans_le hge)).2 hge
  have hr0 : 0 ≤ 1 / (1 + cg * sqrtF (i : Rat)) := (one_div_pos.2 (one_pos.trans_le hge)).le
  have h0 : 0 ≤ cm - c0 := sub_nonneg.2 h0m
  exact ⟨le_add_of_nonneg_right (mul_nonneg h0 (sub_nonneg.2 hr1)),
    le_sub_iff_add_le'.1 (mul_le_of_le_one_right h0 (sub_le_self 1 hr0))⟩

theorem agEntry_fin (sqrtF : Rat → Rat) (hs0 : ∀ q, 0 ≤ sqrtF q) (c0 cm cg : Rat) (hg : 0 ≤ cg) (i : Nat)
    (q m : Rat) (hm : m ≠ 0) :
    agEntry sqrtF c0 cm cg i (fin q, fin m) = fin (max 0 (min (cJ sqrtF c0 cm cg i / m) q)) := by
  simp only [agEntry, cJ_xr sqrtF hs0 c0 cm cg hg i, XR.fin_div _ _ hm, XR.zero_def, XR.npmin_fin,
    XR.npmax_fin]

/-- an entry of `agrapa` whose adjusted null mean is 0 is still finite when `c_j ≠ 0` and the raw bet is -/
theorem agEntry_fin_zero (sqrtF : Rat → Rat) (hs0 : ∀ q, 0 ≤ sqrtF q) (c0 cm cg : Rat) (hg : 0 ≤ cg) (i : Nat)
    (q : Rat) (hc : cJ sqrtF c0 cm cg i ≠ 0) :
    ∃ b : Rat, agEntry sqrtF c0 cm cg i (fin q, fin 0) = fin b ∧ 0 ≤ b := by
  simp only [agEntry, cJ_xr sqrtF hs0 c0 cm cg hg i, XR.fin_div_zero, hc, ↓reduceIte, XR.zero_def]
  split
  · rw [XRRange.npmin_pinf_fin, XR.npmax_fin]; exact ⟨_, rfl, le_max_left _ _⟩
  · rw [XRRange.npmin_ninf_fin, XRRange.npmax_fin_ninf]; exact ⟨0, rfl, le_refl _⟩

/-- with a finite `t_adj` every raw aGRAPA bet is finite: the denominator `s2 + (t_adj - mean)^2` vanishes
only when the numerator does (the running variance is non-negative), and that `0/0` is replaced by 0 -/
theorem agRaw_fin (x : List Rat) (tAdj : List XR) (ht : ∀ ta ∈ tAdj, ∃ τ : Rat, ta = fin τ) :
    ∀ r ∈ agRaw x tAdj, ∃ q : Rat, r = fin q := by
  intro r hr
  obtain ⟨⟨mu, s2, ta⟩, hmem, rfl⟩ := List.mem_map.1 hr
  have h2 := (List.of_mem_zip hmem).2
  have hs2 : 0 ≤ s2 := welford_var_nonneg x s2 (List.of_mem_zip h2).1
  obtain ⟨τ, rfl⟩ := ht ta (List.of_mem_zip h2).2
  simp only [XR.fin_sub, XR.fin_mul, XR.fin_add]
  by_cases hden : s2 + (τ - mu) * (τ - mu) = 0
  · have h0 : (τ - mu) * (τ - mu) = 0 := le_antisymm (by linarith) (mul_self_nonneg _)
    have h3 : mu - τ = 0 := by rw [← neg_sub, mul_self_eq_zero.1 h0, neg_zero]
    rw [hden, h3, XR.fin_div_zero]
    exact ⟨0, rfl⟩
  · rw [XR.fin_div _ _ hden]
    exact ⟨_, rfl⟩

/-- every entry of `agrapa` on a sample that fits in the population: the rule of L431-432 applied to a
finite raw bet (the attribute `lam` at the first draw) and the null mean -/
theorem agrapa_entry (sqrtF : Rat → Rat) (cfg : Cfg) (x : List Rat) (hx : x ≠ []) (hN : LenOK cfg.N x) :
    ∃ l, agrapa sqrtF cfg x = .ok l ∧ l.length = x.length ∧
      ∀ (i : Nat) (m : Rat), (nullMeansFrom cfg.N cfg.t 0 1 x)[i]? = some m →
        ∃ q : Rat, (i = 0 → q = cfg.lamV) ∧
          l[i]? = some (agEntry sqrtF cfg.c0V cfg.cmV cfg.cgV i (fin q, fin m)) := by
  have hlenRaw : (agRaw x (agTAdj cfg x)).length = x.length := length_agRaw x _ (length_agTAdj cfg x)
  refine ⟨_, agrapa_eq sqrtF cfg x hx, by simp [hlenRaw], fun i m hm => ?_⟩
  have hta : (agTAdj cfg x)[i]? = some (fin m) := by
    rw [agTAdj_eq cfg x hN, List.getElem?_map, hm]; rfl
  have htfin : ∀ ta ∈ agTAdj cfg x, ∃ τ : Rat, ta = fin τ := by
    intro ta hta
    rw [agTAdj_eq cfg x hN] at hta
    obtain ⟨τ, _, rfl⟩ := List.mem_map.1 hta
    exact ⟨τ, rfl⟩
  -- the shifted raw bets: `lam` in front, then the finite raw bets
  obtain ⟨q, hq0, hq⟩ : ∃ q : Rat, (i = 0 → q = cfg.lamV) ∧
      (shiftIn (fin cfg.lamV) (agRaw x (agTAdj cfg x)))[i]? = some (fin q) := by
    have hi : i < (agRaw x (agTAdj cfg x)).length := hlenRaw ▸ lt_length_of_nullMeans hm
    rw [shiftIn_getElem? _ _ hi]
    cases i with
    | zero => exact ⟨_, fun _ => rfl, rfl⟩
    | succ i =>
      obtain ⟨r, hr⟩ := exists_getElem? _ (Nat.lt_of_succ_lt hi)
      obtain ⟨q, rfl⟩ := agRaw_fin x _ htfin r (List.mem_of_getElem? hr)
      exact ⟨q, fun h => absurd h (Nat.succ_ne_zero i), hr⟩
  refine ⟨q, hq0, ?_⟩
  rw [mapIdxFrom_getElem?, getElem?_zip_some hq hta, Option.map_some, Nat.zero_add]

/-! ### every entry is finite -/

theorem exists_nullMeans_of_mem {N : Option Nat} {t : Rat} {x : List Rat} {l : List XR} {e : XR}
    (hlen : l.length = x.length) (he : e ∈ l) :
    ∃ (i : Nat) (m : Rat), (nullMeansFrom N t 0 1 x)[i]? = some m ∧ l[i]? = some e := by
  obtain ⟨i, hi, rfl⟩ := List.getElem_of_mem he
  have hi' : i < (nullMeansFrom N t 0 1 x).length := by rw [length_nullMeansFrom, ← hlen]; exact hi
  exact ⟨i, _, List.getElem?_eq_getElem hi', List.getElem?_eq_getElem hi⟩

/-- finiteness of `agrapa`: for `cGgrow ≥ 0`, a sample not longer than the population (so that no denominator
`N - i` vanishes) and truncation levels `c_j ≠ 0` (e.g. `0 < cG0 ≤ cGmax`), every bet is a non-negative
rational.  (If `c_j = 0` and the null mean is exactly 0 the code computes `0/0`: the bet is NaN.) -/
theorem agrapa_all_fin (sqrtF : Rat → Rat) (hs0 : ∀ q, 0 ≤ sqrtF q) (cfg : Cfg) (x : List Rat)
    (hx : x ≠ []) (hN : LenOK cfg.N x) (hg : 0 ≤ cfg.cgV)
    (hc : ∀ i, cJ sqrtF cfg.c0V cfg.cmV cfg.cgV i ≠ 0) :
    ∃ l, agrapa sqrtF cfg x = .ok l ∧ l.length = x.length ∧ ∀ e ∈ l, ∃ b : Rat, e = fin b ∧ 0 ≤ b := by
  obtain ⟨l, hl, hlen, h⟩ := agrapa_entry sqrtF cfg x hx hN
  refine ⟨l, hl, hlen, fun e he => ?_⟩
  obtain ⟨i, m, hm, hi⟩ := exists_nullMeans_of_mem hlen he
  obtain ⟨q, _, hq⟩ := h i m hm
  rw [hi, Option.some.injEq] at hq
  rw [hq]
  by_cases hm0 : m = 0
  · rw [hm0]; exact agEntry_fin_zero sqrtF hs0 _ _ _ hg i q (hc i)
  · exact ⟨_, agEntry_fin sqrtF hs0 _ _ _ hg i q m hm0, le_max_left _ _⟩

theorem shrinkTrunc_all_fin (sqrtF : Rat → Rat) (hs : ∀ q, 0 < q → 0 < sqrtF q) (cfg : Cfg) (x : List Rat)
    (hx : x ≠ []) (hN : LenOK cfg.N x) (hd : 0 < cfg.dV) (hf : 0 ≤ cfg.fV) (hmin : 0 < cfg.minsdV) :
    ∃ l, shrinkTrunc sqrtF cfg x = .ok l ∧ l.length = x.length ∧ ∀ e ∈ l, ∃ q : Rat, e = fin q := by
  obtain ⟨l, hl, hlen, h⟩ := shrinkTrunc_entry sqrtF hs cfg x hx hN hd hf hmin
  refine ⟨l, hl, hlen, fun e he => ?_⟩
  obtain ⟨i, m, hm, hi⟩ := exists_nullMeans_of_mem hlen he
  obtain ⟨w, hw⟩ := h i m hm
  rw [hi, Option.some.injEq] at hw
  exact ⟨_, hw⟩

theorem fixedAlternativeMean_all_fin (cfg : Cfg) (x : List Rat) (hx : x ≠ []) (hN : LenOK cfg.N x) :
    ∃ l, fixedAlternativeMean cfg x = .ok l ∧ l.length = x.length ∧ ∀ e ∈ l, ∃ q : Rat, e = fin q := by
  refine ⟨_, fixedAlternativeMean_eq cfg x hx hN, by simp, fun e he => ?_⟩
  obtain ⟨m, _, rfl⟩ := List.mem_map.1 he
  exact ⟨_, rfl⟩

theorem optimalComparison_all_fin (cfg : Cfg) (x : List Rat) (hu : cfg.u ≠ 1) :
    ∃ l, optimalComparison cfg x = .ok l ∧ l.length = x.length ∧ ∀ e ∈ l, ∃ q : Rat, e = fin q :=
  ⟨_, optimalComparison_eq cfg x hu, List.length_replicate, fun _ he => ⟨_, (List.mem_replicate.1 he).2⟩⟩

/-! ### the driver's square root satisfies the hypotheses made on `sqrtF` -/

theorem sqrtRat_nonneg (q : Rat) : 0 ≤ sqrtRat q := by
  unfold sqrtRat
  split
  · exact le_refl _
  · exact div_nonneg (Nat.cast_nonneg _) (Nat.cast_nonneg _)

theorem sqrtRat_pos (q : Rat) (hq : 0 < q) : 0 < sqrtRat q := by
  unfold sqrtRat
  rw [if_neg (not_le.mpr hq)]
  have hn : 0 < q.num.toNat := Int.pos_iff_toNat_pos.1 (Rat.num_pos.mpr hq)
  have hk : 0 < 10 ^ 30 := by norm_num   -- the scale of `sqrtRat`: 30 decimal digits
  exact div_pos (Nat.cast_pos.2 (Nat.sqrt_pos.2 (Nat.mul_pos (Nat.mul_pos (Nat.mul_pos hn q.den_pos) hk) hk)))
    (Nat.cast_pos.2 (Nat.mul_pos q.den_pos hk))

end Shangrla.NMRange
