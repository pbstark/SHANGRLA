/-
  The phantom list that the style branch of `Shangrla.Phantoms.makePhantoms` (`CVR.make_phantoms`, Audit.py L698-713)
  builds, in closed form (`closed`), for distinct contest ids.  Core Lean + `Std.Data.String.ToNat` (injectivity
  of `Nat.repr`, for the distinctness of the phantoms' identifiers).
-/
import Shangrla.Model.Phantoms
import Shangrla.Lemmas.Sampling
import Std.Data.String.ToNat

namespace Shangrla.Phantoms
open Shangrla.Sampling (ContestId Contest inj_of_nodup_map)

theorem filter_lt_range' {M n : Nat} (h : n ≤ M) :
    (List.range' 0 M).filter (fun k => decide (k < n)) = List.range' 0 n := by
  have happ := @List.range'_append_1 0 n (M - n)
  rw [Nat.zero_add, Nat.add_sub_cancel' h] at happ
  rw [← happ, List.filter_append,
    List.filter_eq_self.2 fun k hk => decide_eq_true (Nat.zero_add n ▸ (List.mem_range'_1.1 hk).2),
    List.filter_eq_nil_iff.2 fun k hk => by
      rw [decide_eq_true_eq]; exact Nat.not_lt.2 (List.mem_range'_1.1 hk).1,
    List.append_nil]

/-- shortfall of a contest after `setParams`: `con.cards - con.cvrs` (0 when negative) -/
def needed (con : Contest) : Nat := (con.cards.getD 0) - con.cvrs

/-- the number of phantoms the style branch creates: the largest shortfall over the contests -/
def maxNeeded (cons : List Contest) : Nat := cons.foldl (fun m con => max m (needed con)) 0

/-- the `k`-th phantom after the contests `done` have been processed -/
def phantomAt (pfx : String) (done : List Contest) (k : Nat) : Rec :=
  { id := pfx ++ toString (k + 1),
    styles := (done.filter (fun con => decide (k < needed con))).map (·.id),
    phantom := true }

/-- the phantom list after the style loop has processed the contests `done`, in closed form: as many phantoms as
the largest shortfall so far, the `k`-th listing the contests whose shortfall exceeds `k` -/
def closed (pfx : String) (done : List Contest) : List Rec :=
  (List.range' 0 (maxNeeded done)).map (phantomAt pfx done)

theorem grow_eq (pfx : String) (m : Nat) : ∀ (ph : List Rec),
    grow pfx m ph = ph ++ (List.range' ph.length m).map (mkPhantom pfx) := by
  induction m with
  | zero => exact fun ph => (List.append_nil ph).symm
  | succ m ih =>
    intro ph
    rw [grow, ih, List.length_append, List.length_singleton, List.append_assoc]; rfl

theorem markFirst_map_range' (c : ContestId) (f : Nat → Rec) (N : Nat) : ∀ (n s : Nat),
    markFirst c n ((List.range' s N).map f) =
      (List.range' s N).map (fun k => if k < s + n then listContest c (f k) else f k) := by
  induction N with
  | zero => intro n s; cases n <;> rfl
  | succ N ih =>
    intro n s
    cases n with
    | zero => exact List.map_congr_left fun k hk => (if_neg (Nat.not_lt.2 (List.mem_range'_1.1 hk).1)).symm
    | succ n =>
      rw [List.range'_succ, List.map_cons, List.map_cons, markFirst, ih n (s + 1),
        if_pos (Nat.lt_add_of_pos_right (Nat.succ_pos n)), Nat.add_right_comm s 1 n]
      rfl

theorem maxNeeded_append (done : List Contest) (con : Contest) :
    maxNeeded (done ++ [con]) = max (maxNeeded done) (needed con) := by
  unfold maxNeeded; rw [List.foldl_append]; rfl

theorem foldl_max_ge (cons : List Contest) : ∀ (m : Nat),
    m ≤ cons.foldl (fun m con => max m (needed con)) m ∧
    ∀ con ∈ cons, needed con ≤ cons.foldl (fun m con => max m (needed con)) m := by
  induction cons with
  | nil => exact fun m => ⟨Nat.le_refl m, fun _ h => nomatch h⟩
  | cons x xs ih =>
    intro m
    obtain ⟨h1, h2⟩ := ih (max m (needed x))
    refine ⟨Nat.le_trans (Nat.le_max_left ..) h1, fun con hm => ?_⟩
    rcases List.mem_cons.1 hm with rfl | hm
    · exact Nat.le_trans (Nat.le_max_right ..) h1
    · exact h2 con hm

theorem needed_le_maxNeeded (cons : List Contest) (con : Contest) (hm : con ∈ cons) :
    needed con ≤ maxNeeded cons := (foldl_max_ge cons 0).2 con hm

theorem phantomAt_of_ge {pfx : String} {done : List Contest} {k : Nat} (h : maxNeeded done ≤ k) :
    phantomAt pfx done k = mkPhantom pfx k := by
  unfold phantomAt mkPhantom
  rw [List.filter_eq_nil_iff.2 fun c hc => by
    rw [decide_eq_true_eq]; exact Nat.not_lt.2 (Nat.le_trans (needed_le_maxNeeded done c hc) h)]
  rfl

theorem phantomAt_append {pfx : String} {done : List Contest} {con : Contest} (hnew : con.id ∉ done.map (·.id))
    (k : Nat) :
    phantomAt pfx (done ++ [con]) k =
      if k < needed con then listContest con.id (phantomAt pfx done k) else phantomAt pfx done k := by
  unfold phantomAt
  rw [List.filter_append, List.map_append, List.filter_cons, List.filter_nil]
  by_cases hk : k < needed con
  · have hnot : ((done.filter (fun c => decide (k < needed c))).map (·.id)).contains con.id = false := by
      rw [List.contains_eq_mem, decide_eq_false_iff_not]
      exact fun hm => hnew ((List.filter_sublist.map _).subset hm)
    rw [if_pos hk, if_pos (decide_eq_true hk), listContest, hnot]
    rfl
  · rw [if_neg hk, if_neg (fun h => hk (of_decide_eq_true h)), List.map_nil, List.append_nil]

theorem styleStep_closed (pfx : String) (done : List Contest) (con : Contest)
    (hnew : con.id ∉ done.map (·.id)) :
    styleStep pfx (closed pfx done) con = closed pfx (done ++ [con]) := by
  have hgrown : grow pfx (needed con - (closed pfx done).length) (closed pfx done)
      = (List.range' 0 (max (maxNeeded done) (needed con))).map (phantomAt pfx done) := by
    have hlen : (closed pfx done).length = maxNeeded done := by
      unfold closed; rw [List.length_map, List.length_range']
    have happ := @List.range'_append_1 0 (maxNeeded done) (needed con - maxNeeded done)
    rw [Nat.zero_add, Nat.add_comm, Nat.sub_add_eq_max, Nat.max_comm] at happ
    rw [grow_eq, hlen, closed, ← happ, List.map_append]
    exact congrArg _ (List.map_congr_left fun k hk => (phantomAt_of_ge (List.mem_range'_1.1 hk).1).symm)
  show markFirst con.id (needed con) (grow pfx (needed con - (closed pfx done).length) (closed pfx done)) = _
  rw [hgrown, markFirst_map_range', closed, maxNeeded_append, Nat.zero_add]
  exact List.map_congr_left fun k _ => (phantomAt_append hnew k).symm

theorem foldl_styleStep_closed (pfx : String) (rest : List Contest) : ∀ (done : List Contest),
    ((done ++ rest).map (·.id)).Nodup →
    rest.foldl (styleStep pfx) (closed pfx done) = closed pfx (done ++ rest) := by
  induction rest with
  | nil => intro done _; rw [List.append_nil]; rfl
  | cons con rest ih =>
    intro done hnd
    have happ : done ++ con :: rest = (done ++ [con]) ++ rest := (List.append_cons ..)
    have hnew : con.id ∉ done.map (·.id) := fun hm => by
      rw [List.map_append, List.nodup_append] at hnd
      exact hnd.2.2 _ hm con.id List.mem_cons_self rfl
    rw [List.foldl_cons, styleStep_closed pfx done con hnew, happ]
    exact ih (done ++ [con]) (happ ▸ hnd)

theorem style_phantoms (pfx : String) (cons : List Contest) (hid : (cons.map (·.id)).Nodup) :
    cons.foldl (styleStep pfx) [] = closed pfx cons :=
  foldl_styleStep_closed pfx cons [] hid

theorem phantomAt_has {pfx : String} {cons : List Contest} (hid : (cons.map (·.id)).Nodup) {con : Contest}
    (hm : con ∈ cons) (k : Nat) : (phantomAt pfx cons k).has con.id = decide (k < needed con) := by
  unfold Rec.has phantomAt
  rw [Bool.eq_iff_iff, List.contains_iff_mem, List.mem_map, decide_eq_true_eq]
  constructor
  · rintro ⟨c, hc, he⟩
    rw [List.mem_filter] at hc
    exact inj_of_nodup_map hid c hc.1 con hm he ▸ of_decide_eq_true hc.2
  · exact fun hk => ⟨con, List.mem_filter.2 ⟨hm, decide_eq_true hk⟩, rfl⟩

theorem count_closed (pfx : String) (cons : List Contest) (hid : (cons.map (·.id)).Nodup) (con : Contest)
    (hm : con ∈ cons) : ((closed pfx cons).filter (fun r => r.has con.id)).length = needed con := by
  unfold closed
  rw [List.filter_map, List.length_map,
    List.filter_congr (p := (fun r : Rec => r.has con.id) ∘ phantomAt pfx cons) fun k _ => phantomAt_has hid hm k,
    filter_lt_range' (needed_le_maxNeeded cons con hm), List.length_range']

theorem closed_styles (pfx : String) (cons : List Contest) (r : Rec) (hr : r ∈ closed pfx cons) :
    r.phantom = true ∧ ∀ c ∈ r.styles, c ∈ cons.map (·.id) := by
  obtain ⟨k, _, rfl⟩ := List.mem_map.1 hr
  exact ⟨rfl, fun c hc => (List.filter_sublist.map _).subset hc⟩

/-- phantoms numbered by position: the `k`-th identifier is `prefix ++ str(k+1)`, and `Nat.repr` is injective -/
theorem ids_of_range (pfx : String) (f : Nat → Rec) (hf : ∀ k, (f k).id = pfx ++ toString (k + 1)) (N : Nat) :
    (∀ (k : Nat) (r : Rec), ((List.range' 0 N).map f)[k]? = some r → r.id = pfx ++ toString (k + 1)) ∧
    (((List.range' 0 N).map f).map (·.id)).Nodup := by
  constructor
  · intro k r hk
    rw [List.getElem?_map] at hk
    obtain ⟨j, hj, rfl⟩ := Option.map_eq_some_iff.1 hk
    obtain ⟨hlt, hj⟩ := List.getElem?_eq_some_iff.1 hj
    rw [List.getElem_range', Nat.zero_add, Nat.one_mul] at hj
    rw [hf, hj]
  · rw [List.map_map]
    refine List.Pairwise.map _ (fun a b hab h => hab ?_) (List.nodup_range' (s := 0) (n := N))
    rw [Function.comp, Function.comp, hf, hf, String.append_right_inj] at h
    exact Nat.succ.inj (Nat.repr_inj.1 h)

end Shangrla.Phantoms
