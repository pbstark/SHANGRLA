/-
  From the loop invariants to the result of `computeRaireAssertions`: the initial frontier establishes
  the invariant, at exit every frontier node carries an assertion, and de-duplication / sorting /
  subsumption keep truth and sufficiency.
-/
import Shangrla.Lemmas.RaireLoop
import Shangrla.Lemmas.RairePost

namespace Shangrla.Raire
open Spec

-- fixed statements of this file stand in a section with instance arguments they do not all use
set_option linter.unusedSectionVars false

section Main
variable {α : Type} [DecidableEq α] {D : Type} [DiffOrd D] [DiffOrd.Lawful D]
variable (asn : Nat → Nat → Nat → Nat → D) (C : Contest α) (cvrs : List (Option (Ballot α))) (winner : α)

/-! ### the initial frontier -/

/-- a tail `[d, c]` of the initial frontier -/
def InitTail (t : List α) : Prop :=
  ∃ d c, t = [d, c] ∧ c ≠ winner ∧ d ≠ c ∧ d ∈ C.candidates ∧ c ∈ C.candidates

theorem mem_initTails (t : List α) : t ∈ initTails C winner ↔ InitTail C winner t := by
  unfold initTails InitTail
  simp only [List.mem_flatMap]
  constructor
  · rintro ⟨c, hc, h⟩
    split at h
    · cases h
    · rename_i hcw
      simp only [List.mem_filterMap] at h
      obtain ⟨d, hd, h⟩ := h
      split at h
      · cases h
      · rename_i hcd
        simp only [Option.some.injEq] at h
        exact ⟨d, c, h.symm, hcw, fun h => hcd h.symm, hd, hc⟩
  · rintro ⟨d, c, rfl, hcw, hdc, hd, hc⟩
    refine ⟨c, hc, ?_⟩
    rw [if_neg hcw]
    simp only [List.mem_filterMap]
    exact ⟨d, hd, by rw [if_neg (fun h => hdc h.symm)]⟩

/-- (S1) for the node that `initLoop` creates for the tail `[d, c]` -/
theorem init_ok {s : Store α D} {i : Nat} {d c : α} (hcw : c ≠ winner) (hdc : d ≠ c) (hd : d ∈ C.candidates)
    (hc : c ∈ C.candidates) {e : Bool} (he : e = true → 2 < C.candidates.length)
    (hn : s.get i = ⟨[d, c], (fbaOf asn C cvrs [d, c]).1, none, e, (fbaOf asn C cvrs [d, c]).2, [], false⟩) :
    NodeOK asn C cvrs winner s i := by
  refine ⟨?_, ?_, ?_, ?_, ?_, ?_, ?_, ?_, ?_, ?_⟩ <;> rw [hn]
  · simp [hdc]
  · intro y hy
    simp only [List.mem_cons, List.not_mem_nil, or_false] at hy
    rcases hy with rfl | rfl <;> assumption
  · exact Nat.le_refl 2
  · exact ⟨[d], c, rfl, hcw⟩
  · exact he
  · intro j hj; cases hj
  · intro j hj; cases hj
  · intro _; rfl

/-- the loop that creates the initial frontier, one node per tail `[d, c]`: it returns early only with a
two-candidate leaf without assertion; otherwise (S1), (S3), (O1)-(O3) are kept, the lower bound stays, every order
ending in one of the tails is covered, and each node adds at most one weight `W (N - 2)` -/
theorem initLoop_spec (hC : C.candidates.Nodup) (hn : 2 ≤ C.candidates.length) :
    ∀ (ts : List (List α)) (st : St α D) (r : Option (St α D)),
    initLoop asn C (cvrs.filterMap id) (nebTable asn C cvrs) ts st = r →
    (∀ t ∈ ts, InitTail C winner t) → StoreOK asn C cvrs winner st.store → FInv asn C cvrs winner st →
    match r with
    | none => BadLeaf asn C cvrs winner
    | some st' =>
      StoreOK asn C cvrs winner st'.store ∧ FInv asn C cvrs winner st' ∧ st'.lb = st.lb ∧
      (∀ π, SC st π → SC st' π) ∧ (∀ t ∈ ts, ∀ π, t <:+ π → SC st' π) ∧
      Phi C st' ≤ Phi C st + ts.length * W C.candidates.length (C.candidates.length - 2) := by
  intro ts
  induction ts with
  | nil =>
    intro st r h _ hok hF
    simp only [initLoop] at h
    subst h
    exact ⟨hok, hF, rfl, fun _ h => h, by simp, by simp⟩
  | cons t ts ih =>
    intro st r h hts hok hF
    obtain ⟨d, c, rfl, hcw, hdc, hd, hc⟩ := hts _ List.mem_cons_self
    rw [initLoop] at h
    simp only at h
    let newn : Node α D := ⟨[d, c], (findBestAudit asn C (cvrs.filterMap id) (nebTable asn C cvrs) [d, c]).1, none,
      decide (C.candidates.length > 2), (findBestAudit asn C (cvrs.filterMap id) (nebTable asn C cvrs) [d, c]).2,
      [], false⟩
    -- `newn` as the last node of a store; if it is not expandable it is a leaf
    have hnk : ∀ s : Store α D, NodeOK asn C cvrs winner (s.push newn) s.size := fun s =>
      init_ok asn C cvrs winner hcw hdc hd hc of_decide_eq_true (Store.get_push_eq s newn)
    have hlen : newn.expandable = false → ∀ s : Store α D,
        (Store.get (s.push newn) s.size).tail.length = C.candidates.length := by
      intro hexp s
      rw [Store.get_push_eq]
      exact Nat.le_antisymm hn (Nat.le_of_not_lt (of_decide_eq_false hexp))
    have hbe : newn.estimate = Diff.inf ↔ newn.best = none := fba_inf_iff asn C _ _ [d, c]
    by_cases hcond : (!newn.expandable && newn.best.isNone) = true
    · -- two candidates and no assertion for `[d, c]`: the early `return []`
      rw [if_pos hcond] at h
      subst h
      simp only [Bool.and_eq_true, Bool.not_eq_true', Option.isNone_iff_eq_none] at hcond
      refine leaf_bad hC (hnk #[]) (hlen hcond.1 #[]) ?_ ?_ <;> rw [Store.get_push_eq]
      · exact hbe.2 hcond.2
      · intro j hj; cases hj
    · rw [if_neg hcond] at h
      have hold := fun k (hk : k < st.store.size) => Store.get_push_lt st.store newn hk
      have hnew := Store.get_push_eq st.store newn
      have hE := ext_push st.store newn
      have hsz : (st.store.push newn).size = st.store.size + 1 := Array.size_push _
      have hnk1 := hnk st.store
      have hlen1 := fun hx => hlen hx st.store
      generalize st.store.push newn = s1 at h hold hnew hE hsz hnk1 hlen1
      have hF1 : FInv asn C cvrs winner ⟨s1, st.fr, st.lb⟩ :=
        hF.ext hE (fun k hk hx => Or.inl (by rw [hold k (hF.inRange k hk)] at hx; exact hx))
      -- a node that is not expandable is a leaf with an assertion
      have hrec := ih _ r h (fun t ht => hts t (List.mem_cons_of_mem _ ht)) (hok.succ hE hsz hnk1)
        (hF1.insertNode st.store.size (hsz ▸ Nat.lt_succ_self _) (fun hexp => by
          have hopt := leaf_leOPT_root hC hnk1 (hlen1 (hnew ▸ hexp)) (by rw [hnew])
          rw [hnew] at hexp hopt ⊢
          exact ⟨fun hinf => hcond (by rw [hexp, hbe.1 hinf]; rfl), hopt⟩))
      cases r with
      | none => exact hrec
      | some st' =>
        obtain ⟨hok', hF', hlb', hkeep', hcov', hPhi'⟩ := hrec
        refine ⟨hok', hF', hlb', fun π hsc => hkeep' π ?_, ?_, ?_⟩
        · exact (hsc.ext hE hF.inRange fun x hx c hc => Or.inl (hold x (hF.inRange x hx) ▸ hc)).insertNode _
            (LB.le_refl _)
        · intro t ht π hπ
          rcases List.mem_cons.1 ht with rfl | ht
          · exact hkeep' π ⟨st.store.size, (mem_insertNode _ _ _ _).2 (Or.inl rfl), by rw [hnew]; exact hπ,
              Or.inr (by rw [hnew]; exact fun _ hc' => nomatch hc')⟩
          · exact hcov' t ht π hπ
        · have h2 : wt C.candidates.length (Store.get s1 st.store.size) st.lb ≤
              W C.candidates.length (C.candidates.length - 2) := by
            rw [hnew]; exact wt_le_W C.candidates.length newn st.lb hn
          rw [List.length_cons, Nat.succ_mul, Nat.add_comm _ (W _ _), ← Nat.add_assoc]
          exact Nat.le_trans hPhi' (Nat.add_le_add_right (Nat.le_trans (Nat.le_of_eq (Phi_insert C _ _ _ _))
            (Nat.add_le_add (Phi_ext C hE hF.inRange) h2)) _)

theorem alt_initTail (hC : C.candidates.Nodup) (hn : 2 ≤ C.candidates.length) {π : List α}
    (hπ : Alt C.candidates winner π) : ∃ t, InitTail C winner t ∧ t <:+ π := by
  obtain ⟨hperm, pre, c, rfl, hcw⟩ := hπ
  obtain ⟨d, hsuf, hd, hdc⟩ := alt_through hC hperm (List.suffix_append pre [c]) hn
  exact ⟨[d, c], ⟨d, c, rfl, hcw, fun h => hdc (h ▸ List.mem_singleton_self c), hd,
    hperm.mem_iff.1 (List.mem_append_right _ (List.mem_singleton_self c))⟩, hsuf⟩

/-- a number of iterations of the main loop that always suffices: a strict upper bound of the measure of the initial
state (`init_inv`) -/
def raireFuel : Nat :=
  (initTails C winner).length * W C.candidates.length (C.candidates.length - 2) + 1

/-- the initial frontier satisfies the loop invariant (every alternative order ends in an initial tail), with
the sentinel as lower bound and a measure below `raireFuel` -/
theorem init_inv (hC : C.candidates.Nodup) (hn : 2 ≤ C.candidates.length) :
    match initLoop asn C (cvrs.filterMap id) (nebTable asn C cvrs) (initTails C winner) ⟨#[], [], none⟩ with
    | none => BadLeaf asn C cvrs winner
    | some st0 => Inv asn C cvrs winner st0 ∧ st0.lb = none ∧ Phi C st0 < raireFuel C winner := by
  have hok0 : StoreOK asn C cvrs winner (#[] : Store α D) := fun id hid => by simp at hid
  have hF0 : FInv asn C cvrs winner (⟨#[], [], none⟩ : St α D) :=
    ⟨by simp, by simp, List.Pairwise.nil, (by intro h; cases h), (by intro x hx; cases hx), by simp,
     List.Pairwise.nil⟩
  have := initLoop_spec asn C cvrs winner hC hn _ _ _ rfl
    (fun t ht => (mem_initTails C winner t).1 ht) hok0 hF0
  cases hi : initLoop asn C (cvrs.filterMap id) (nebTable asn C cvrs) (initTails C winner) ⟨#[], [], none⟩ with
  | none => rw [hi] at this; exact this
  | some st0 =>
    rw [hi] at this
    obtain ⟨hok0', hF0', hlb0, _, hcov0, hPhi0⟩ := this
    refine ⟨⟨hok0', hF0', ?_⟩, hlb0, ?_⟩
    · intro π hπ
      obtain ⟨t, ht, hsuf⟩ := alt_initTail C winner hC hn hπ
      exact hcov0 t ((mem_initTails C winner t).2 ht) π hsuf
    · have : Phi C (⟨#[], [], none⟩ : St α D) = 0 := rfl
      rw [this] at hPhi0
      unfold raireFuel
      omega

/-! ### at exit every frontier node carries an assertion -/

variable {asn C cvrs winner}

/-- what FBA-sound gives for a frontier node with a finite estimate -/
theorem node_assertion (hC : C.candidates.Nodup) {s : Store α D} {i : Nat}
    (hok : NodeOK asn C cvrs winner s i) (hfin : (s.get i).estimate ≠ Diff.inf) :
    ∃ a, (s.get i).best = some a ∧ Fam asn C cvrs a ∧ (s.get i).estimate = Diff.fin a.difficulty ∧
      CoversTail C.candidates a (s.get i).tail ∧
      (∀ r ∈ a.rulesOut, r = (s.get i).tail) ∧ (a.kind = .nen → (s.get i).tail ∈ a.rulesOut) := by
  have hb := hok.best
  have he := hok.est
  unfold fbaOf at hb he
  cases hba : (findBestAudit asn C (cvrs.filterMap id) (nebTable asn C cvrs) (s.get i).tail).1 with
  | none =>
    rw [fba_estimate, hba] at he
    exact absurd he hfin
  | some a =>
    obtain ⟨h1, h2, h3, first, rest, h4, h5⟩ := fba_sound asn C hC cvrs (s.get i).tail hok.nodup hok.sub a hba
    refine ⟨a, by rw [hb, hba], h1, by rw [he, h2], h3, fun r hr => ?_, fun hk => ?_⟩
    · rcases h5 with ⟨_, h, _⟩ | ⟨_, h, _⟩
      · rw [h] at hr; cases hr
      · rw [h, ← h4] at hr; exact List.mem_singleton.1 hr
    · rcases h5 with ⟨hk', _⟩ | ⟨_, h, _⟩
      · rw [hk] at hk'; cases hk'
      · rw [h, h4]; exact List.mem_singleton_self _

theorem fam_of_core {a b : Assertion α D} (hc : core a = core b) (h : Fam asn C cvrs b) : Fam asn C cvrs a := by
  obtain ⟨c1, c2, c3, c4, c5, c6, c7⟩ := core_fields hc
  unfold Fam holds at h ⊢
  rw [c1, c2, c3, c4, c5, c6, c7]; exact h

/-- the de-duplication loop (raire.py L278-286) over the frontier nodes `ids`, started with `acc`: the result rules
out the tails `acc` had to rule out and those of the nodes; its members are true; each is, up to `rules_out`, a
member of `acc` or the assertion of a node.  Induction on `ids`: one step is `PostInv.dedupeInsert` for the node's
assertion, which `node_assertion` shows true and covering the node's tail. -/
theorem dedupe_spec (hC : C.candidates.Nodup) (s : Store α D) : ∀ (ids : List Nat) (acc L : List (Assertion α D))
    (T : List α → Prop),
    dedupe s ids acc = Res.ok L → PostInv C.candidates acc T →
    (∀ id ∈ ids, NodeOK asn C cvrs winner s id ∧ (s.get id).estimate ≠ Diff.inf) →
    (∀ y ∈ acc, Fam asn C cvrs y) →
    PostInv C.candidates L (fun u => T u ∨ ∃ id ∈ ids, u = (s.get id).tail) ∧
    (∀ y ∈ L, Fam asn C cvrs y) ∧
    (∀ y ∈ L, (∃ z ∈ acc, core y = core z) ∨ ∃ id ∈ ids, ∃ a, (s.get id).best = some a ∧ core y = core a) := by
  intro ids
  induction ids with
  | nil =>
    intro acc L T h hP _ hfam
    simp only [dedupe, Res.ok.injEq] at h
    subst h
    refine ⟨⟨hP.good, hP.ro, fun t ht => ?_⟩, hfam, fun y hy => Or.inl ⟨y, hy, rfl⟩⟩
    rcases ht with ht | ⟨id, hid, _⟩
    · exact hP.need t ht
    · cases hid
  | cons id ids ih =>
    intro acc L T h hP hids hfam
    obtain ⟨hnok, hfin⟩ := hids id List.mem_cons_self
    obtain ⟨a, ha, hafam, _, hcov, hro, hnen⟩ := node_assertion hC hnok hfin
    rw [dedupe, ha] at h
    simp only at h
    have hP' := hP.dedupeInsert a (s.get id).tail ⟨hafam.1, hafam.2.1, hafam.2.2.1⟩
      (fun r hr => hro r hr ▸ hcov) hcov hnen
    have hfam' : ∀ y ∈ dedupeInsert a acc, Fam asn C cvrs y := by
      intro y hy
      rcases dedupeInsert_core a acc y hy with hc | ⟨z, hz, hc⟩
      · exact fam_of_core hc hafam
      · exact fam_of_core hc (hfam z hz)
    obtain ⟨j1, j2, j3⟩ := ih _ L _ h hP' (fun i hi => hids i (List.mem_cons_of_mem _ hi)) hfam'
    refine ⟨⟨j1.good, j1.ro, ?_⟩, j2, ?_⟩
    · intro t ht
      apply j1.need
      rcases ht with ht | ⟨i, hi, rfl⟩
      · exact Or.inl (Or.inl ht)
      · simp only [List.mem_cons] at hi
        rcases hi with rfl | hi
        · exact Or.inl (Or.inr rfl)
        · exact Or.inr ⟨i, hi, rfl⟩
    · intro y hy
      rcases j3 y hy with ⟨z, hz, hc⟩ | ⟨i, hi, b, hb, hc⟩
      · rcases dedupeInsert_core a acc z hz with hc' | ⟨z', hz', hc'⟩
        · exact Or.inr ⟨id, List.mem_cons_self, a, ha, hc.trans hc'⟩
        · exact Or.inl ⟨z', hz', hc.trans hc'⟩
      · exact Or.inr ⟨i, List.mem_cons_of_mem _ hi, b, hb, hc⟩

/-- the de-duplication loop raises no AttributeError when every frontier node carries an assertion -/
theorem dedupe_ok (s : Store α D) : ∀ (ids : List Nat) (acc : List (Assertion α D)),
    (∀ i ∈ ids, (s.get i).best ≠ none) → ∃ L, dedupe s ids acc = Res.ok L := by
  intro ids
  induction ids with
  | nil => intro acc _; exact ⟨acc, rfl⟩
  | cons i ids ih =>
    intro acc h
    cases hb : (s.get i).best with
    | none => exact absurd hb (h i List.mem_cons_self)
    | some a =>
      rw [dedupe, hb]
      exact ih _ (fun j hj => h j (List.mem_cons_of_mem _ hj))

variable (asn C cvrs winner)

/-- an `agap` test that is false when the largest estimate on the frontier is `inf` (`inf - lowerbound` is
`inf` or `nan`, never `<= agap` for a finite `agap`) -/
def GapOK (gap : Diff D → Diff D → Bool) : Prop := ∀ l, gap Diff.inf l = false

theorem gapOK_noGap : GapOK (noGap : Diff D → Diff D → Bool) := fun _ => rfl

theorem exitG_all_finite {gap : Diff D → Diff D → Bool} (hgap : GapOK gap) {st : St α D}
    (h : ExitG asn C cvrs winner gap st) :
    ∀ id ∈ st.fr, (st.store.get id).estimate ≠ Diff.inf := by
  obtain ⟨hI, te, rest, hfr, hne | hg⟩ := h
  · -- the head is not expandable, so its estimate is finite, and `inf` estimates come first
    have hte : (st.store.get te).estimate ≠ Diff.inf := fun hinf => by
      rw [hI.fr.infExp te (hfr ▸ List.mem_cons_self) hinf] at hne; cases hne
    have hp := hI.fr.infPre
    rw [hfr] at hp ⊢
    intro id hid hinf
    rcases List.mem_cons.1 hid with rfl | hid
    · exact hte hinf
    · exact hte ((List.pairwise_cons.1 hp).1 id hid hinf)
  · rw [hfr]
    apply maxEst_fin
    intro hinf
    rw [hinf] at hg
    cases hlb : st.lb with
    | none => rw [hlb] at hg; cases hg
    | some l => rw [hlb] at hg; simp only [gapExit] at hg; rw [hgap l] at hg; cases hg

/-! ### post-processing of an exit state -/

/-- the post-processing of an exit state yields true assertions that exclude every alternative winner,
each of them (up to `rules_out`) the assertion of a frontier node -/
theorem post_spec (hC : C.candidates.Nodup) {st : St α D} (hI : Inv asn C cvrs winner st)
    (hfin : ∀ id ∈ st.fr, (st.store.get id).estimate ≠ Diff.inf)
    {L : List (Assertion α D)} (hd : dedupe st.store st.fr [] = Res.ok L) :
    (∀ a ∈ subsumePass (sortAssertions L), Fam asn C cvrs a) ∧
    Sufficient C.candidates winner (subsumePass (sortAssertions L)) ∧
    (∀ a ∈ subsumePass (sortAssertions L), ∃ id ∈ st.fr, ∃ b, (st.store.get id).best = some b ∧ core a = core b) := by
  have hP0 : PostInv C.candidates ([] : List (Assertion α D)) (fun _ => False) :=
    ⟨by simp, by simp, fun _ h => h.elim⟩
  obtain ⟨d1, d2, d3⟩ := dedupe_spec hC st.store st.fr [] L _ hd hP0
    (fun id hid => ⟨hI.ok id (hI.fr.inRange id hid), hfin id hid⟩) (by simp)
  have hsort : PostInv C.candidates (sortAssertions L) _ :=
    d1.of_mem_iff (fun x => (sortAssertions_perm L).mem_iff)
  have hsub := hsort.subsumePass
  have hcore : ∀ a ∈ subsumePass (sortAssertions L), ∃ z ∈ L, core a = core z := by
    intro a ha
    obtain ⟨z, hz, hc⟩ := subsumePass_core _ a ha
    exact ⟨z, (sortAssertions_perm L).mem_iff.1 hz, hc⟩
  refine ⟨?_, ?_, ?_⟩
  · intro a ha
    obtain ⟨z, hz, hc⟩ := hcore a ha
    exact fam_of_core hc (d2 z hz)
  · intro π hπ
    obtain ⟨id, hid, hsuf, _⟩ := hI.cover π hπ
    obtain ⟨x, hx, hcov, _⟩ := hsub.need (st.store.get id).tail (Or.inr ⟨id, hid, rfl⟩)
    exact ⟨x, hx, hcov π hπ.1 hsuf⟩
  · intro a ha
    obtain ⟨z, hz, hc⟩ := hcore a ha
    rcases d3 z hz with ⟨z', hz', _⟩ | ⟨id, hid, b, hb, hc'⟩
    · cases hz'
    · exact ⟨id, hid, b, hb, hc.trans hc'⟩

/-- every returned assertion has the difficulty of a frontier node's estimate: de-duplication, sorting and
subsumption change at most the `rules_out` field -/
theorem post_difficulty (hC : C.candidates.Nodup) {st : St α D} (hI : Inv asn C cvrs winner st)
    (hfin : ∀ id ∈ st.fr, (st.store.get id).estimate ≠ Diff.inf)
    {L : List (Assertion α D)} (hd : dedupe st.store st.fr [] = Res.ok L) :
    ∀ a ∈ subsumePass (sortAssertions L), ∃ i ∈ st.fr, (st.store.get i).estimate = Diff.fin a.difficulty := by
  intro a ha
  obtain ⟨i, hi, b, hb, hc⟩ := (post_spec asn C cvrs winner hC hI hfin hd).2.2 a ha
  obtain ⟨b', hb', _, hest, _⟩ := node_assertion hC (hI.ok i (hI.fr.inRange i hi)) (hfin i hi)
  rw [hb] at hb'; cases hb'
  exact ⟨i, hi, by rw [(core_fields hc).2.2.2.2.2.2, ← hest]⟩

/-! ### optimality at exit -/

/-- at exit the estimate of every frontier node is below the largest difficulty of every sufficient
set of true assertions (O2, O3 and O1 at the exit test) -/
theorem exit_all_leOPT {st : St α D} (h : ExitState asn C cvrs winner st) :
    ∀ i ∈ st.fr, LeOPT asn C cvrs winner (st.store.get i).estimate := by
  obtain ⟨hI, te, rest, hfr, hne⟩ := h
  have hte : LeOPT asn C cvrs winner (st.store.get te).estimate :=
    hI.fr.nonexpOpt te (by rw [hfr]; exact List.mem_cons_self) hne
  intro i hi
  cases hexp : (st.store.get i).expandable with
  | false => exact hI.fr.nonexpOpt i hi hexp
  | true =>
    rw [hfr] at hi
    simp only [List.mem_cons] at hi
    rcases hi with rfl | hi
    · rw [hexp] at hne; cases hne
    · have hp := hI.fr.sorted
      rw [hfr] at hp
      rcases (List.pairwise_cons.1 hp).1 i hi hexp with h' | h'
      · exact hte.mono h'
      · exact hI.fr.leOPT_of_leLB h'

/-! ### the result of `computeRaireAssertionsG` -/

theorem sufficient_ne_nil (hC : C.candidates.Nodup) (hn : 2 ≤ C.candidates.length) {S : List (Assertion α D)}
    (h : Sufficient C.candidates winner S) : S ≠ [] := by
  obtain ⟨π, hπ⟩ := exists_alt C winner hC hn
  obtain ⟨a, ha, _⟩ := h π hπ
  exact List.ne_nil_of_mem ha

/-- every run of `computeRaireAssertionsG`: it raises no exception; it runs out of fuel only below `raireFuel`; an
empty result comes with an alternative order that no true assertion contradicts, any other is the post-processed
frontier of an exit state -/
theorem computeG_run {gap : Diff D → Diff D → Bool} (hgap : GapOK gap)
    (hC : C.candidates.Nodup) (hn : 2 ≤ C.candidates.length) (fuel : Nat) :
    match computeRaireAssertionsG gap asn C cvrs winner fuel with
    | Res.ok as => (as = [] ∧ BadLeaf asn C cvrs winner) ∨
        ∃ st L, ExitG asn C cvrs winner gap st ∧ dedupe st.store st.fr [] = Res.ok L ∧
          as = subsumePass (sortAssertions L)
    | Res.fuel => fuel < raireFuel C winner
    | Res.err _ => False := by
  have hinit := init_inv asn C cvrs winner hC hn
  unfold computeRaireAssertionsG
  simp only
  cases hi : initLoop asn C (cvrs.filterMap id) (nebTable asn C cvrs) (initTails C winner) ⟨#[], [], none⟩ with
  | none => rw [hi] at hinit; exact Or.inl ⟨rfl, hinit⟩
  | some st0 =>
    rw [hi] at hinit
    simp only
    obtain ⟨hloop, hlf⟩ := mainLoopG_spec asn C cvrs winner gap hC hn fuel st0 _ rfl hinit.1
    cases hm : mainLoopG gap asn C (cvrs.filterMap id) (nebTable asn C cvrs) fuel st0 with
    | fuel => exact Nat.lt_of_le_of_lt (hlf hm) hinit.2.2
    | err e => rw [hm] at hloop; exact hloop
    | ok o =>
      rw [hm] at hloop
      cases o with
      | none => exact Or.inl ⟨rfl, hloop⟩
      | some st =>
        have hE : ExitG asn C cvrs winner gap st := hloop
        have hfin := exitG_all_finite asn C cvrs winner hgap hE
        obtain ⟨L, hL⟩ := dedupe_ok st.store st.fr [] (fun i hi' hb => by
          obtain ⟨a, ha, _⟩ := node_assertion hC (hE.1.ok i (hE.1.fr.inRange i hi')) (hfin i hi')
          rw [ha] at hb; cases hb)
        simp only [hL]
        exact Or.inr ⟨st, L, hE, hL, rfl⟩

/-- **Main statement about the result, for every `agap` test.** An empty result comes with an alternative
order that no true assertion contradicts. A non-empty result consists of true assertions of the family and
excludes every alternative winner, whether the loop ended at a non-expandable head or at the `agap` test. -/
theorem computeG_spec {gap : Diff D → Diff D → Bool} (hgap : GapOK gap)
    (hC : C.candidates.Nodup) (hn : 2 ≤ C.candidates.length) {fuel : Nat}
    {as : List (Assertion α D)} (h : computeRaireAssertionsG gap asn C cvrs winner fuel = Res.ok as) :
    (as = [] → BadLeaf asn C cvrs winner) ∧
    (as ≠ [] → (∀ a ∈ as, Fam asn C cvrs a) ∧ Sufficient C.candidates winner as) := by
  have hrun := computeG_run asn C cvrs winner hgap hC hn fuel
  rw [h] at hrun
  rcases hrun with ⟨rfl, hbad⟩ | ⟨st, L, hE, hd, rfl⟩
  · exact ⟨fun _ => hbad, fun hne => absurd rfl hne⟩
  · obtain ⟨p1, p2, _⟩ := post_spec asn C cvrs winner hC hE.1 (exitG_all_finite asn C cvrs winner hgap hE) hd
    exact ⟨fun h0 => absurd h0 (sufficient_ne_nil C winner hC hn p2), fun _ => ⟨p1, p2⟩⟩

/-- **What optimality becomes with a positive allowed gap.** For a non-empty result: either the search ran to
its normal end and every returned difficulty is below the largest difficulty of every sufficient set of true
assertions (as for `agap = 0`), or the `agap` test was true of a pair `(mx, l)` where `mx` bounds every returned
difficulty from above and `l` is a lower bound of the largest difficulty of every sufficient set. With the
Python test `mx - l <= agap`: the result is within `agap` of the optimum. -/
theorem computeG_near_opt {gap : Diff D → Diff D → Bool} (hgap : GapOK gap)
    (hC : C.candidates.Nodup) (hn : 2 ≤ C.candidates.length) {fuel : Nat}
    {as : List (Assertion α D)} (h : computeRaireAssertionsG gap asn C cvrs winner fuel = Res.ok as)
    (hne : as ≠ []) :
    (∀ a ∈ as, LeOPT asn C cvrs winner (Diff.fin a.difficulty)) ∨
    ∃ mx l, gap mx l = true ∧ LeOPT asn C cvrs winner l ∧
      ∀ a ∈ as, Diff.le (Diff.fin a.difficulty) mx = true := by
  have hrun := computeG_run asn C cvrs winner hgap hC hn fuel
  rw [h] at hrun
  rcases hrun with ⟨h1, _⟩ | ⟨st, L, hE, hd, rfl⟩
  · exact absurd h1 hne
  · have hdiff := post_difficulty asn C cvrs winner hC hE.1 (exitG_all_finite asn C cvrs winner hgap hE) hd
    obtain ⟨hI, te, rest, hfr, hne' | hg⟩ := hE
    · left
      intro a ha
      obtain ⟨i, hi, he⟩ := hdiff a ha
      rw [← he]; exact exit_all_leOPT asn C cvrs winner ⟨hI, te, rest, hfr, hne'⟩ i hi
    · right
      cases hlb : st.lb with
      | none => rw [hlb] at hg; cases hg
      | some l =>
        rw [hlb] at hg
        refine ⟨maxEst st.store te rest, l, hg, hI.fr.lbOpt l hlb, fun a ha => ?_⟩
        obtain ⟨i, hi, he⟩ := hdiff a ha
        rw [← he]
        exact le_maxEst st.store te rest i (by rw [← hfr]; exact hi)

/-- **Main statement about the result** without `agap` test: as `computeG_spec`, and the difficulty of each returned
assertion is below the largest difficulty of every sufficient set of true assertions. -/
theorem compute_spec (hC : C.candidates.Nodup) (hn : 2 ≤ C.candidates.length) {fuel : Nat}
    {as : List (Assertion α D)} (h : computeRaireAssertions asn C cvrs winner fuel = Res.ok as) :
    (as = [] → BadLeaf asn C cvrs winner) ∧
    (as ≠ [] → (∀ a ∈ as, Fam asn C cvrs a) ∧ Sufficient C.candidates winner as ∧
      ∀ a ∈ as, LeOPT asn C cvrs winner (Diff.fin a.difficulty)) := by
  obtain ⟨h1, h2⟩ := computeG_spec asn C cvrs winner gapOK_noGap hC hn h
  refine ⟨h1, fun hne => ⟨(h2 hne).1, (h2 hne).2, ?_⟩⟩
  -- the test of `noGap` is never true
  rcases computeG_near_opt asn C cvrs winner gapOK_noGap hC hn h hne with hopt | ⟨_, _, hg, _⟩
  · exact hopt
  · cases hg

/-- **No exception**, for every `agap` test. The model never reaches one of its error exits: the frontier is
never empty when `max` / `nodes[0]` are evaluated (ValueError), `rem_cands[0]` exists in every dive
(IndexError), and every node of the final frontier carries an assertion (AttributeError). -/
theorem computeG_no_err {gap : Diff D → Diff D → Bool} (hgap : GapOK gap)
    (hC : C.candidates.Nodup) (hn : 2 ≤ C.candidates.length) (fuel : Nat) (e : Err) :
    computeRaireAssertionsG gap asn C cvrs winner fuel ≠ Res.err e := by
  intro h
  have hrun := computeG_run asn C cvrs winner hgap hC hn fuel
  rw [h] at hrun
  exact hrun

/-- **Termination**, for every `agap` test. With at least `raireFuel` iterations allowed the model returns a
list: the search terminates (the measure `Phi` decreases in every iteration of the main loop, a dive takes at
most as many steps as there are candidates) and raises no exception. -/
theorem computeG_terminates {gap : Diff D → Diff D → Bool} (hgap : GapOK gap)
    (hC : C.candidates.Nodup) (hn : 2 ≤ C.candidates.length) (fuel : Nat)
    (hfuel : raireFuel C winner ≤ fuel) :
    ∃ as, computeRaireAssertionsG gap asn C cvrs winner fuel = Res.ok as := by
  have hrun := computeG_run asn C cvrs winner hgap hC hn fuel
  cases hres : computeRaireAssertionsG gap asn C cvrs winner fuel with
  | ok as => exact ⟨as, rfl⟩
  | err e => rw [hres] at hrun; exact hrun.elim
  | fuel => rw [hres] at hrun; exact absurd hfuel (Nat.not_le_of_lt hrun)

end Main
end Shangrla.Raire
