/-
  Ville's (maximal) inequality on the finite tree of draws *without replacement*: exact rational
  probabilities, induction over the number of remaining items; valid for every population size.
-/
import Mathlib.Tactic.Linarith
import Mathlib.Tactic.Positivity
import Mathlib.Tactic.FieldSimp
import Mathlib.Tactic.Ring
import Mathlib.Algebra.Order.Field.Basic
import Mathlib.Algebra.Order.Ring.Rat
import Mathlib.Algebra.BigOperators.Group.List.Basic
import Mathlib.Algebra.BigOperators.Ring.List
import Mathlib.Algebra.Order.BigOperators.Group.List

namespace Shangrla.Ville

/-- the mean of `f 0, …, f (n-1)`: the expectation over a uniform draw of one of `n` remaining items -/
def avgIdx (n : Nat) (f : Nat → ℚ) : ℚ := ((List.range n).map f).sum / n

/-- exact probability that the event `ev` holds at some node on the path, when the remaining items
`R` are drawn one by one uniformly at random without replacement after history `h`
(`fuel ≥ R.length`).  `hitEv ev pop.length pop []` is the probability, over the `N!` orderings of
`pop`, that some prefix of the ordering satisfies `ev`. -/
def hitEv (ev : List ℚ → Bool) : (fuel : Nat) → List ℚ → List ℚ → ℚ
  | 0, _, h => if ev h then 1 else 0
  | fuel + 1, R, h =>
    if ev h then 1
    else if R = [] then 0
    else avgIdx R.length (fun i => hitEv ev fuel (R.eraseIdx i) (h ++ [R.getD i 0]))

theorem avgIdx_le {n : Nat} (hn : 0 < n) (f g : Nat → ℚ) (h : ∀ i < n, f i ≤ g i) :
    avgIdx n f ≤ avgIdx n g :=
  div_le_div_of_nonneg_right (List.sum_le_sum fun i hi => h i (List.mem_range.mp hi))
    (Nat.cast_pos.2 hn).le

theorem avgIdx_mul_left (n : Nat) (f : Nat → ℚ) (c : ℚ) :
    avgIdx n (fun i => c * f i) = c * avgIdx n f := by
  rw [avgIdx, List.sum_map_mul_left, mul_div_assoc, avgIdx]

theorem avgIdx_div (n : Nat) (f : Nat → ℚ) (c : ℚ) :
    avgIdx n (fun i => f i / c) = avgIdx n f / c := by
  simp only [div_eq_inv_mul, avgIdx_mul_left]

theorem avgIdx_const (n : Nat) (hn : 0 < n) (c : ℚ) : avgIdx n (fun _ => c) = c := by
  simp only [avgIdx, List.map_const', List.sum_replicate, List.length_range, nsmul_eq_mul]
  exact mul_div_cancel_left₀ c (Nat.cast_ne_zero.2 hn.ne')

/-- Ville's inequality on the draw tree, for a `val` that is a non-negative supermartingale on the
states satisfying an invariant `Inv` preserved by drawing. -/
theorem hitEv_le (ev : List ℚ → Bool) (val : List ℚ → ℚ) (c : ℚ) (hc : 0 < c)
    (Inv : List ℚ → List ℚ → Prop)
    (hev : ∀ R h, Inv R h → ev h = true → c ≤ val h)
    (hnn : ∀ R h, Inv R h → 0 ≤ val h)
    (hstep : ∀ R h, Inv R h → ∀ i < R.length, Inv (R.eraseIdx i) (h ++ [R.getD i 0]))
    (hsuper : ∀ R h, Inv R h → R ≠ [] →
      avgIdx R.length (fun i => val (h ++ [R.getD i 0])) ≤ val h) :
    ∀ fuel R h, Inv R h → R.length ≤ fuel → hitEv ev fuel R h ≤ val h / c := by
  -- with the division cleared, `c · P(hit) ≤ val`: where `ev` holds this is `hev`; elsewhere it is the average over
  -- the next draw of the induction hypothesis, and that average is `≤ val h` by `hsuper`
  suffices H : ∀ fuel R h, Inv R h → R.length ≤ fuel → c * hitEv ev fuel R h ≤ val h from
    fun fuel R h hI hlen => (le_div_iff₀' hc).2 (H fuel R h hI hlen)
  intro fuel
  induction fuel with
  | zero =>
    intro R h hI _
    unfold hitEv
    split
    · rw [mul_one]; exact hev R h hI ‹_›
    · rw [mul_zero]; exact hnn R h hI
  | succ fuel ih =>
    intro R h hI hlen
    unfold hitEv
    split
    · rw [mul_one]; exact hev R h hI ‹_›
    · split
      · rw [mul_zero]; exact hnn R h hI
      · rename_i hR
        rw [← avgIdx_mul_left]
        exact (avgIdx_le (List.length_pos_iff.mpr hR) _ _ fun i hi =>
          ih _ _ (hstep R h hI i hi) (by rw [List.length_eraseIdx_of_lt hi]; omega)).trans
            (hsuper R h hI hR)

theorem hitEv_of_ev {ev : List ℚ → Bool} {h : List ℚ} (he : ev h = true) (fuel : Nat) (R : List ℚ) :
    hitEv ev fuel R h = 1 := by
  cases fuel <;> rw [hitEv, if_pos he]

theorem hitEv_mem_unit (ev : List ℚ → Bool) :
    ∀ fuel R h, 0 ≤ hitEv ev fuel R h ∧ hitEv ev fuel R h ≤ 1 := by
  intro fuel
  induction fuel with
  | zero => intro R h; unfold hitEv; split <;> norm_num
  | succ fuel ih =>
    intro R h
    unfold hitEv
    split
    · norm_num
    · split
      · norm_num
      · rename_i hR
        have hpos : 0 < R.length := List.length_pos_iff.mpr hR
        have h0 := avgIdx_le hpos (fun _ => 0) _ (fun i _ => (ih (R.eraseIdx i) (h ++ [R.getD i 0])).1)
        have h1 := avgIdx_le hpos _ (fun _ => 1) (fun i _ => (ih (R.eraseIdx i) (h ++ [R.getD i 0])).2)
        rw [avgIdx_const _ hpos] at h0 h1
        exact ⟨h0, h1⟩

theorem _root_.Shangrla.C01.hitEv_nonneg (ev : List ℚ → Bool) : ∀ fuel R h, 0 ≤ hitEv ev fuel R h :=
  fun fuel R h => (hitEv_mem_unit ev fuel R h).1

theorem getD_eq_getElem {R : List ℚ} {i : Nat} (hi : i < R.length) : R.getD i 0 = R[i] := by
  rw [List.getD_eq_getElem?_getD, List.getElem?_eq_getElem hi, Option.getD_some]

theorem getD_mem {R : List ℚ} {i : Nat} (hi : i < R.length) : R.getD i 0 ∈ R := by
  rw [getD_eq_getElem hi]
  exact List.getElem_mem hi

theorem sum_range_getD (R : List ℚ) :
    ((List.range R.length).map (fun i => R.getD i 0)).sum = R.sum := by
  congr 1
  refine List.ext_getElem (by simp) fun i h1 _ => ?_
  simp only [List.length_map, List.length_range] at h1
  simp only [List.getElem_map, List.getElem_range, getD_eq_getElem h1]

theorem sum_map_affine (l : List Nat) (g : Nat → ℚ) (a b : ℚ) :
    (l.map (fun i => a + b * g i)).sum = a * l.length + b * (l.map g).sum := by
  rw [List.sum_map_add, List.sum_map_mul_left, List.map_const', List.sum_replicate, nsmul_eq_mul,
    mul_comm a]

/-- one step of a betting supermartingale under the null (remaining mean at most `m`) -/
theorem superstep (R : List ℚ) (hR : R ≠ []) (lam m : ℚ) (hlam : 0 ≤ lam)
    (hnull : R.sum ≤ m * R.length) :
    avgIdx R.length (fun i => 1 + lam * (R.getD i 0 - m)) ≤ 1 := by
  have hpos : (0 : ℚ) < R.length := Nat.cast_pos.2 (List.length_pos_iff.mpr hR)
  have h1 : (fun i => 1 + lam * (R.getD i 0 - m)) = (fun i => (1 - lam * m) + lam * R.getD i 0) := by
    funext i; ring
  rw [avgIdx, h1, sum_map_affine, sum_range_getD, div_le_one hpos, List.length_range]
  linarith [mul_le_mul_of_nonneg_left hnull hlam]

theorem sum_eraseIdx (R : List ℚ) (i : Nat) (hi : i < R.length) :
    (R.eraseIdx i).sum = R.sum - R.getD i 0 := by
  rw [eq_sub_iff_add_eq', getD_eq_getElem hi]
  exact List.CommMonoid.add_sum_eraseIdx hi

theorem mem_eraseIdx_of {R : List ℚ} {i : Nat} {a : ℚ} (h : a ∈ R.eraseIdx i) : a ∈ R :=
  (List.eraseIdx_sublist R i).subset h

end Shangrla.Ville
