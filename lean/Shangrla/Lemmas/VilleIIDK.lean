/-
  Ville's inequality on the tree of independent draws from a finitely supported law whose WEIGHTS live
  in an arbitrary linearly ordered field `K` (in particular `K = ℝ`: real, possibly irrational,
  probabilities).  The VALUES stay rational: the observations handed to the library are IEEE doubles,
  every finite double is a rational number, and the doubles in `[0,u]` are finitely many — so a law on
  the library's input space is a finite list of (rational value, weight) pairs; only the weights can be
  irrational.
-/
import Shangrla.Lemmas.Ville
import Mathlib.Data.Rat.Cast.Order
import Mathlib.Data.Rat.Cast.CharZero

namespace Shangrla.Ville

variable {K : Type} [Field K]

/-- expectation of `f` under the law `L` (rational values, weights in `K`) -/
def expLK (L : List (ℚ × K)) (f : ℚ → K) : K := (L.map (fun p => p.2 * f p.1)).sum

/-- exact probability (an element of `K`) that `ev` holds at some node within `n` further independent
draws from `L` after history `h` -/
def hitIIDK (L : List (ℚ × K)) (ev : List ℚ → Bool) : Nat → List ℚ → K
  | 0, h => if ev h then 1 else 0
  | n + 1, h => if ev h then 1 else expLK L (fun v => hitIIDK L ev n (h ++ [v]))

theorem hitIIDK_of_ev (L : List (ℚ × K)) {ev : List ℚ → Bool} {h : List ℚ} (he : ev h = true) :
    ∀ n, hitIIDK L ev n h = 1
  | 0 => if_pos he
  | _ + 1 => if_pos he

theorem hitIIDK_zero_of_not (L : List (ℚ × K)) {ev : List ℚ → Bool} {h : List ℚ} (he : ¬ ev h = true) :
    hitIIDK L ev 0 h = 0 := if_neg he

theorem hitIIDK_succ_of_not (L : List (ℚ × K)) {ev : List ℚ → Bool} {h : List ℚ} (he : ¬ ev h = true)
    (n : Nat) : hitIIDK L ev (n + 1) h = expLK L (fun v => hitIIDK L ev n (h ++ [v])) := if_neg he

theorem expLK_mul_left (L : List (ℚ × K)) (f : ℚ → K) (c : K) :
    expLK L (fun v => c * f v) = c * expLK L f := by
  simp only [expLK, mul_left_comm _ c, List.sum_map_mul_left]

theorem expLK_const (L : List (ℚ × K)) (hs : (L.map Prod.snd).sum = 1) (c : K) :
    expLK L (fun _ => c) = c := by
  rw [expLK, List.sum_map_mul_right, hs, one_mul]

theorem expLK_add (L : List (ℚ × K)) (f g : ℚ → K) :
    expLK L (fun v => f v + g v) = expLK L f + expLK L g := by
  simp only [expLK, mul_add, List.sum_map_add]

theorem expLK_affine (L : List (ℚ × K)) (hs : (L.map Prod.snd).sum = 1) (lam m : K) :
    expLK L (fun v => 1 + lam * ((v : K) - m)) = 1 + lam * (expLK L (fun v => (v : K)) - m) := by
  have : (fun v : ℚ => 1 + lam * ((v : K) - m)) = fun v : ℚ => (1 - lam * m) + lam * (v : K) := by
    funext v; ring
  rw [this, expLK_add, expLK_const L hs, expLK_mul_left]
  ring

variable [LinearOrder K] [IsStrictOrderedRing K]

theorem expLK_le (L : List (ℚ × K)) (hw : ∀ p ∈ L, 0 ≤ p.2) (f g : ℚ → K)
    (h : ∀ p ∈ L, f p.1 ≤ g p.1) : expLK L f ≤ expLK L g :=
  List.sum_le_sum fun p hp => mul_le_mul_of_nonneg_left (h p hp) (hw p hp)

theorem expLK_affine_cast_le_one (L : List (ℚ × K)) (hs : (L.map Prod.snd).sum = 1) (lam m : ℚ)
    (hlam : 0 ≤ lam) (hmean : expLK L (fun v => (v : K)) ≤ (m : K)) :
    expLK L (fun v => ((1 + lam * (v - m) : ℚ) : K)) ≤ 1 := by
  simp only [Rat.cast_add, Rat.cast_one, Rat.cast_mul, Rat.cast_sub]
  rw [expLK_affine L hs, add_le_iff_nonpos_right]
  exact mul_nonpos_of_nonneg_of_nonpos (Rat.cast_nonneg.2 hlam) (sub_nonpos.2 hmean)

/-- Ville's inequality for independent draws: `hitEv_le` with the average over the next draw replaced
by the expectation under `L` -/
theorem hitIIDK_le (L : List (ℚ × K)) (hw : ∀ p ∈ L, 0 ≤ p.2)
    (ev : List ℚ → Bool) (val : List ℚ → K) (c : K) (hc : 0 < c)
    (Inv : List ℚ → Prop)
    (hev : ∀ h, Inv h → ev h = true → c ≤ val h)
    (hnn : ∀ h, Inv h → 0 ≤ val h)
    (hstep : ∀ h, Inv h → ∀ p ∈ L, Inv (h ++ [p.1]))
    (hsuper : ∀ h, Inv h → expLK L (fun v => val (h ++ [v])) ≤ val h) :
    ∀ n h, Inv h → hitIIDK L ev n h ≤ val h / c := by
  suffices H : ∀ n h, Inv h → c * hitIIDK L ev n h ≤ val h from
    fun n h hI => (le_div_iff₀' hc).2 (H n h hI)
  intro n
  induction n with
  | zero =>
    intro h hI
    by_cases he : ev h = true
    · rw [hitIIDK_of_ev L he, mul_one]; exact hev h hI he
    · rw [hitIIDK_zero_of_not L he, mul_zero]; exact hnn h hI
  | succ n ih =>
    intro h hI
    by_cases he : ev h = true
    · rw [hitIIDK_of_ev L he, mul_one]; exact hev h hI he
    · rw [hitIIDK_succ_of_not L he, ← expLK_mul_left]
      exact (expLK_le L hw _ _ fun p hp => ih _ (hstep h hI p hp)).trans (hsuper h hI)

theorem hitIIDK_mem_unit (L : List (ℚ × K)) (hw : ∀ p ∈ L, 0 ≤ p.2) (hs : (L.map Prod.snd).sum = 1)
    (ev : List ℚ → Bool) : ∀ n h, 0 ≤ hitIIDK L ev n h ∧ hitIIDK L ev n h ≤ 1 := by
  intro n
  induction n with
  | zero =>
    intro h
    by_cases he : ev h = true
    · rw [hitIIDK_of_ev L he]; norm_num
    · rw [hitIIDK_zero_of_not L he]; norm_num
  | succ n ih =>
    intro h
    by_cases he : ev h = true
    · rw [hitIIDK_of_ev L he]; norm_num
    · rw [hitIIDK_succ_of_not L he]
      have h0 := expLK_le L hw (fun _ => 0) (fun v => hitIIDK L ev n (h ++ [v])) fun _ _ => (ih _).1
      have h1 := expLK_le L hw (fun v => hitIIDK L ev n (h ++ [v])) (fun _ => 1) fun _ _ => (ih _).2
      rw [expLK_const L hs] at h0 h1
      exact ⟨h0, h1⟩

theorem hitIIDK_nonneg (L : List (ℚ × K)) (hw : ∀ p ∈ L, 0 ≤ p.2) (hs : (L.map Prod.snd).sum = 1)
    (ev : List ℚ → Bool) : ∀ n h, 0 ≤ hitIIDK L ev n h :=
  fun n h => (hitIIDK_mem_unit L hw hs ev n h).1

end Shangrla.Ville
