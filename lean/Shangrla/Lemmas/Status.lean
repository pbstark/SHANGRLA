/-
  Order facts about `XR.le` / `XR.npmax` (IEEE `<=` and the nan-propagating `np.max`), named `xr_le_*` so that
  `open StatusL` hides no root lemma, and the loops of `Shangrla.Status.setPValues` / `resetPValues` /
  `summarizeStatus` in closed form.
  Core Lean only, like the model and C09; Lemmas/XRBasic.lean needs Mathlib and is therefore not imported:
  `eq_nan_of_isNan` and `npmax_eq_or` are `XR.eq_nan_of_isNan` and `XR.npmax_sel` there.
-/
import Shangrla.Model.Status
namespace Shangrla.StatusL
open Shangrla Shangrla.Status

theorem maxList_pair (a b : XR) : XR.maxList [a, b] = XR.npmax a b := rfl

/-! ### `XR.le` and `XR.npmax` -/

theorem eq_nan_of_isNan {a : XR} (h : a.isNan = true) : a = XR.nan := by
  cases a with
  | nan => rfl
  | _ => cases h

theorem xr_le_of_isNan {a : XR} (h : a.isNan = true) (c : XR) : XR.le a c = false :=
  eq_nan_of_isNan h ▸ rfl

theorem xr_le_refl {a : XR} (h : a.isNan = false) : XR.le a a = true := by
  cases a <;> simp_all [XR.le, XR.isNan]

theorem xr_le_trans {a b c : XR} : XR.le a b = true → XR.le b c = true → XR.le a c = true := by
  cases a <;> cases b <;> cases c <;> simp [XR.le] <;> exact Rat.le_trans

theorem xr_le_antisymm {a b : XR} : XR.le a b = true → XR.le b a = true → a = b := by
  cases a <;> cases b <;> simp [XR.le] <;> exact Rat.le_antisymm

theorem xr_le_of_lt {a b : XR} : XR.lt a b = true → XR.le a b = true := by
  cases a <;> cases b <;> simp [XR.le, XR.lt] <;> exact Rat.le_of_lt

theorem xr_le_of_not_lt {a b : XR} (ha : a.isNan = false) (hb : b.isNan = false) :
    XR.lt a b = false → XR.le b a = true := by
  cases a <;> cases b <;> simp_all [XR.le, XR.lt, XR.isNan, Rat.not_lt]

theorem npmax_of_nan {a b : XR} (h : (a.isNan || b.isNan) = true) : XR.npmax a b = XR.nan := by
  unfold XR.npmax; rw [if_pos h]

theorem npmax_of_not_nan {a b : XR} (ha : a.isNan = false) (hb : b.isNan = false) :
    XR.npmax a b = if XR.lt a b then b else a := by
  unfold XR.npmax; simp [ha, hb]

theorem npmax_isNan (a b : XR) : (XR.npmax a b).isNan = (a.isNan || b.isNan) := by
  cases ha : a.isNan
  · cases hb : b.isNan
    · rw [npmax_of_not_nan ha hb]; split <;> simp [ha, hb]
    · rw [npmax_of_nan (by simp [hb])]; rfl
  · rw [npmax_of_nan (by simp [ha])]; rfl

/-- also with `nan`: then one of the two is the `nan` -/
theorem npmax_eq_or (a b : XR) : XR.npmax a b = a ∨ XR.npmax a b = b := by
  unfold XR.npmax
  split
  · rename_i h
    exact ((Bool.or_eq_true _ _).mp h).imp (fun h => (eq_nan_of_isNan h).symm) (fun h => (eq_nan_of_isNan h).symm)
  · split
    · exact Or.inr rfl
    · exact Or.inl rfl

/-- `nan` included: it is below nothing, and makes the maximum `nan` -/
theorem npmax_le_iff {a b c : XR} :
    XR.le (XR.npmax a b) c = true ↔ XR.le a c = true ∧ XR.le b c = true := by
  cases ha : a.isNan
  · cases hb : b.isNan
    · rw [npmax_of_not_nan ha hb]
      cases h : XR.lt a b
      · exact ⟨fun hac => ⟨hac, xr_le_trans (xr_le_of_not_lt ha hb h) hac⟩, And.left⟩
      · exact ⟨fun hbc => ⟨xr_le_trans (xr_le_of_lt h) hbc, hbc⟩, And.right⟩
    · rw [npmax_of_nan (by rw [hb, Bool.or_true]), xr_le_of_isNan hb]
      exact ⟨fun h => (nomatch h), fun h => (nomatch h.2)⟩
  · rw [npmax_of_nan (by rw [ha, Bool.true_or]), xr_le_of_isNan ha]
    exact ⟨fun h => (nomatch h), fun h => (nomatch h.1)⟩

/-! ### the running maximum -/

/-- `np.max([a] + l)` computed left to right as the code does -/
def foldMax (a : XR) (l : List XR) : XR := l.foldl XR.npmax a

theorem foldMax_isNan (l : List XR) : ∀ a, (foldMax a l).isNan = (a.isNan || l.any XR.isNan) := by
  induction l with
  | nil => intro a; simp [foldMax]
  | cons b l ih => intro a; simp only [foldMax, List.foldl_cons] at *; rw [ih, npmax_isNan]; simp [Bool.or_assoc]

theorem foldMax_mem (l : List XR) : ∀ a, foldMax a l ∈ a :: l := by
  induction l with
  | nil => intro a; exact List.mem_singleton.mpr rfl
  | cons b l ih =>
    intro a
    show foldMax (XR.npmax a b) l ∈ a :: b :: l
    rcases List.mem_cons.mp (ih (XR.npmax a b)) with h | h
    · rw [h]
      rcases npmax_eq_or a b with e | e <;> rw [e]
      · exact List.mem_cons_self
      · exact List.mem_cons_of_mem _ List.mem_cons_self
    · exact List.mem_cons_of_mem _ (List.mem_cons_of_mem _ h)

theorem foldMax_le_iff (l : List XR) (c : XR) : ∀ a,
    XR.le (foldMax a l) c = true ↔ XR.le a c = true ∧ ∀ p ∈ l, XR.le p c = true := by
  induction l with
  | nil => intro a; simp [foldMax]
  | cons b l ih =>
    intro a
    rw [show foldMax a (b :: l) = foldMax (XR.npmax a b) l from rfl, ih, npmax_le_iff, List.forall_mem_cons,
      and_assoc]

theorem foldMax_spec (l : List XR) (a : XR) (ha : a.isNan = false) (hl : ∀ p ∈ l, XR.isNan p = false) :
    (foldMax a l = a ∨ foldMax a l ∈ l) ∧ XR.le a (foldMax a l) = true ∧ ∀ p ∈ l, XR.le p (foldMax a l) = true := by
  refine ⟨List.mem_cons.mp (foldMax_mem l a), (foldMax_le_iff l _ a).mp (xr_le_refl ?_)⟩
  rw [foldMax_isNan, ha, Bool.false_or, List.any_eq_false]
  exact fun p hp => by rw [hl p hp]; exact Bool.false_ne_true

/-- `cpmax <= limit` unfolded: no nan, `0 <= limit` and every p-value `<= limit` -/
theorem foldMax0_le_iff (l : List XR) (r : Rat) :
    XR.le (foldMax 0 l) (XR.fin r) = true ↔ 0 ≤ r ∧ ∀ p ∈ l, XR.le p (XR.fin r) = true :=
  (foldMax_le_iff l (XR.fin r) 0).trans (and_congr_left' decide_eq_true_iff)

/-! ### closed forms of the loops of the model -/

/-- the assertion after Audit.py L2330-2331 -/
def updAssertion (test : Test) (c : Contest) (a : Assertion) : Assertion :=
  { a with pValue := (test c.id a.name).1, pHistory := (test c.id a.name).2,
           proved := XR.le (test c.id a.name).1 (XR.fin c.riskLimit) || a.proved }

/-- `d.update({a.name: f a})` for every assertion in turn -/
def dictFold {β : Type} (f : Assertion → β) (d : List (String × β)) (l : List Assertion) : List (String × β) :=
  l.foldl (fun d a => dictUpdate d a.name (f a)) d

theorem dictUpdate_fresh {β : Type} (d : List (String × β)) (k : String) (v : β)
    (h : ∀ e ∈ d, e.1 ≠ k) : dictUpdate d k v = d ++ [(k, v)] := by
  unfold dictUpdate
  have : d.any (fun e => e.1 == k) = false := by
    rw [List.any_eq_false]; intro e he; simpa using h e he
  simp [this]

theorem dictFold_of_nodup {β : Type} (f : Assertion → β) (l : List Assertion) :
    ∀ d : List (String × β), (∀ a ∈ l, ∀ e ∈ d, e.1 ≠ a.name) → (l.map (·.name)).Nodup →
      dictFold f d l = d ++ l.map (fun a => (a.name, f a)) := by
  induction l with
  | nil => intro d _ _; simp [dictFold]
  | cons a l ih =>
    intro d hd hn
    have e : dictFold f d (a :: l) = dictFold f (dictUpdate d a.name (f a)) l := rfl
    rw [e, dictUpdate_fresh d a.name (f a) (hd a (by simp))]
    rw [List.map_cons, List.nodup_cons] at hn
    rw [ih _ ?_ hn.2]
    · simp
    · intro b hb e he
      rcases List.mem_append.1 he with he | he
      · exact hd b (by simp [hb]) e he
      · simp only [List.mem_singleton] at he
        subst he
        intro h
        exact hn.1 (List.mem_map.2 ⟨b, hb, h.symm⟩)

theorem foldl_setStep (test : Test) (c : Contest) (l : List Assertion) :
    ∀ acc : SetAcc,
      l.foldl (setStep test c.id c.riskLimit) acc =
        { done := acc.done ++ l.map (updAssertion test c),
          pv := dictFold (fun a => (test c.id a.name).1) acc.pv l,
          pr := dictFold (fun a => XR.le (test c.id a.name).1 (XR.fin c.riskLimit) || a.proved) acc.pr l,
          cmax := foldMax acc.cmax (l.map (fun a => (test c.id a.name).1)) } := by
  induction l with
  | nil => intro acc; simp [dictFold, foldMax]
  | cons a l ih =>
    intro acc
    rw [List.foldl_cons, ih]
    simp [setStep, updAssertion, dictFold, foldMax, maxList_pair]

/-- the p-values the test returns for the assertions of `c`, in order -/
def testPs (test : Test) (c : Contest) : List XR := c.assertions.map (fun a => (test c.id a.name).1)

theorem setContest_eq (test : Test) (c : Contest) :
    setContest test c =
      (foldMax 0 (testPs test c),
       { c with assertions := c.assertions.map (updAssertion test c),
                pValues := some (dictFold (fun a => (test c.id a.name).1) [] c.assertions),
                provedD := some (dictFold (fun a => XR.le (test c.id a.name).1 (XR.fin c.riskLimit) || a.proved) [] c.assertions),
                maxP := some (foldMax 0 (testPs test c)) }) := by
  unfold setContest
  rw [foldl_setStep]
  simp [testPs]

theorem cpmax_eq (c : Contest) : cpmax c = foldMax 0 (c.assertions.map (·.pValue)) := by
  unfold cpmax foldMax
  rw [List.foldl_map]
  rfl

/-- the `contest_max_p` of the loop is the `cpmax` that `summarize_status` recomputes from the new p-values -/
theorem setContest_fst (test : Test) (c : Contest) : (setContest test c).1 = cpmax (setContest test c).2 := by
  rw [cpmax_eq, setContest_eq, List.map_map]
  rfl

theorem foldl_setOuter (test : Test) (l : List Contest) :
    ∀ acc : XR × List Contest,
      l.foldl (setOuter test) acc =
        (foldMax acc.1 (l.map (fun c => (setContest test c).1)), acc.2 ++ l.map (fun c => (setContest test c).2)) := by
  induction l with
  | nil => intro acc; simp [foldMax]
  | cons c l ih =>
    intro acc
    rw [List.foldl_cons, ih]
    simp [setOuter, foldMax, maxList_pair]

theorem setPValues_eq (test : Test) (s : State) :
    setPValues test s =
      (foldMax 0 (s.map (fun c => (setContest test c).1)), s.map (fun c => (setContest test c).2)) := by
  unfold setPValues
  rw [foldl_setOuter]
  simp

theorem foldl_resetStep (l : List Assertion) :
    ∀ acc : List Assertion × List (String × XR) × List (String × Bool),
      l.foldl resetStep acc =
        (acc.1 ++ l.map (fun a => { a with pValue := 1, pHistory := [], proved := false }),
         dictFold (fun _ => (1 : XR)) acc.2.1 l, dictFold (fun _ => false) acc.2.2 l) := by
  induction l with
  | nil => intro acc; simp [dictFold]
  | cons a l ih =>
    intro acc
    rw [List.foldl_cons, ih]
    simp [resetStep, dictFold]

theorem foldl_summarize (l : List Contest) :
    ∀ d : Bool,
      l.foldl (fun done con => if XR.le (cpmax con) (XR.fin con.riskLimit) then done else false) d =
        (d && l.all (fun con => XR.le (cpmax con) (XR.fin con.riskLimit))) := by
  induction l with
  | nil => intro d; simp
  | cons c l ih =>
    intro d
    rw [List.foldl_cons, ih]
    cases h : XR.le (cpmax c) (XR.fin c.riskLimit) <;> simp [h]

end Shangrla.StatusL
