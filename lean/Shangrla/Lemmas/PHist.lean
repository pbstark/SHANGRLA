/-
  From the terms of a test to what it reports: the masks, and the return statements
      min(1, 1/np.max(terms)) if random_order else min(1, 1/terms[-1]),   np.minimum(1, 1/terms)
  (and their variants in the Kaplan tests) on a list of `Good` terms.

  The code writes `min(1, 1/T)` in four ways; the five readings of it used in the statements:
    `NM.pOf  : XR → XR`    the code's own `np.minimum(1, 1/T)` in IEEE arithmetic, NaN and `-inf` included:
                           what statements about a *returned* history are written with;
    `NM.pOfQ : Rat → Rat`  its value on `fin T` for every rational `T`, negative ones included
                           (`min_inv_fin`): for statistics known to be finite but not known to be `≥ 0`;
    `XR.pv   : XR → Rat`   its value on a `Good` statistic (`fin q`, `q ≥ 0`, or `+inf`), `min_inv_all`:
                           what the proofs about `np.max` and well-formedness compute with;
    `XR.rho  : Rat → Rat`  `pv` on `fin q`, `q ≥ 0`, in the form `if 1 < q then 1/q else 1` that makes
                           positivity and antitonicity one-liners; agrees with `pOfQ` there (`pv_fin_eq_pOf`);
    `XR.cap  : XR → Rat`   not a reciprocal: `min(p, 1)`, for `kaplan_markov`, whose terms are p-values already.
-/
import Shangrla.Model.NonnegMean
import Shangrla.Lemmas.XRBasic

namespace Shangrla.XR

/-! ### reciprocal p-values -/

/-- `min(1, 1/q)` for `q ≥ 0`, reading `1/0` as `+inf` -/
def rho (q : Rat) : Rat := if 1 < q then 1 / q else 1

theorem rho_pos (q : Rat) : 0 < rho q := by
  unfold rho; split
  · rename_i h; exact one_div_pos.2 (one_pos.trans h)
  · exact one_pos

theorem rho_le_one (q : Rat) : rho q ≤ 1 := by
  unfold rho; split
  · rename_i h; exact (div_le_one (one_pos.trans h)).2 h.le
  · exact le_refl _

theorem rho_antitone {p q : Rat} (h : p ≤ q) : rho q ≤ rho p := by
  by_cases hp : 1 < p
  · unfold rho
    rw [if_pos hp, if_pos (lt_of_lt_of_le hp h)]
    exact one_div_le_one_div_of_le (one_pos.trans hp) h
  · rw [show rho p = 1 from if_neg hp]; exact rho_le_one q

theorem rho_eq_min {q : Rat} (h : 0 < q) : rho q = min 1 (1 / q) := by
  rw [min_comm, min_def_lt]; simp only [div_lt_one h]; rfl

theorem rho_zero : rho 0 = 1 := if_neg (not_lt.2 zero_le_one)

/-- the p-value `min(1, 1/T)` of a good statistic, as a rational (`1/inf = 0`, `1/0 = inf`) -/
def pv : XR → Rat
  | fin q => rho q
  | _ => 0

@[simp] theorem pv_fin (q : Rat) : pv (fin q) = rho q := rfl
@[simp] theorem pv_pinf : pv pinf = 0 := rfl

theorem pv_nonneg (T : XR) : 0 ≤ pv T := by
  cases T with
  | fin q => exact (rho_pos q).le
  | _ => exact le_refl _

theorem pv_le_one (T : XR) : pv T ≤ 1 := by
  cases T with
  | fin q => exact rho_le_one q
  | _ => exact zero_le_one

theorem isP_pv (T : XR) : IsP (fin (pv T)) := ⟨pv_nonneg T, pv_le_one T⟩

end Shangrla.XR

namespace Shangrla.NM
open Shangrla.XR

/-- `min(1, 1/T)` of a rational statistic, a zero statistic giving `1` (`1/0 = +inf`) -/
def pOfQ (T : Rat) : Rat := if T = 0 then 1 else min 1 (1 / T)

theorem pOfQ_zero : pOfQ 0 = 1 := if_pos rfl
theorem pOfQ_of_ne {T : Rat} (h : T ≠ 0) : pOfQ T = min 1 (1 / T) := if_neg h

/-- all four ways the code writes `min(1, 1/T)` agree with `pOfQ` on every finite statistic -/
theorem min_inv_fin (T : Rat) :
    npmin 1 ((1 : XR) / fin T) = fin (pOfQ T) ∧ npmin ((1 : XR) / fin T) 1 = fin (pOfQ T) ∧
    pymin 1 ((1 : XR) / fin T) = fin (pOfQ T) ∧ pymin ((1 : XR) / fin T) 1 = fin (pOfQ T) := by
  by_cases h0 : T = 0
  · subst h0
    rw [one_div_zero, pOfQ_zero]
    exact ⟨rfl, rfl, rfl, rfl⟩
  · rw [one_div_fin h0, one_def, npmin_fin, npmin_fin, pymin_fin, pymin_fin, pOfQ_of_ne h0,
      min_comm (1 / T) 1]
    exact ⟨rfl, rfl, rfl, rfl⟩

theorem npmin_one_inv_fin (T : Rat) : npmin 1 ((1 : XR) / fin T) = fin (pOfQ T) := (min_inv_fin T).1
theorem npmin_inv_one_fin (T : Rat) : npmin ((1 : XR) / fin T) 1 = fin (pOfQ T) := (min_inv_fin T).2.1

theorem pv_fin_eq_pOf {T : Rat} (h : 0 ≤ T) : pv (fin T) = pOfQ T := by
  rcases h.eq_or_lt with rfl | h
  · rw [pv_fin, rho_zero, pOfQ_zero]
  · rw [pv_fin, rho_eq_min h, pOfQ_of_ne h.ne']

end Shangrla.NM

namespace Shangrla.XR
open Shangrla.NM (pOfQ min_inv_fin pv_fin_eq_pOf)

/-- `1/T` of a good statistic is `fin (1/q)`, `q > 0`, or `+inf`, or `0`; in every case the minimum
with `1`, in either order and with either minimum function, is `fin (pv T)` -/
theorem min_inv_all {T : XR} (h : Good T) :
    npmin 1 ((1 : XR) / T) = fin (pv T) ∧ npmin ((1 : XR) / T) 1 = fin (pv T) ∧
    pymin 1 ((1 : XR) / T) = fin (pv T) ∧ pymin ((1 : XR) / T) 1 = fin (pv T) := by
  rcases h.cases with rfl | ⟨q, hq, rfl⟩
  · exact ⟨rfl, rfl, rfl, rfl⟩
  · rw [pv_fin_eq_pOf hq]; exact min_inv_fin q

theorem npmin_one_inv {T : XR} (h : Good T) : npmin 1 ((1 : XR) / T) = fin (pv T) := (min_inv_all h).1
theorem npmin_inv_one {T : XR} (h : Good T) : npmin ((1 : XR) / T) 1 = fin (pv T) := (min_inv_all h).2.1
theorem pymin_one_inv {T : XR} (h : Good T) : pymin 1 ((1 : XR) / T) = fin (pv T) := (min_inv_all h).2.2.1
theorem pymin_inv_one {T : XR} (h : Good T) : pymin ((1 : XR) / T) 1 = fin (pv T) := (min_inv_all h).2.2.2

theorem isP_npmin_inv_one {T : XR} (h : Good T) : IsP (npmin ((1 : XR) / T) 1) := by
  rw [npmin_inv_one h]; exact isP_pv T

theorem npmax_pinf_left {b : XR} (hb : Good b) : npmax pinf b = pinf := by
  rcases hb.cases with rfl | ⟨q, _, rfl⟩ <;> rfl
theorem npmax_pinf_right {a : XR} (ha : Good a) : npmax a pinf = pinf := by
  rcases ha.cases with rfl | ⟨q, _, rfl⟩ <;> rfl

theorem pv_npmax {a b : XR} (ha : Good a) (hb : Good b) : pv (npmax a b) = min (pv a) (pv b) := by
  rcases ha.cases with rfl | ⟨p, hp, rfl⟩
  · rw [npmax_pinf_left hb, pv_pinf, min_eq_left (pv_nonneg b)]
  · rcases hb.cases with rfl | ⟨q, hq, rfl⟩
    · rw [npmax_pinf_right (good_fin hp), pv_pinf, min_eq_right (pv_nonneg _)]
    · rw [npmax_fin, pv_fin, pv_fin, pv_fin]
      rcases le_total p q with h | h
      · rw [max_eq_right h, min_eq_right (rho_antitone h)]
      · rw [max_eq_left h, min_eq_left (rho_antitone h)]

/-! ### `np.max` / `np.min` as folds of an operation that returns one of its arguments -/

theorem foldl_mem_of_sel {α} {op : α → α → α} (hop : ∀ a b, op a b = a ∨ op a b = b) (l : List α) :
    ∀ a, l.foldl op a ∈ a :: l := by
  induction l with
  | nil => intro a; exact List.mem_singleton.2 rfl
  | cons b l ih =>
    intro a
    rcases List.mem_cons.1 (ih (op a b)) with h | h
    · rw [List.foldl_cons, h]
      rcases hop a b with e | e <;> rw [e]
      · exact List.mem_cons_self
      · exact List.mem_cons_of_mem _ List.mem_cons_self
    · exact List.mem_cons_of_mem _ (List.mem_cons_of_mem _ h)

theorem maxList_mem {L : List XR} (hne : L ≠ []) : maxList L ∈ L := by
  obtain ⟨a, l, rfl⟩ := List.exists_cons_of_ne_nil hne
  exact foldl_mem_of_sel npmax_sel l a

theorem minList_mem {L : List XR} (hne : L ≠ []) : minList L ∈ L := by
  obtain ⟨a, l, rfl⟩ := List.exists_cons_of_ne_nil hne
  exact foldl_mem_of_sel npmin_sel l a

theorem foldl_map_of_sel {P : XR → Prop} {op op' : XR → XR → XR} {f : XR → XR}
    (hop : ∀ a b, op a b = a ∨ op a b = b)
    (hf : ∀ a b, P a → P b → f (op a b) = op' (f a) (f b)) (l : List XR) :
    ∀ a, (∀ b ∈ a :: l, P b) → f (l.foldl op a) = (l.map f).foldl op' (f a) := by
  induction l with
  | nil => intro a _; rfl
  | cons b l ih =>
    intro a h
    obtain ⟨ha, hl⟩ := List.forall_mem_cons.1 h
    obtain ⟨hb, hl⟩ := List.forall_mem_cons.1 hl
    have hab : P (op a b) := by rcases hop a b with e | e <;> rw [e] <;> assumption
    rw [List.foldl_cons, List.map_cons, List.foldl_cons, ih _ (List.forall_mem_cons.2 ⟨hab, hl⟩), hf a b ha hb]

theorem pv_maxList {L : List XR} (hne : L ≠ []) (hL : ∀ T ∈ L, Good T) :
    fin (pv (maxList L)) = minList (L.map (fun T => fin (pv T))) := by
  obtain ⟨a, l, rfl⟩ := List.exists_cons_of_ne_nil hne
  exact foldl_map_of_sel (f := fun T => fin (pv T)) npmax_sel
    (fun a b ha hb => by rw [pv_npmax ha hb, npmin_fin]) l a hL

theorem map_congr_good {L : List XR} {f g : XR → XR} (hL : ∀ T ∈ L, Good T)
    (h : ∀ T, Good T → f T = g T) : L.map f = L.map g :=
  List.map_congr_left (fun T hT => h T (hL T hT))

theorem inv_maxList {fp fh : XR → XR} (hfp : ∀ T, Good T → fp T = fin (pv T))
    (hfh : ∀ T, Good T → fh T = fin (pv T)) {L : List XR} (hne : L ≠ []) (hL : ∀ T ∈ L, Good T) :
    fp (maxList L) = minList (L.map fh) := by
  rw [hfp _ (hL _ (maxList_mem hne)), pv_maxList hne hL, map_congr_good hL hfh]

/-- **order reversal** (`alpha_mart`, `betting_mart`, `wald_sprt`):
`min(1, 1/np.max(terms)) = np.min(np.minimum(1, 1/terms))` -/
theorem pymin_one_inv_maxList {L : List XR} (hne : L ≠ []) (hL : ∀ T ∈ L, Good T) :
    pymin 1 ((1 : XR) / maxList L) = minList (L.map (fun T => npmin 1 ((1 : XR) / T))) :=
  inv_maxList (fun _ => pymin_one_inv) (fun _ => npmin_one_inv) hne hL

/-- order reversal, argument order of `kaplan_kolmogorov`: `min(1/np.max(terms), 1)` vs `np.minimum(1/terms, 1)` -/
theorem pymin_inv_one_maxList {L : List XR} (hne : L ≠ []) (hL : ∀ T ∈ L, Good T) :
    pymin ((1 : XR) / maxList L) 1 = minList (L.map (fun T => npmin ((1 : XR) / T) 1)) :=
  inv_maxList (fun _ => pymin_inv_one) (fun _ => npmin_inv_one) hne hL

/-- order reversal, argument order of `kaplan_wald`: `np.min([1, 1/np.max(T)])` vs `np.minimum(1/T, 1)` -/
theorem npmin_one_inv_maxList {L : List XR} (hne : L ≠ []) (hL : ∀ T ∈ L, Good T) :
    npmin 1 ((1 : XR) / maxList L) = minList (L.map (fun T => npmin ((1 : XR) / T) 1)) :=
  inv_maxList (fun _ => npmin_one_inv) (fun _ => npmin_inv_one) hne hL

/-! ### statistics that are p-values (Kaplan-Markov): capping at one -/

/-- `min(p, 1)` of a good value -/
def cap : XR → Rat
  | fin q => min q 1
  | _ => 1

@[simp] theorem cap_fin (q : Rat) : cap (fin q) = min q 1 := rfl
@[simp] theorem cap_pinf : cap pinf = 1 := rfl

theorem isP_cap {T : XR} (h : Good T) : IsP (fin (cap T)) := by
  rcases h.cases with rfl | ⟨q, hq, rfl⟩
  · exact ⟨zero_le_one, le_refl _⟩
  · exact ⟨le_min hq zero_le_one, min_le_right _ _⟩

theorem npmin_cap {T : XR} (h : Good T) : npmin T 1 = fin (cap T) ∧ npmin 1 T = fin (cap T) := by
  rcases h.cases with rfl | ⟨q, hq, rfl⟩
  · exact ⟨rfl, rfl⟩
  · rw [one_def, npmin_fin, npmin_fin, cap_fin, min_comm]
    exact ⟨rfl, rfl⟩

theorem cap_npmin {a b : XR} (ha : Good a) (hb : Good b) : cap (npmin a b) = min (cap a) (cap b) := by
  rcases ha.cases with rfl | ⟨p, hp, rfl⟩ <;> rcases hb.cases with rfl | ⟨q, hq, rfl⟩
  · exact (min_self _).symm
  · exact (min_eq_right (min_le_right _ _)).symm
  · exact (min_eq_left (min_le_right _ _)).symm
  · rw [npmin_fin, cap_fin, cap_fin, cap_fin, min_min_min_comm, min_self]

/-- `kaplan_markov`: `np.min([1, np.min(p_history)]) = np.min(np.minimum(p_history, 1))` -/
theorem cap_minList {L : List XR} (hne : L ≠ []) (hL : ∀ T ∈ L, Good T) :
    fin (cap (minList L)) = minList (L.map (fun T => fin (cap T))) := by
  obtain ⟨a, l, rfl⟩ := List.exists_cons_of_ne_nil hne
  exact foldl_map_of_sel (f := fun T => fin (cap T)) npmin_sel
    (fun a b ha hb => by rw [cap_npmin ha hb, npmin_fin]) l a hL

/-! ### `minList` of a list of p-values -/

theorem le_of_le_npmin {m : XR} {p q : Rat} (h : le m (npmin (fin p) (fin q)) = true) :
    le m (fin p) = true ∧ le m (fin q) = true := by
  rw [npmin_fin] at h
  cases m with
  | fin r =>
    rw [le_fin, decide_eq_true_eq, le_min_iff] at h
    exact ⟨decide_eq_true h.1, decide_eq_true h.2⟩
  | ninf => exact ⟨rfl, rfl⟩
  | _ => cases h

theorem foldl_npmin_le (l : List XR) : ∀ a : XR, (∀ b ∈ a :: l, IsP b) →
    ∀ h ∈ a :: l, le (l.foldl npmin a) h = true := by
  induction l with
  | nil =>
    intro a ha h hh
    obtain ⟨p, rfl, -⟩ := (ha a List.mem_cons_self).cases
    rw [List.mem_singleton.1 hh]
    exact decide_eq_true (le_refl p)
  | cons b l ih =>
    intro a hl h hh
    obtain ⟨ha, hl⟩ := List.forall_mem_cons.1 hl
    obtain ⟨hb, hl⟩ := List.forall_mem_cons.1 hl
    have hab : IsP (npmin a b) := by rcases npmin_sel a b with e | e <;> rw [e] <;> assumption
    have ih' := ih _ (List.forall_mem_cons.2 ⟨hab, hl⟩)
    obtain ⟨p, rfl, -⟩ := ha.cases
    obtain ⟨q, rfl, -⟩ := hb.cases
    have hpq := le_of_le_npmin (ih' _ List.mem_cons_self)
    rcases List.mem_cons.1 hh with rfl | hh
    · exact hpq.1
    · rcases List.mem_cons.1 hh with rfl | hh
      · exact hpq.2
      · exact ih' h (List.mem_cons_of_mem _ hh)

theorem minList_isP {L : List XR} (hne : L ≠ []) (hL : ∀ h ∈ L, IsP h) :
    IsP (minList L) ∧ minList L ∈ L ∧ ∀ h ∈ L, le (minList L) h = true := by
  refine ⟨hL _ (minList_mem hne), minList_mem hne, ?_⟩
  obtain ⟨a, l, rfl⟩ := List.exists_cons_of_ne_nil hne
  exact foldl_npmin_le l a hL

end Shangrla.XR

namespace Shangrla.NM
open Shangrla XR

/-! ### the return statements -/

/-- the p-value reported for the term `T`: `np.minimum(1, 1/T)` -/
def pOf (T : XR) : XR := XR.npmin (1 : XR) ((1 : XR) / T)

theorem pOf_pinf : pOf .pinf = .fin 0 := rfl
theorem pOf_zero : pOf (.fin 0) = .fin 1 := rfl
theorem pOf_pos {q : Rat} (hq : 0 < q) : pOf (.fin q) = .fin (min 1 (1 / q)) := by
  rw [pOf, one_def, fin_div _ _ hq.ne', npmin_fin]
theorem pOf_one : pOf (.fin 1) = .fin 1 := by rw [pOf_pos one_pos, div_one, min_self]

theorem lastD_eq {L : List XR} (hne : L ≠ []) : L.getLast? = some (lastD L) ∧ lastD L ∈ L := by
  unfold lastD
  rw [List.getLast?_eq_some_getLast hne]
  exact ⟨rfl, List.getLast_mem hne⟩

/-- what "well-formed" means for a returned pair (C11) -/
def WellFormed (n : Nat) (ro : Bool) (p : XR) (hist : List XR) : Prop :=
  hist.length = n ∧ (∀ h ∈ hist, IsP h) ∧ IsP p ∧
    (ro = true → p = minList hist) ∧ (ro = false → hist.getLast? = some p)

/-- the return statements of the six tests.  The statistic is `sel` of the terms (`np.max`, or `np.min`
for `kaplan_markov`) or the last term; the overall p-value is computed from it by `fp`, the history from
the terms by `fh`, and on good terms both are `fin ∘ val` for a `val` (`pv` resp. `cap`) with values in
`[0,1]` that turns `sel` into `np.min` -/
theorem wellFormed_of_terms {val : XR → Rat} {sel : List XR → XR} {fp fh : XR → XR} {L : List XR} {n : Nat}
    (hval : ∀ T, Good T → IsP (fin (val T)))
    (hfp : ∀ T, Good T → fp T = fin (val T)) (hfh : ∀ T, Good T → fh T = fin (val T))
    (hL : ∀ T ∈ L, Good T) (hlen : L.length = n) (hne : L ≠ []) (hmem : sel L ∈ L)
    (hsel : fin (val (sel L)) = minList (L.map fun T => fin (val T))) (ro : Bool) :
    WellFormed n ro (fp (if ro = true then sel L else lastD L)) (L.map fh) := by
  obtain ⟨hlast, hlastmem⟩ := lastD_eq hne
  refine ⟨by rw [List.length_map, hlen], ?_, ?_, ?_, ?_⟩
  · intro h hh
    obtain ⟨T, hT, rfl⟩ := List.mem_map.1 hh
    rw [hfh T (hL T hT)]; exact hval T (hL T hT)
  · have : Good (if ro = true then sel L else lastD L) := by
      split
      · exact hL _ hmem
      · exact hL _ hlastmem
    rw [hfp _ this]; exact hval _ this
  · intro hro
    rw [if_pos hro, hfp _ (hL _ hmem), hsel, map_congr_good hL hfh]
  · intro hro
    rw [hro, if_neg Bool.false_ne_true, List.getLast?_map, hlast, Option.map_some,
      hfp _ (hL _ hlastmem), hfh _ (hL _ hlastmem)]

/-- the return statements of `kaplan_kolmogorov`, `kaplan_wald`, `wald_sprt` and of the martingale
tests: `fp` and `fh` are both `T ↦ min(1, 1/T)` on good statistics -/
theorem finish_stat {fp fh : XR → XR} (hfp : ∀ T, Good T → fp T = fin (pv T))
    (hfh : ∀ T, Good T → fh T = fin (pv T)) {L : List XR} {n : Nat} (hlen : L.length = n) (hn : 0 < n)
    (hL : ∀ T ∈ L, Good T) (ro : Bool) :
    WellFormed n ro (fp (if ro = true then maxList L else lastD L)) (L.map fh) :=
  have hne := List.ne_nil_of_length_pos (hlen ▸ hn)
  wellFormed_of_terms (fun T _ => isP_pv T) hfp hfh hL hlen hne (maxList_mem hne) (pv_maxList hne hL) ro

/-- the return statement of `kaplan_markov`: the statistic is itself a p-value -/
theorem finish_pval {L : List XR} {n : Nat} (hlen : L.length = n) (hn : 0 < n) (hL : ∀ T ∈ L, Good T)
    (ro : Bool) :
    WellFormed n ro (npmin 1 (if ro = true then minList L else lastD L)) (L.map (fun p => npmin p 1)) :=
  have hne := List.ne_nil_of_length_pos (hlen ▸ hn)
  wellFormed_of_terms (fun _ => isP_cap) (fun _ hT => (npmin_cap hT).2) (fun _ hT => (npmin_cap hT).1)
    hL hlen hne (minList_mem hne) (cap_minList hne hL) ro

theorem wf_parts {r : Except Err (XR × List XR)} {n : Nat} {ro : Bool}
    (h : ∃ p hist, r = .ok (p, hist) ∧ WellFormed n ro p hist) :
    ∃ p hist, r = .ok (p, hist) ∧ hist.length = n ∧ (∀ h ∈ hist, IsP h) ∧ IsP p := by
  obtain ⟨p, hist, he, h1, h2, h3, _⟩ := h
  exact ⟨p, hist, he, h1, h2, h3⟩

theorem wf_overall {r : Except Err (XR × List XR)} {n : Nat} {ro : Bool}
    (h : ∃ p hist, r = .ok (p, hist) ∧ WellFormed n ro p hist) {p : XR} {hist : List XR}
    (hrun : r = .ok (p, hist)) :
    (ro = true → p = minList hist) ∧ (ro = false → hist.getLast? = some p) := by
  obtain ⟨p', hist', he, _, _, _, h4⟩ := h
  cases he.symm.trans hrun
  exact h4

/-- the return statement of the martingale tests and the SPRT on good terms: in random order the overall
value, being `np.min` of the history, is an entry of it and below every entry -/
theorem pAndHist_good (ro : Bool) {L : List XR} (hne : L ≠ []) (hL : ∀ x ∈ L, Good x) :
    let r := pAndHist ro L
    r.2.length = L.length ∧ (∀ h ∈ r.2, IsP h) ∧ IsP r.1 ∧
      (ro = true → r.1 ∈ r.2 ∧ ∀ h ∈ r.2, XR.le r.1 h = true) ∧
      (ro = false → r.2.getLast? = some r.1) := by
  obtain ⟨h1, h2, h3, h4, h5⟩ : WellFormed L.length ro (pAndHist ro L).1 (pAndHist ro L).2 :=
    finish_stat (fp := fun T => pymin 1 (1 / T)) (fun _ => pymin_one_inv) (fun _ => npmin_one_inv) rfl
      (List.length_pos_iff.2 hne) hL ro
  refine ⟨h1, h2, h3, fun hro => ?_, h5⟩
  rw [h4 hro]
  exact (minList_isP (List.ne_nil_of_length_pos (h1 ▸ List.length_pos_iff.2 hne)) h2).2

theorem eps_pos : 0 < eps := by unfold eps; positivity

/-! ### the masks

`maskTerm u atol rtol m T` is `maskTermX u atol rtol (fin m) T` by definition: every lemma below is about
both.  The constant `1/100000` in the statements is numpy's default `rtol`, which the two `np.isclose(0, ·)`
masks use (the model has it written out); where callers put `2*eps` and `1/1000000` for `atol` and `rtol`,
these are the defaults of `alpha_mart`'s keyword arguments `atol`, `rtol`, which `wald_sprt` has hard-coded. -/

theorem isclose_self_zero (rtol atol : Rat) (hat : 0 ≤ atol) :
    XR.isclose (0 : XR) (.fin 0) rtol atol = true := by
  rw [zero_def, isclose_fin, sub_self, abs_zero, mul_zero, add_zero]
  exact decide_eq_true hat

theorem isclose_self (u rtol atol : Rat) (hat : 0 ≤ atol) (hrt : 0 ≤ rtol) :
    XR.isclose (.fin u) (.fin u) rtol atol = true := by
  rw [isclose_fin, sub_self, abs_zero]
  exact decide_eq_true (add_nonneg hat (mul_nonneg hrt (abs_nonneg u)))

section maskTermX
variable {u atol rtol m : Rat} {T : XR}

theorem maskTermX_neg (h : m < 0) : maskTermX u atol rtol (fin m) T = pinf :=
  if_pos (decide_eq_true h)

theorem maskTermX_close_u (h0 : ¬ m < 0) (h : XR.isclose (.fin u) (.fin m) rtol atol = true) :
    maskTermX u atol rtol (fin m) T = 1 := by
  simp only [maskTermX, zero_def, lt_fin, decide_eq_true_eq, h0, h, ↓reduceIte, ite_self]

theorem maskTermX_close_zero (h0 : ¬ m < 0) (h : XR.isclose 0 (.fin m) (1 / 100000) atol = true) :
    maskTermX u atol rtol (fin m) T = 1 := by
  simp only [maskTermX, zero_def, lt_fin, decide_eq_true_eq, h0, zero_def ▸ h, ↓reduceIte, ite_self]

/-- the null mean is not negative and close neither to `0` nor to `u`: the term, set to `0` where the
mean exceeds `u`, stays unless it is itself close to `0` -/
theorem maskTermX_far (h0 : ¬ m < 0) (hc0 : ¬ XR.isclose 0 (.fin m) (1 / 100000) atol = true)
    (hcu : ¬ XR.isclose (.fin u) (.fin m) rtol atol = true) :
    maskTermX u atol rtol (fin m) T =
      if XR.isclose 0 (if u < m then 0 else T) (1 / 100000) atol then 1 else if u < m then 0 else T := by
  simp only [maskTermX, zero_def, lt_fin, decide_eq_true_eq, h0, zero_def ▸ hc0, hcu,
    Bool.false_eq_true, ↓reduceIte]

/-- `m > u ≥ 0`: the term is set to `0` and then (being `isclose` to `0`) to `1` -/
theorem maskTermX_above (hu : 0 ≤ u) (hat : 0 ≤ atol) (h : u < m) :
    maskTermX u atol rtol (fin m) T = 1 := by
  have h0 : ¬ m < 0 := not_lt.2 (hu.trans h.le)
  by_cases hcu : XR.isclose (.fin u) (.fin m) rtol atol = true
  · exact maskTermX_close_u h0 hcu
  by_cases hc0 : XR.isclose 0 (.fin m) (1 / 100000) atol = true
  · exact maskTermX_close_zero h0 hc0
  · rw [maskTermX_far h0 hc0 hcu, if_pos h]
    exact if_pos (isclose_self_zero _ atol hat)

theorem maskTermX_regular (h0 : ¬ m < 0) (h1 : ¬ u < m)
    (hc0 : XR.isclose 0 (.fin m) (1 / 100000) atol = false)
    (hcu : XR.isclose (.fin u) (.fin m) rtol atol = false) :
    maskTermX u atol rtol (fin m) T = if XR.isclose 0 T (1 / 100000) atol then 1 else T := by
  rw [maskTermX_far h0 (Bool.eq_false_iff.1 hc0) (Bool.eq_false_iff.1 hcu), if_neg h1]

end maskTermX

/-- what the masks leave: `+inf` below `0`, the raw term strictly between `0` and `u`, and `1` otherwise
(including a raw term that is itself `isclose` to `0`) -/
theorem maskTermX_cases (u atol rtol m : Rat) (T : XR) (hat : 0 ≤ atol) (hrt : 0 ≤ rtol) :
    (m < 0 ∧ maskTermX u atol rtol (fin m) T = pinf) ∨ (0 ≤ m ∧ maskTermX u atol rtol (fin m) T = 1) ∨
    (0 < m ∧ m < u ∧ maskTermX u atol rtol (fin m) T = T) := by
  by_cases hneg : m < 0
  · exact Or.inl ⟨hneg, maskTermX_neg hneg⟩
  have hm : 0 ≤ m := not_lt.1 hneg
  right
  by_cases hcu : XR.isclose (.fin u) (.fin m) rtol atol = true
  · exact Or.inl ⟨hm, maskTermX_close_u hneg hcu⟩
  by_cases hc0 : XR.isclose 0 (.fin m) (1 / 100000) atol = true
  · exact Or.inl ⟨hm, maskTermX_close_zero hneg hc0⟩
  rw [maskTermX_far hneg hc0 hcu]
  by_cases hgt : u < m
  · rw [if_pos hgt]
    exact Or.inl ⟨hm, if_pos (isclose_self_zero _ atol hat)⟩
  · -- `m` is not close to `0` or `u`, let alone equal
    have hm0 : m ≠ 0 := fun h0 => hc0 (h0 ▸ isclose_self_zero _ _ hat)
    have hmu : m ≠ u := fun h0 => hcu (h0 ▸ isclose_self _ _ _ hat hrt)
    rw [if_neg hgt]
    split
    · exact Or.inl ⟨hm, rfl⟩
    · exact Or.inr ⟨lt_of_le_of_ne hm hm0.symm, lt_of_le_of_ne (not_lt.1 hgt) hmu, rfl⟩

theorem maskTermX_good (u atol rtol m : Rat) (T : XR) (hat : 0 ≤ atol) (hrt : 0 ≤ rtol)
    (h : 0 < m → m < u → Good T) : Good (maskTermX u atol rtol (fin m) T) := by
  rcases maskTermX_cases u atol rtol m T hat hrt with ⟨_, e⟩ | ⟨_, e⟩ | ⟨h0, hu, e⟩ <;> rw [e]
  exacts [good_pinf, good_one, h h0 hu]

theorem maskTerm_good (u atol rtol m : Rat) (T : XR) (hat : 0 ≤ atol) (hrt : 0 ≤ rtol)
    (h : 0 < m → m < u → Good T) : Good (maskTerm u atol rtol m T) :=
  maskTermX_good u atol rtol m T hat hrt h

end Shangrla.NM
