/-
  Basic lemmas about `XR` (extended rationals): arithmetic, `np.minimum` / `np.maximum` and `np.isclose`
  on finite values, products with `nan` and `inf`, and the predicates `Good` and `IsP`.
-/
import Shangrla.Num.XR
import Mathlib.Tactic.Linarith
import Mathlib.Tactic.Positivity
import Mathlib.Algebra.Order.Field.Basic
import Mathlib.Algebra.Order.Ring.Rat

namespace Shangrla.XR

@[simp] theorem fin_add (a b : Rat) : (fin a + fin b : XR) = fin (a + b) := rfl
@[simp] theorem fin_mul (a b : Rat) : (fin a * fin b : XR) = fin (a * b) := rfl
@[simp] theorem fin_neg (a : Rat) : (-(fin a) : XR) = fin (-a) := rfl
@[simp] theorem fin_sub (a b : Rat) : (fin a - fin b : XR) = fin (a - b) :=
  congrArg fin (sub_eq_add_neg a b).symm
theorem fin_div (a b : Rat) (hb : b ≠ 0) : (fin a / fin b : XR) = fin (a / b) := if_neg hb
theorem fin_div_zero (a : Rat) :
    (fin a / fin 0 : XR) = if a = 0 then nan else if 0 < a then pinf else ninf := by
  show div (fin a) (fin 0) = _
  simp [div]
theorem fin_div_zero_pos {a : Rat} (h : 0 < a) : (fin a / fin 0 : XR) = pinf := by
  rw [fin_div_zero, if_neg h.ne', if_pos h]
@[simp] theorem one_def : (1 : XR) = fin 1 := rfl
@[simp] theorem zero_def : (0 : XR) = fin 0 := rfl
theorem ofNat_def (n : Nat) : (OfNat.ofNat n : XR) = fin (n : Rat) := rfl
theorem one_div_pinf : ((1 : XR) / pinf) = fin 0 := rfl
theorem one_div_zero : ((1 : XR) / fin 0) = pinf := rfl
theorem one_div_fin {q : Rat} (h : q ≠ 0) : ((1 : XR) / fin q) = fin (1 / q) := fin_div 1 q h

@[simp] theorem lt_fin (a b : Rat) : lt (fin a) (fin b) = decide (a < b) := rfl
@[simp] theorem le_fin (a b : Rat) : le (fin a) (fin b) = decide (a ≤ b) := rfl
@[simp] theorem isNan_fin (a : Rat) : (fin a).isNan = false := rfl
@[simp] theorem isNan_pinf : pinf.isNan = false := rfl
@[simp] theorem isNan_nan : nan.isNan = true := rfl

theorem eq_nan_of_isNan {a : XR} (h : a.isNan = true) : a = nan := by
  cases a with
  | nan => rfl
  | _ => cases h

theorem nan_mul (a : XR) : (nan * a : XR) = nan := by
  cases a <;> rfl

theorem mul_nan (a : XR) : (a * nan : XR) = nan := by
  cases a <;> rfl

theorem infTimes_pos (s : XR) {q : Rat} (h : 0 < q) : infTimes s q = s := by
  rw [infTimes, if_neg h.ne', if_pos h]

/-! ### `np.minimum`, `np.maximum`, Python's `min` -/

theorem npmin_fin (a b : Rat) : npmin (fin a) (fin b) = fin (min a b) := by
  simp only [npmin, isNan_fin, Bool.or_self, Bool.false_eq_true, ↓reduceIte, lt_fin, decide_eq_true_eq]
  by_cases h : b < a
  · rw [if_pos h, min_eq_right h.le]
  · rw [if_neg h, min_eq_left (not_lt.mp h)]

theorem npmax_fin (a b : Rat) : npmax (fin a) (fin b) = fin (max a b) := by
  simp only [npmax, isNan_fin, Bool.or_self, Bool.false_eq_true, ↓reduceIte, lt_fin, decide_eq_true_eq]
  by_cases h : a < b
  · rw [if_pos h, max_eq_right h.le]
  · rw [if_neg h, max_eq_left (not_lt.mp h)]

theorem pymin_fin (a b : Rat) : pymin (fin a) (fin b) = fin (min a b) := npmin_fin a b

/-- the common shape of `np.maximum` and `np.minimum`; a `nan` result is the `nan` argument -/
theorem ite_nan_sel (a b : XR) (c : Bool) :
    (if a.isNan || b.isNan then nan else if c then b else a) = a ∨
    (if a.isNan || b.isNan then nan else if c then b else a) = b := by
  split
  · rename_i h
    rcases Bool.or_eq_true_iff.1 h with h | h
    · exact Or.inl (eq_nan_of_isNan h).symm
    · exact Or.inr (eq_nan_of_isNan h).symm
  · split
    · exact Or.inr rfl
    · exact Or.inl rfl

theorem npmax_sel (a b : XR) : npmax a b = a ∨ npmax a b = b := ite_nan_sel a b (lt a b)
theorem npmin_sel (a b : XR) : npmin a b = a ∨ npmin a b = b := ite_nan_sel a b (lt b a)

theorem isclose_fin (a b rtol atol : Rat) :
    isclose (fin a) (fin b) rtol atol = decide (|a - b| ≤ atol + rtol * |b|) := by
  have ite_abs : ∀ d : Rat, (if d < 0 then -d else d) = |d| := fun d => by
    split
    exacts [(abs_of_neg ‹_›).symm, (abs_of_nonneg (not_lt.1 ‹_›)).symm]
  simp only [isclose, ite_abs]

/-! ### `Good` and `IsP` -/

/-- a value a masked test statistic may take: a non-negative rational or `+inf` -/
def Good : XR → Prop
  | fin q => 0 ≤ q
  | pinf => True
  | _ => False

theorem good_fin {q : Rat} (h : 0 ≤ q) : Good (fin q) := h
theorem good_pinf : Good pinf := trivial
theorem good_one : Good (1 : XR) := zero_le_one (α := Rat)
theorem good_zero : Good (0 : XR) := le_refl (0 : Rat)

theorem Good.cases {x : XR} (h : Good x) : x = pinf ∨ ∃ q : Rat, 0 ≤ q ∧ x = fin q := by
  cases x with
  | fin q => exact Or.inr ⟨q, h, rfl⟩
  | pinf => exact Or.inl rfl
  | ninf => exact h.elim
  | nan => exact h.elim

theorem Good.isNan {x : XR} (h : Good x) : x.isNan = false := by
  rcases h.cases with rfl | ⟨q, _, rfl⟩ <;> rfl

theorem good_mul {a b : Rat} (ha : 0 ≤ a) (hb : 0 ≤ b) : Good (fin a * fin b) := mul_nonneg ha hb

/-- a p-value: a rational in `[0,1]` -/
def IsP : XR → Prop
  | fin q => 0 ≤ q ∧ q ≤ 1
  | _ => False

theorem isP_fin {q : Rat} (h0 : 0 ≤ q) (h1 : q ≤ 1) : IsP (fin q) := ⟨h0, h1⟩

theorem IsP.cases {x : XR} (h : IsP x) : ∃ q : Rat, x = fin q ∧ 0 ≤ q ∧ q ≤ 1 := by
  cases x with
  | fin q => exact ⟨q, rfl, h⟩
  | _ => exact h.elim

end Shangrla.XR
