/-
  Ville's inequality on the tree of independent draws from a finitely supported law
  (`L` = list of (value, weight) pairs, weights non-negative with sum 1), exact rational probabilities:
  the instance `K = ℚ` of `VilleIIDK.lean`.
-/
import Shangrla.Lemmas.VilleIIDK

namespace Shangrla.Ville

/-- `expLK` for rational weights (`expLK_rat`) -/
def expL (L : List (ℚ × ℚ)) (f : ℚ → ℚ) : ℚ := (L.map (fun p => p.2 * f p.1)).sum

/-- `hitIIDK` for rational weights (`hitIIDK_rat`): the exact probability that `ev` holds at some node
within `n` further independent draws from `L` after history `h` -/
def hitIID (L : List (ℚ × ℚ)) (ev : List ℚ → Bool) : Nat → List ℚ → ℚ
  | 0, h => if ev h then 1 else 0
  | n + 1, h => if ev h then 1 else expL L (fun v => hitIID L ev n (h ++ [v]))

theorem expLK_rat (L : List (ℚ × ℚ)) (f : ℚ → ℚ) : expLK (K := ℚ) L f = expL L f := rfl

theorem hitIIDK_rat (L : List (ℚ × ℚ)) (ev : List ℚ → Bool) :
    ∀ n h, hitIIDK (K := ℚ) L ev n h = hitIID L ev n h := by
  intro n
  induction n with
  | zero => intro h; rfl
  | succ n ih =>
    intro h
    unfold hitIIDK hitIID
    simp only [expLK_rat, ih]

theorem hitIID_le (L : List (ℚ × ℚ)) (hw : ∀ p ∈ L, 0 ≤ p.2)
    (ev : List ℚ → Bool) (val : List ℚ → ℚ) (c : ℚ) (hc : 0 < c)
    (Inv : List ℚ → Prop)
    (hev : ∀ h, Inv h → ev h = true → c ≤ val h)
    (hnn : ∀ h, Inv h → 0 ≤ val h)
    (hstep : ∀ h, Inv h → ∀ p ∈ L, Inv (h ++ [p.1]))
    (hsuper : ∀ h, Inv h → expL L (fun v => val (h ++ [v])) ≤ val h) :
    ∀ n h, Inv h → hitIID L ev n h ≤ val h / c :=
  fun n h hI => hitIIDK_rat L ev n h ▸ hitIIDK_le L hw ev val c hc Inv hev hnn hstep hsuper n h hI

theorem _root_.Shangrla.C01.hitIID_nonneg (L : List (ℚ × ℚ)) (hw : ∀ p ∈ L, 0 ≤ p.2) (hs : (L.map Prod.snd).sum = 1)
    (ev : List ℚ → Bool) : ∀ n h, 0 ≤ hitIID L ev n h :=
  fun n h => hitIIDK_rat L ev n h ▸ hitIIDK_nonneg L hw hs ev n h

/-! ### a rational-weight law read in an ordered field -/

variable {K : Type} [Field K] [LinearOrder K] [IsStrictOrderedRing K]

def castLaw (K : Type) [Field K] (L : List (ℚ × ℚ)) : List (ℚ × K) := L.map (fun p => (p.1, (p.2 : K)))

theorem ratCast_list_sum (l : List ℚ) : ((l.sum : ℚ) : K) = (l.map (fun q : ℚ => (q : K))).sum :=
  map_list_sum (Rat.castHom K) l

theorem expLK_cast (L : List (ℚ × ℚ)) (f : ℚ → ℚ) :
    expLK (castLaw K L) (fun v => ((f v : ℚ) : K)) = ((expL L f : ℚ) : K) := by
  simp only [expLK, expL, castLaw, ratCast_list_sum, List.map_map, Function.comp_def, Rat.cast_mul]

/-- so the theorems about `hitIIDK` contain those about `hitIID` for every `K`, not only for `K = ℚ` -/
theorem hitIIDK_cast (L : List (ℚ × ℚ)) (ev : List ℚ → Bool) :
    ∀ n h, hitIIDK (castLaw K L) ev n h = ((hitIID L ev n h : ℚ) : K) := by
  intro n
  induction n with
  | zero =>
    intro h
    unfold hitIIDK hitIID
    split <;> simp
  | succ n ih =>
    intro h
    unfold hitIIDK hitIID
    split
    · simp
    · rw [← expLK_cast]
      congr 1
      funext v
      exact ih _

end Shangrla.Ville
