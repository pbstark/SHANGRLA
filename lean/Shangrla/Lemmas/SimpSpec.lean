/-
  The literal model of shangrla/raire/simp_assertions.py (Model/SimpAssertions.lean; `L..` are lines of that
  file): the counters of `simple_IRV_assertions` are the tallies of the RAIRE assertions (`nebVoteW`, `nebVoteL`,
  `tally`), and the loop of `sim_irv` eliminates round by round a candidate with a smallest tally (`Rounds`, of
  which `validIRV` is an instance).  Core Lean only.
-/
import Shangrla.Model.SimpAssertions
import Shangrla.Lemmas.RaireSocial

namespace Shangrla.Simp
open Shangrla.Raire Shangrla.Raire.Spec

variable {α : Type} [DecidableEq α]

/-! ### dicts -/

def keys (d : List (α × Nat)) : List α := d.map (·.1)

theorem dictIncr_cons (a : α) (v : Nat) (d : List (α × Nat)) (k : α) :
    dictIncr ((a, v) :: d) k = (a, v + if a = k then 1 else 0) :: dictIncr d k := by
  unfold dictIncr
  rw [List.map_cons]
  by_cases h : a = k
  · rw [if_pos (beq_iff_eq.2 h), if_pos h]
  · rw [if_neg (mt beq_iff_eq.1 h), if_neg h]; rfl

theorem keys_dictIncr (d : List (α × Nat)) (k : α) : keys (dictIncr d k) = keys d := by
  induction d with
  | nil => rfl
  | cons p d ih => rw [dictIncr_cons]; exact congrArg (p.1 :: ·) ih

theorem dictGet_cons (a : α) (v : Nat) (d : List (α × Nat)) (c : α) :
    dictGet ((a, v) :: d) c = if c = a then v else dictGet d c := by
  unfold dictGet
  rw [List.lookup_cons]
  by_cases h : c = a
  · rw [if_pos h, beq_iff_eq.2 h]; rfl
  · rw [if_neg h, beq_eq_false_iff_ne.2 h]

theorem dictGet_dictIncr (d : List (α × Nat)) (k c : α) (hc : c ∈ keys d) :
    dictGet (dictIncr d k) c = dictGet d c + if c = k then 1 else 0 := by
  induction d with
  | nil => cases hc
  | cons p d ih =>
    obtain ⟨a, v⟩ := p
    rw [dictIncr_cons, dictGet_cons, dictGet_cons]
    by_cases hca : c = a
    · rw [if_pos hca, if_pos hca, hca]
    · rw [if_neg hca, if_neg hca]
      exact ih ((List.mem_cons.1 hc).resolve_left hca)

theorem dictGet_of_allZero (d : List (α × Nat)) (h : ∀ p ∈ d, p.2 = 0) (c : α) : dictGet d c = 0 := by
  induction d with
  | nil => rfl
  | cons p d ih =>
    obtain ⟨a, v⟩ := p
    rw [dictGet_cons]
    split
    · exact h (a, v) List.mem_cons_self
    · exact ih (fun p hp => h p (List.mem_cons_of_mem _ hp))

/-- the comprehension `{k : 0 for k in l}`, started from `d`: every value stays 0, the keys of `l` are added -/
theorem dictInit_fold (l : List α) (d d' : List (α × Nat)) (hz : ∀ p ∈ d, p.2 = 0)
    (hd' : l.foldl (fun d k => if d.any (fun p => p.1 == k) then d else d ++ [(k, 0)]) d = d') :
    (∀ p ∈ d', p.2 = 0) ∧ ∀ c, c ∈ keys d' ↔ c ∈ keys d ∨ c ∈ l := by
  induction l generalizing d with
  | nil => cases hd'; exact ⟨hz, fun c => (or_iff_left List.not_mem_nil).symm⟩
  | cons k l ih =>
    rw [List.foldl_cons] at hd'
    split at hd'
    · rename_i hk
      obtain ⟨p, hp, hpk⟩ := List.any_eq_true.1 hk
      have hkd : k ∈ keys d := beq_iff_eq.1 hpk ▸ List.mem_map_of_mem hp
      obtain ⟨h1, h2⟩ := ih d hz hd'
      exact ⟨h1, fun c => (h2 c).trans ⟨Or.imp_right (List.mem_cons_of_mem _), fun h => h.elim Or.inl fun h =>
        (List.mem_cons.1 h).elim (fun h => Or.inl (h ▸ hkd)) Or.inr⟩⟩
    · obtain ⟨h1, h2⟩ :=
        ih _ (fun p hp => (List.mem_append.1 hp).elim (hz p) fun h => List.mem_singleton.1 h ▸ rfl) hd'
      refine ⟨h1, fun c => ?_⟩
      rw [h2, keys, List.map_append, List.mem_append, List.map_singleton, List.mem_singleton, or_assoc, List.mem_cons]
      rfl

theorem mem_keys_dictInit (l : List α) (c : α) : c ∈ keys (dictInit l) ↔ c ∈ l :=
  ((dictInit_fold l [] _ (fun _ h => nomatch h) rfl).2 c).trans (or_iff_right List.not_mem_nil)

theorem dictGet_dictInit (l : List α) (c : α) : dictGet (dictInit l) c = 0 :=
  dictGet_of_allZero _ (dictInit_fold l [] _ (fun _ h => nomatch h) rfl).1 c

/-- `for c in l: if P(c): d[c] += 1` -/
def foldIncr (P : α → Bool) (l : List α) (m : List (α × Nat)) : List (α × Nat) :=
  l.foldl (fun m c => if P c then dictIncr m c else m) m

theorem keys_foldIncr (P : α → Bool) (l : List α) (m : List (α × Nat)) : keys (foldIncr P l m) = keys m := by
  induction l generalizing m with
  | nil => rfl
  | cons a l ih =>
    rw [foldIncr, List.foldl_cons, ← foldIncr, ih]
    split
    · exact keys_dictIncr m a
    · rfl

theorem dictGet_foldIncr (P : α → Bool) (l : List α) (m : List (α × Nat)) (c : α) (hc : c ∈ keys m) :
    dictGet (foldIncr P l m) c = dictGet m c + (if P c then l.count c else 0) := by
  induction l generalizing m with
  | nil => rw [List.count_nil, ite_self]; rfl
  | cons a l ih =>
    rw [foldIncr, List.foldl_cons, ← foldIncr, List.count_cons]
    by_cases hPa : P a = true
    · rw [if_pos hPa, ih _ (by rw [keys_dictIncr]; exact hc), dictGet_dictIncr m a c hc]
      by_cases hca : c = a
      · rw [hca, if_pos rfl, if_pos hPa, if_pos hPa, beq_self_eq_true, if_pos rfl]; omega
      · rw [if_neg hca, if_neg (mt beq_iff_eq.1 (Ne.symm hca))]; rfl
    · rw [if_neg hPa, ih m hc]
      by_cases hca : c = a
      · rw [hca, if_neg hPa, if_neg hPa]
      · rw [if_neg (mt beq_iff_eq.1 (Ne.symm hca))]; rfl

/-! ### the counters of simple_IRV_assertions -/

theorem nebVoteL_le_one (w c : α) (b : Ballot α) : nebVoteL w c (some b) ≤ 1 := by
  cases hc : ranking c b with
  | none => simp [nebVoteL, hc]
  | some li =>
    cases hw : ranking w b with
    | none => simp [nebVoteL, hc, hw]
    | some wi =>
      simp only [nebVoteL, hc, hw]
      split <;> omega

/-- a ballot that ranks `w` at position 0 mentions nobody before `w` -/
theorem nebVoteL_of_first (w c : α) (b : Ballot α) (h : ranking w b = some 0) : nebVoteL w c (some b) = 0 := by
  cases hc : ranking c b with
  | none => simp [nebVoteL, hc]
  | some li => simp [nebVoteL, hc, h]

/-- the `for c in others` loop L54-58 increments exactly the entries of the candidates the ballot counts for as
NEB losers -/
theorem mentionLoop_eq (w : α) (b : Ballot α) (others : List α) (m : List (α × Nat)) :
    mentionLoop w b others m = foldIncr (fun c => decide (nebVoteL w c (some b) = 1)) others m := by
  unfold mentionLoop foldIncr
  congr 1
  funext m c
  cases hc : ranking c b with
  | none => simp [nebVoteL, hc]
  | some ci =>
    cases hw : ranking w b with
    | none => simp [nebVoteL, hc, hw]
    | some wi =>
      by_cases h : ci < wi <;> simp [nebVoteL, hc, hw, h]

section
variable (w r : α) (others : List α) (s : Counts α) (b : Ballot α)

theorem ballotStep_wTally1 : (ballotStep w r others s b).wTally1 = s.wTally1 + voteForCand w others b := by
  unfold ballotStep; split <;> rfl

theorem ballotStep_rTally1 : (ballotStep w r others s b).rTally1 = s.rTally1 + voteForCand r others b := by
  unfold ballotStep; split <;> rfl

theorem ballotStep_minW2 : (ballotStep w r others s b).minW2 = s.minW2 + nebVoteW w (some b) := by
  simp only [ballotStep, nebVoteW]
  split <;> rfl

theorem keys_ballotStep : keys (ballotStep w r others s b).maxCW2 = keys s.maxCW2 := by
  unfold ballotStep
  split
  · rfl
  · exact (congrArg keys (mentionLoop_eq ..)).trans (keys_foldIncr ..)

/-- `max_c_w_2[c]` grows by the ballot's NEB loser vote for `c`, once per occurrence of `c` in `others` -/
theorem dictGet_ballotStep (c : α) (hc : c ∈ keys s.maxCW2) :
    dictGet (ballotStep w r others s b).maxCW2 c = dictGet s.maxCW2 c + others.count c * nebVoteL w c (some b) := by
  unfold ballotStep
  split
  · rename_i h
    rw [nebVoteL_of_first w c b h]; rfl
  · show dictGet (mentionLoop w b others s.maxCW2) c = _
    rw [mentionLoop_eq, dictGet_foldIncr _ _ _ _ hc]
    have : nebVoteL w c (some b) = 0 ∨ nebVoteL w c (some b) = 1 := by
      have := nebVoteL_le_one w c b; omega
    rcases this with h | h <;> simp [h]

end

/-- **The counters are the tallies of the RAIRE assertions**: `w_tally_1`, `r_tally_1` are the NEN tallies of
`winner`, `runner_up` with `others` eliminated; `min_w_2` is the NEB winner tally; `max_c_w_2[c]` is, for every `c`
occurring once in `others`, the NEB loser tally of `c` against `winner` -/
theorem countBallots_spec (w r : α) (others : List α) (cvrs : List (Option (Ballot α))) :
    (countBallots w r others (cvrs.filterMap id)).wTally1 = tally (cvrs.filterMap id) w others ∧
    (countBallots w r others (cvrs.filterMap id)).rTally1 = tally (cvrs.filterMap id) r others ∧
    (countBallots w r others (cvrs.filterMap id)).minW2 = (cvrs.map (nebVoteW w)).sum ∧
    ∀ c, others.count c = 1 →
      dictGet (countBallots w r others (cvrs.filterMap id)).maxCW2 c = (cvrs.map (nebVoteL w c)).sum := by
  unfold countBallots
  -- a counter that every ballot `b` increases by `g b` ends as the sum of `g` over the ballots
  have sum := fun (m : Counts α → Nat) g (h : ∀ s b, m (ballotStep w r others s b) = m s + g b) =>
    foldl_add_sum _ (fun _ => True) m g (fun _ _ _ => trivial) (fun s b _ => h s b) (cvrs.filterMap id)
      { wTally1 := 0, rTally1 := 0, minW2 := 0, maxCW2 := dictInit others } trivial
  refine ⟨(sum (·.wTally1) _ (ballotStep_wTally1 w r others)).trans (Nat.zero_add _),
    (sum (·.rTally1) _ (ballotStep_rTally1 w r others)).trans (Nat.zero_add _), ?_, fun c hc => ?_⟩
  · rw [sum_cvrs_eq cvrs (nebVoteW w) rfl]
    exact (sum (·.minW2) _ (ballotStep_minW2 w r others)).trans (Nat.zero_add _)
  · rw [sum_cvrs_eq cvrs (nebVoteL w c) rfl,
      foldl_add_sum _ (fun s : Counts α => c ∈ keys s.maxCW2) (fun s => dictGet s.maxCW2 c)
        (fun b => nebVoteL w c (some b)) (fun s b hs => (keys_ballotStep w r others s b).symm ▸ hs)
        (fun s b hs => by rw [dictGet_ballotStep w r others s b c hs, hc, Nat.one_mul]) _ _
        ((mem_keys_dictInit others c).2 (List.count_pos_iff.1 (hc ▸ Nat.one_pos))),
      dictGet_dictInit, Nat.zero_add]

/-! ### the two result lists -/

/-- the final loop L71-79 appends, in the order of `others`, a NEB assertion for every candidate whose tallies
allow it and a failure for every other one -/
theorem nebFold_spec (w : α) (s : Counts α) (l : List α) (acc : List (Assertion α Unit) × List (Failure α)) :
    l.foldl (nebStep w s) acc =
      (acc.1 ++ (l.filter fun c => decide (s.minW2 > dictGet s.maxCW2 c)).map (fun c => nebOf w c s),
       acc.2 ++ (l.filter fun c => !decide (s.minW2 > dictGet s.maxCW2 c)).map (fun c => ⟨.neb, w, c, []⟩)) := by
  induction l generalizing acc with
  | nil => simp
  | cons c l ih =>
    rw [List.foldl_cons, ih, nebStep]
    by_cases h : s.minW2 > dictGet s.maxCW2 c <;> simp [h]

/-- the counters `simple_IRV_assertions` holds after its loop over the CVRs (L37-58), for winner `w` and runner-up `r` -/
abbrev countsOf (C : Contest α) (cvrs : List (Option (Ballot α))) (w r : α) : Counts α :=
  countBallots w r (othersOf C w r) (cvrs.filterMap id)

theorem mem_simple_iff (C : Contest α) (cvrs : List (Option (Ballot α))) (w r : α) (a : Assertion α Unit) :
    a ∈ (simpleIrvAssertions C cvrs w r).1 ↔
      (a = nenOf w r (othersOf C w r) (countsOf C cvrs w r) ∧
        (countsOf C cvrs w r).rTally1 < (countsOf C cvrs w r).wTally1) ∨
      ∃ c ∈ othersOf C w r, a = nebOf w c (countsOf C cvrs w r) ∧
        dictGet (countsOf C cvrs w r).maxCW2 c < (countsOf C cvrs w r).minW2 := by
  unfold simpleIrvAssertions
  simp only [nebFold_spec, List.mem_append, List.mem_map, List.mem_filter, decide_eq_true_eq]
  refine or_congr ?_ ⟨fun ⟨c, hc, h⟩ => ⟨c, hc.1, h.symm, hc.2⟩,
    fun ⟨c, hc, h, hlt⟩ => ⟨c, ⟨hc, hlt⟩, h.symm⟩⟩
  split
  · rename_i h
    exact ⟨fun ha => ⟨List.mem_singleton.1 ha, h⟩, fun ha => List.mem_singleton.2 ha.1⟩
  · rename_i h
    exact ⟨fun ha => (nomatch ha), fun ha => absurd ha.2 h⟩

theorem mem_othersOf (C : Contest α) (w r c : α) : c ∈ othersOf C w r ↔ c ∈ C.candidates ∧ c ≠ w ∧ c ≠ r := by
  simp [othersOf]

theorem nodup_othersOf (C : Contest α) (hC : C.candidates.Nodup) (w r : α) : (othersOf C w r).Nodup :=
  hC.filter _

/-! ### sim_irv -/

/-- L92-97: with `standing` duplicate-free, `tallies[c]` is the tally of `c` once `eliminated` are gone -/
theorem roundTallies_spec (ballots : List (Ballot α)) (standing elim : List α) (hnd : standing.Nodup)
    (c : α) (hc : c ∈ standing) : dictGet (roundTallies ballots standing elim) c = tally ballots c elim := by
  unfold roundTallies
  rw [foldl_add_sum _ (fun t => c ∈ keys t) (fun t => dictGet t c) (voteForCand c elim)
      (fun t b ht => (keys_foldIncr (fun c => voteForCand c elim b != 0) standing t).symm ▸ ht) ?_ _ _
      ((mem_keys_dictInit standing c).2 hc), dictGet_dictInit, Nat.zero_add]
  · rfl
  · intro t b ht
    refine (dictGet_foldIncr (fun c => voteForCand c elim b != 0) standing t c ht).trans ?_
    rw [hnd.count, if_pos hc]
    have : voteForCand c elim b = 0 ∨ voteForCand c elim b = 1 := by
      have := voteForCand_le_one c elim b; omega
    rcases this with h | h <;> rw [h] <;> rfl

/-- the body of the loop L101-105 -/
def pickStep (t : List (α × Nat)) (acc : Option (α × Nat)) (c : α) : Option (α × Nat) :=
  match acc with
  | none => some (c, dictGet t c)
  | some (_, elimtally) => if dictGet t c < elimtally then some (c, dictGet t c) else acc

/-- the loop L101-105 from a candidate `x` that is the first smallest of those seen, `p ++ x :: q` -/
theorem pickFold_spec (t : List (α × Nat)) (l : List α) : ∀ (p : List α) (x : α) (q : List α),
    (∀ y ∈ p, dictGet t x < dictGet t y) → (∀ y ∈ q, dictGet t x ≤ dictGet t y) →
    ∃ x' p' q', l.foldl (pickStep t) (some (x, dictGet t x)) = some (x', dictGet t x') ∧
      p ++ x :: (q ++ l) = p' ++ x' :: q' ∧
      (∀ y ∈ p', dictGet t x' < dictGet t y) ∧ (∀ y ∈ q', dictGet t x' ≤ dictGet t y) := by
  induction l with
  | nil => exact fun p x q hp hq => ⟨x, p, q, rfl, by rw [List.append_nil], hp, hq⟩
  | cons c l ih =>
    intro p x q hp hq
    have hstep : pickStep t (some (x, dictGet t x)) c =
        if dictGet t c < dictGet t x then some (c, dictGet t c) else some (x, dictGet t x) := rfl
    rw [List.foldl_cons, hstep]
    by_cases hlt : dictGet t c < dictGet t x
    · -- `c` is strictly smaller than everything seen
      rw [if_pos hlt]
      have hp' : ∀ y ∈ p ++ x :: q, dictGet t c < dictGet t y := fun y hy => by
        rcases List.mem_append.1 hy with hy | hy
        · exact Nat.lt_trans hlt (hp y hy)
        · rcases List.mem_cons.1 hy with rfl | hy
          · exact hlt
          · exact Nat.lt_of_lt_of_le hlt (hq y hy)
      obtain ⟨x', p', q', h1, h2, h3⟩ := ih (p ++ x :: q) c [] hp' (fun _ h => nomatch h)
      exact ⟨x', p', q', h1, (List.append_assoc p (x :: q) (c :: l)).symm.trans h2, h3⟩
    · rw [if_neg hlt]
      obtain ⟨x', p', q', h1, h2, h3⟩ := ih p x (q ++ [c]) hp fun y hy =>
        (List.mem_append.1 hy).elim (hq y) fun hy => List.mem_singleton.1 hy ▸ Nat.le_of_not_lt hlt
      exact ⟨x', p', q', h1, by rw [← h2, List.append_cons q c l], h3⟩

/-- L99-105: the candidate picked is the FIRST one of `standing` whose tally is smallest -/
theorem pickMin_spec (t : List (α × Nat)) (standing : List α) (hne : standing ≠ []) :
    ∃ x p q, pickMin t standing = some (x, dictGet t x) ∧ standing = p ++ x :: q ∧
      (∀ y ∈ p, dictGet t x < dictGet t y) ∧ (∀ y ∈ q, dictGet t x ≤ dictGet t y) := by
  obtain ⟨c, l, rfl⟩ := List.exists_cons_of_ne_nil hne
  exact pickFold_spec t l [] c [] (fun _ h => nomatch h) (fun _ h => nomatch h)

theorem pickMin_min (t : List (α × Nat)) {standing : List α} (hne : standing ≠ []) :
    ∃ x, pickMin t standing = some (x, dictGet t x) ∧ x ∈ standing ∧
      ∀ y ∈ standing, dictGet t x ≤ dictGet t y := by
  obtain ⟨x, p, q, h1, rfl, hp, hq⟩ := pickMin_spec t standing hne
  refine ⟨x, h1, List.mem_append_right _ List.mem_cons_self, fun y hy => ?_⟩
  rcases List.mem_append.1 hy with hy | hy
  · exact Nat.le_of_lt (hp y hy)
  · rcases List.mem_cons.1 hy with rfl | hy
    · exact Nat.le_refl _
    · exact hq y hy

theorem simLoop_done (ballots : List (Ballot α)) (n : Nat) {standing : List α} (elim : List α)
    (h : standing.length ≤ 1) : simLoop ballots n standing elim = Res.ok (standing, elim) := by
  cases n <;> rw [simLoop, if_neg (Nat.not_lt.2 h)]

theorem simLoop_iter (ballots : List (Ballot α)) (n : Nat) {standing : List α} (elim : List α)
    (h : 1 < standing.length) :
    ∃ x ∈ standing, (∀ y ∈ standing, dictGet (roundTallies ballots standing elim) x ≤
        dictGet (roundTallies ballots standing elim) y) ∧
      simLoop ballots (n + 1) standing elim = simLoop ballots n (standing.erase x) (elim ++ [x]) ∧
      (standing.erase x).length + 1 = standing.length := by
  have hpos := Nat.lt_trans Nat.zero_lt_one h
  obtain ⟨x, hpick, hx, hmin⟩ := pickMin_min (roundTallies ballots standing elim) (List.ne_nil_of_length_pos hpos)
  refine ⟨x, hx, hmin, ?_, by rw [List.length_erase_of_mem hx, Nat.sub_add_cancel hpos]⟩
  rw [simLoop, if_pos h]
  simp only [hpick]

/-- the `while` loop terminates within `len(standing) - 1` iterations and raises nothing, whatever the candidate
list -/
theorem simLoop_total (ballots : List (Ballot α)) : ∀ (n : Nat) (standing elim : List α),
    standing.length ≤ n + 1 →
    ∃ s e, simLoop ballots n standing elim = Res.ok (s, e) ∧ s.length ≤ 1 ∧ (standing ≠ [] → s ≠ []) ∧
      e.length + s.length = elim.length + standing.length := by
  intro n
  induction n with
  | zero => exact fun standing elim h => ⟨standing, elim, simLoop_done ballots 0 elim h, h, id, rfl⟩
  | succ n ih =>
    intro standing elim h
    by_cases hl : standing.length ≤ 1
    · exact ⟨standing, elim, simLoop_done ballots _ elim hl, hl, id, rfl⟩
    · have hl := Nat.lt_of_not_le hl
      obtain ⟨x, _, _, hstep, hlen⟩ := simLoop_iter ballots n elim hl
      rw [← hlen] at h hl
      obtain ⟨s, e, h1, h2, h3, h4⟩ := ih (standing.erase x) (elim ++ [x]) (Nat.le_of_succ_le_succ h)
      refine ⟨s, e, hstep.trans h1, h2,
        fun _ => h3 (List.ne_nil_of_length_pos (Nat.lt_of_succ_lt_succ hl)), ?_⟩
      rw [h4, List.length_append, List.length_singleton, Nat.add_assoc, Nat.add_comm 1, hlen]

/-! ### elimination orders round by round -/

/-- every candidate of `l`, at the moment it goes — after `e` and those before it in `l` — compares by `R` with
everybody after it. `validIRV` is the instance `R = (· ≤ ·)`, `e = []` (`validIRV_iff_rounds`). -/
def Rounds (R : Nat → Nat → Prop) (ballots : List (Ballot α)) (e l : List α) : Prop :=
  ∀ p x q, l = p ++ x :: q → ∀ y ∈ q, R (tally ballots x (e ++ p)) (tally ballots y (e ++ p))

theorem validIRV_iff_rounds {ballots : List (Ballot α)} {π : List α} :
    validIRV ballots π ↔ Rounds (· ≤ ·) ballots [] π := Iff.rfl

theorem rounds_nil {R : Nat → Nat → Prop} {ballots : List (Ballot α)} {e : List α} : Rounds R ballots e [] :=
  fun p _ _ h => by cases p <;> cases h

theorem rounds_cons {R : Nat → Nat → Prop} {ballots : List (Ballot α)} {e : List α} {x : α} {l : List α} :
    Rounds R ballots e (x :: l) ↔
      (∀ y ∈ l, R (tally ballots x e) (tally ballots y e)) ∧ Rounds R ballots (e ++ [x]) l := by
  constructor
  · intro h
    refine ⟨fun y hy => ?_, fun p z q hl y hy => ?_⟩
    · have := h [] x l rfl y hy
      rwa [List.append_nil] at this
    · have := h (x :: p) z q (congrArg (x :: ·) hl) y hy
      rwa [List.append_cons] at this
  · rintro ⟨h1, h2⟩ p z q hl y hy
    cases p with
    | nil =>
      cases hl
      rw [List.append_nil]
      exact h1 y hy
    | cons a p =>
      cases hl
      rw [List.append_cons]
      exact h2 p z q rfl y hy

/-- without ties the count is unique: an order in which every eliminated candidate has strictly the fewest votes
is the only one in which every eliminated candidate has a smallest tally -/
theorem rounds_unique (ballots : List (Ballot α)) (l : List α) : ∀ (e l' : List α), l'.Perm l →
    Rounds (· < ·) ballots e l → Rounds (· ≤ ·) ballots e l' → l' = l := by
  induction l with
  | nil => exact fun _ _ hp _ _ => hp.eq_nil
  | cons x l ih =>
    intro e l' hp hs hv
    cases l' with
    | nil => exact nomatch hp.symm.eq_nil
    | cons x' l' =>
      obtain ⟨s1, s2⟩ := rounds_cons.1 hs
      obtain ⟨v1, v2⟩ := rounds_cons.1 hv
      have hxx : x' = x := by
        apply Classical.byContradiction
        intro hne
        have h1 : x' ∈ l := (List.mem_cons.1 (hp.mem_iff.1 List.mem_cons_self)).resolve_left hne
        have h2 : x ∈ l' := (List.mem_cons.1 (hp.mem_iff.2 List.mem_cons_self)).resolve_left (Ne.symm hne)
        exact Nat.lt_irrefl _ (Nat.lt_of_lt_of_le (s1 x' h1) (v1 x h2))
      subst hxx
      rw [ih _ l' hp.cons_inv s2 v2]

/-- the loop on a duplicate-free `standing`: it ends with one candidate standing; the sequence of eliminations
followed by that candidate is an arrangement of `standing` in which every candidate, at the moment it goes, has a
smallest tally among those still standing -/
theorem simLoop_spec (ballots : List (Ballot α)) : ∀ (n : Nat) (standing elim : List α),
    standing.Nodup → standing ≠ [] → standing.length ≤ n + 1 →
    ∃ order s0, simLoop ballots n standing elim = Res.ok ([s0], elim ++ order) ∧
      (order ++ [s0]).Perm standing ∧
      ∀ p x q, order ++ [s0] = p ++ x :: q → ∀ y ∈ q,
        tally ballots x (elim ++ p) ≤ tally ballots y (elim ++ p) := by
  -- a single candidate is left standing
  have last : ∀ (n : Nat) (standing elim : List α), standing ≠ [] → standing.length ≤ 1 →
      ∃ order s0, simLoop ballots n standing elim = Res.ok ([s0], elim ++ order) ∧
        (order ++ [s0]).Perm standing ∧ Rounds (· ≤ ·) ballots elim (order ++ [s0]) := by
    intro n standing elim hne hl
    match standing, hne, hl with
    | [s0], _, hl =>
      exact ⟨[], s0, by rw [simLoop_done ballots n elim hl, List.append_nil], List.Perm.refl _,
        rounds_cons.2 ⟨fun _ h => (nomatch h), rounds_nil⟩⟩
  intro n
  induction n with
  | zero => exact fun standing elim _ hne h => last 0 standing elim hne h
  | succ n ih =>
    intro standing elim hnd hne h
    by_cases hl : standing.length ≤ 1
    · exact last _ standing elim hne hl
    · have hl := Nat.lt_of_not_le hl
      obtain ⟨x, hx, hmin, hstep, hlen⟩ := simLoop_iter ballots n elim hl
      rw [← hlen] at h hl
      obtain ⟨order, s0, h1, h2, h3⟩ := ih (standing.erase x) (elim ++ [x]) (hnd.erase x)
        (List.ne_nil_of_length_pos (Nat.lt_of_succ_lt_succ hl)) (Nat.le_of_succ_le_succ h)
      refine ⟨x :: order, s0, ?_, (List.Perm.cons x h2).trans (List.perm_cons_erase hx).symm,
        rounds_cons.2 ⟨fun y hy => ?_, h3⟩⟩
      · rw [hstep, h1, List.append_assoc]; rfl
      · have hy : y ∈ standing := List.mem_of_mem_erase (h2.mem_iff.1 hy)
        rw [← roundTallies_spec ballots standing elim hnd x hx, ← roundTallies_spec ballots standing elim hnd y hy]
        exact hmin y hy

end Shangrla.Simp
