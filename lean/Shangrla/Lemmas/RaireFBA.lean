/-
  `findBestAudit` at a single node (DESIGN.md Appendix F, FBA-sound and FBA-min): it returns a cheapest of the
  assertions `candAt` it examines, and each of those is a true assertion of the family that contradicts every
  complete order ending in the node's tail.  Core Lean only.
-/
import Shangrla.Lemmas.RaireSpec

namespace Shangrla.Raire
open Spec

variable {α : Type} [DecidableEq α] {D : Type} [DiffOrd D]

/-! ### the order on `D` and `Diff D` -/

namespace Diff
theorem le_total [DiffOrd.Lawful D] (a b : Diff D) : Diff.le a b = true ∨ Diff.le b a = true := by
  cases a <;> cases b <;> simp [Diff.le]
  exact DiffOrd.Lawful.le_total _ _

theorem le_refl [DiffOrd.Lawful D] (a : Diff D) : Diff.le a a = true := (le_total a a).elim id id

theorem le_trans [DiffOrd.Lawful D] {a b c : Diff D} (h1 : Diff.le a b = true) (h2 : Diff.le b c = true) :
    Diff.le a c = true := by
  cases a <;> cases b <;> cases c <;> simp_all [Diff.le]
  exact DiffOrd.Lawful.le_trans _ _ _ h1 h2

theorem lt_iff_not_le [DiffOrd.Lawful D] (a b : Diff D) : Diff.lt a b = true ↔ Diff.le b a = false := by
  cases a with
  | fin x => cases b with
    | fin y => exact DiffOrd.Lawful.lt_iff_not_le x y
    | inf => simp [Diff.lt, Diff.le]
  | inf => cases b <;> simp [Diff.lt, Diff.le]

theorem le_of_not_le [DiffOrd.Lawful D] {a b : Diff D} (h : Diff.le a b = false) : Diff.le b a = true :=
  (le_total a b).resolve_left (by rw [h]; exact Bool.false_ne_true)

theorem le_of_lt [DiffOrd.Lawful D] {a b : Diff D} (h : Diff.lt a b = true) : Diff.le a b = true :=
  le_of_not_le ((lt_iff_not_le a b).1 h)

theorem le_of_not_lt [DiffOrd.Lawful D] {a b : Diff D} (h : Diff.lt a b = false) : Diff.le b a = true := by
  cases hb : Diff.le b a with
  | true => rfl
  | false => rw [(lt_iff_not_le a b).2 hb] at h; cases h

theorem le_inf (a : Diff D) : Diff.le a Diff.inf = true := by cases a <;> rfl

section
omit [DiffOrd D]
theorem isInf_iff (a : Diff D) : a.isInf = true ↔ a = Diff.inf := by cases a <;> simp [Diff.isInf]
end

theorem inf_le_iff (a : Diff D) : Diff.le Diff.inf a = true ↔ a = Diff.inf := by
  cases a <;> simp [Diff.le]

/-- Python's `max(a, b)` (the first argument unless the second is strictly larger) is above both -/
theorem le_max_left [DiffOrd.Lawful D] (a b : Diff D) : Diff.le a (if Diff.lt a b then b else a) = true := by
  by_cases h : Diff.lt a b = true
  · rw [if_pos h]; exact le_of_lt h
  · rw [if_neg h]; exact le_refl a

theorem le_max_right [DiffOrd.Lawful D] (a b : Diff D) : Diff.le b (if Diff.lt a b then b else a) = true := by
  by_cases h : Diff.lt a b = true
  · rw [if_pos h]; exact le_refl b
  · rw [if_neg h]; exact le_of_not_lt (Bool.eq_false_iff.2 h)
end Diff

theorem DiffOrd.Lawful.le_refl [DiffOrd.Lawful D] (a : D) : DiffOrd.le a a = true := Diff.le_refl (Diff.fin a)

/-! ### `pick` and folds of `pick` -/

omit [DecidableEq α] in
theorem pick_eq_none {best c : Option (Assertion α D)} : pick best c = none ↔ best = none ∧ c = none := by
  cases best <;> cases c <;> simp [pick]
  split <;> simp

omit [DecidableEq α] in
theorem pick_some {best c : Option (Assertion α D)} {a : Assertion α D} (h : pick best c = some a) :
    (best = some a ∨ c = some a) ∧
    ∀ [DiffOrd.Lawful D] b, best = some b ∨ c = some b → DiffOrd.le a.difficulty b.difficulty = true := by
  cases best with
  | none =>
    cases c with
    | none => cases h
    | some x =>
      cases h
      exact ⟨Or.inr rfl, fun b hb => by rcases hb with hb | hb <;> cases hb; exact DiffOrd.Lawful.le_refl _⟩
  | some y =>
    cases c with
    | none =>
      cases h
      exact ⟨Or.inl rfl, fun b hb => by rcases hb with hb | hb <;> cases hb; exact DiffOrd.Lawful.le_refl _⟩
    | some x =>
      simp only [pick] at h
      by_cases hl : DiffOrd.lt x.difficulty y.difficulty = true
      · rw [if_pos hl] at h; cases h
        refine ⟨Or.inr rfl, fun b hb => ?_⟩
        rcases hb with hb | hb <;> cases hb
        · exact Diff.le_of_lt (a := .fin _) (b := .fin _) hl
        · exact DiffOrd.Lawful.le_refl _
      · rw [if_neg hl] at h; cases h
        refine ⟨Or.inl rfl, fun b hb => ?_⟩
        rcases hb with hb | hb <;> cases hb
        · exact DiffOrd.Lawful.le_refl _
        · exact Diff.le_of_not_lt (a := .fin _) (b := .fin _) (Bool.eq_false_iff.2 hl)

omit [DecidableEq α] in
theorem foldl_pick_none (l : List (Option (Assertion α D))) (init : Option (Assertion α D)) :
    l.foldl pick init = none ↔ init = none ∧ ∀ x ∈ l, x = none := by
  induction l generalizing init with
  | nil => simp
  | cons x l ih => simp only [List.foldl_cons, ih, pick_eq_none, List.mem_cons, forall_eq_or_imp, and_assoc]

omit [DecidableEq α] in
theorem foldl_pick_some (l : List (Option (Assertion α D))) (init : Option (Assertion α D))
    {a : Assertion α D} (h : l.foldl pick init = some a) :
    (init = some a ∨ some a ∈ l) ∧
    ∀ [DiffOrd.Lawful D] b, init = some b ∨ some b ∈ l → DiffOrd.le a.difficulty b.difficulty = true := by
  induction l generalizing init with
  | nil =>
    cases h
    exact ⟨Or.inl rfl, fun b hb => by rcases hb with hb | hb <;> cases hb; exact DiffOrd.Lawful.le_refl _⟩
  | cons x l ih =>
    obtain ⟨h1, h2⟩ := ih _ h
    refine ⟨?_, fun b hb => ?_⟩
    · rcases h1 with h1 | h1
      · exact (pick_some h1).1.imp id (fun hx => by rw [← hx]; exact List.mem_cons_self)
      · exact Or.inr (List.mem_cons_of_mem _ h1)
    · rw [List.mem_cons, ← or_assoc] at hb
      rcases hb with hb | hb
      · -- `b` took part in the first `pick`, whose result `m` the fold has seen
        cases hp : pick init x with
        | none =>
          obtain ⟨rfl, rfl⟩ := pick_eq_none.1 hp
          rcases hb with hb | hb <;> cases hb
        | some m =>
          exact DiffOrd.Lawful.le_trans _ _ _ (h2 m (Or.inl hp))
            ((pick_some hp).2 b (hb.imp id Eq.symm))
      · exact h2 b (Or.inr hb)

/-! ### the NEB table -/

theorem lookup_map_self {β : Type} (f : α → β) (l : List α) (c : α) (hc : c ∈ l) :
    (l.map fun x => (x, f x)).lookup c = some (f c) := by
  induction l with
  | nil => cases hc
  | cons x l ih =>
    rw [List.map_cons, List.lookup_cons]
    by_cases h : c = x
    · rw [h, beq_self_eq_true]
    · rw [beq_eq_false_iff_ne.2 h]; exact ih ((List.mem_cons.1 hc).resolve_left h)

omit [DiffOrd D] in
theorem nebLookup_table (asn : Nat → Nat → Nat → Nat → D) (C : Contest α) (cvrs : List (Option (Ballot α)))
    (c d : α) (hc : c ∈ C.candidates) (hd : d ∈ C.candidates) :
    nebLookup (nebTable asn C cvrs) c d = if c = d then none else mkNeb asn C cvrs c d := by
  unfold nebLookup nebTable
  rw [lookup_map_self (fun c => C.candidates.map fun d => (d, if c = d then none else mkNeb asn C cvrs c d)) _ c hc]
  simp only
  rw [lookup_map_self (fun d => if c = d then none else mkNeb asn C cvrs c d) _ d hd]

/-! ### the assertions examined at a node -/

/-- the candidate assertions `find_best_audit` examines for a node with tail `tail`, in examination
order (`none` where the tally inequality fails) -/
def candAt (asn : Nat → Nat → Nat → Nat → D) (C : Contest α) (ballots : List (Ballot α))
    (nebs : NebTable α D) (tail : List α) : List (Option (Assertion α D)) :=
  match tail with
  | [] => []
  | first :: rest =>
    rest.map (fun later => nebLookup nebs first later)
    ++ (notIn C tail).flatMap (fun cand => tail.map fun cit => nebLookup nebs cand cit)
    ++ rest.map (fun later => mkNen asn C ballots tail first later)

theorem findBestAudit_eq (asn : Nat → Nat → Nat → Nat → D) (C : Contest α) (ballots : List (Ballot α))
    (nebs : NebTable α D) (tail : List α) :
    findBestAudit asn C ballots nebs tail =
      match (candAt asn C ballots nebs tail).foldl pick none with
      | none => (none, Diff.inf)
      | some a => (some a, Diff.fin a.difficulty) := by
  cases tail with
  | nil => simp [findBestAudit, candAt]
  | cons first rest =>
    simp only [findBestAudit, candAt, List.foldl_append, List.foldl_map, List.foldl_flatMap]
    rfl

/-- `find_best_audit` finds nothing (estimate `inf`) when no examined assertion exists; otherwise it returns an
examined assertion of least difficulty, and its difficulty as the estimate -/
theorem fba_cases (asn : Nat → Nat → Nat → Nat → D) (C : Contest α) (ballots : List (Ballot α))
    (nebs : NebTable α D) (tail : List α) :
    ((findBestAudit asn C ballots nebs tail).1 = none ∧ (findBestAudit asn C ballots nebs tail).2 = Diff.inf ∧
      ∀ x ∈ candAt asn C ballots nebs tail, x = none) ∨
    ∃ a, (findBestAudit asn C ballots nebs tail).1 = some a ∧
      (findBestAudit asn C ballots nebs tail).2 = Diff.fin a.difficulty ∧
      some a ∈ candAt asn C ballots nebs tail ∧
      ∀ [DiffOrd.Lawful D] b, some b ∈ candAt asn C ballots nebs tail →
        DiffOrd.le a.difficulty b.difficulty = true := by
  rw [findBestAudit_eq]
  cases h : (candAt asn C ballots nebs tail).foldl pick none with
  | none => exact Or.inl ⟨rfl, rfl, ((foldl_pick_none _ _).1 h).2⟩
  | some a =>
    obtain ⟨h1, h2⟩ := foldl_pick_some _ _ h
    exact Or.inr ⟨a, rfl, rfl, h1.resolve_left (fun h => nomatch h), fun b hb => h2 b (Or.inr hb)⟩

/-- `find_best_audit` returns no assertion exactly when none of the candidates it examines exists -/
theorem fba_none_iff (asn : Nat → Nat → Nat → Nat → D) (C : Contest α) (ballots : List (Ballot α))
    (nebs : NebTable α D) (tail : List α) :
    (findBestAudit asn C ballots nebs tail).1 = none ↔ ∀ x ∈ candAt asn C ballots nebs tail, x = none := by
  rcases fba_cases asn C ballots nebs tail with ⟨h0, _, hall⟩ | ⟨a, ha, _, hmem, _⟩
  · exact ⟨fun _ => hall, fun _ => h0⟩
  · exact ⟨fun h => (nomatch ha.symm.trans h), fun hall => (nomatch hall _ hmem)⟩

theorem fba_estimate (asn : Nat → Nat → Nat → Nat → D) (C : Contest α) (ballots : List (Ballot α))
    (nebs : NebTable α D) (tail : List α) :
    (findBestAudit asn C ballots nebs tail).2 =
      match (findBestAudit asn C ballots nebs tail).1 with
      | none => Diff.inf
      | some a => Diff.fin a.difficulty := by
  rw [findBestAudit_eq]
  cases (candAt asn C ballots nebs tail).foldl pick none <;> rfl

theorem fba_inf_iff (asn : Nat → Nat → Nat → Nat → D) (C : Contest α) (ballots : List (Ballot α))
    (nebs : NebTable α D) (tail : List α) :
    (findBestAudit asn C ballots nebs tail).2 = Diff.inf ↔ (findBestAudit asn C ballots nebs tail).1 = none := by
  rw [fba_estimate]
  cases (findBestAudit asn C ballots nebs tail).1 <;> simp

/-- the assertion `find_best_audit` returns is no harder than any candidate it examines -/
theorem fba_min [DiffOrd.Lawful D] (asn : Nat → Nat → Nat → Nat → D) (C : Contest α)
    (ballots : List (Ballot α)) (nebs : NebTable α D) (tail : List α) {a : Assertion α D}
    (h : (findBestAudit asn C ballots nebs tail).1 = some a) :
    ∀ b, some b ∈ candAt asn C ballots nebs tail → DiffOrd.le a.difficulty b.difficulty = true := by
  rcases fba_cases asn C ballots nebs tail with ⟨h0, _⟩ | ⟨a', ha', _, _, hmin⟩
  · rw [h0] at h; cases h
  · rw [ha'] at h; cases h; exact hmin

theorem fba_estimate_le [DiffOrd.Lawful D] (asn : Nat → Nat → Nat → Nat → D) (C : Contest α)
    (ballots : List (Ballot α)) (nebs : NebTable α D) (tail : List α) (b : Assertion α D)
    (hb : some b ∈ candAt asn C ballots nebs tail) :
    Diff.le (findBestAudit asn C ballots nebs tail).2 (Diff.fin b.difficulty) = true := by
  rcases fba_cases asn C ballots nebs tail with ⟨_, _, h0⟩ | ⟨a, _, he, _, hmin⟩
  · cases h0 _ hb
  · rw [he]; exact hmin b hb

/-! ### what the examined assertions are: FBA-sound -/

theorem mem_notIn {C : Contest α} {tail : List α} {y : α} :
    y ∈ notIn C tail ↔ y ∈ C.candidates ∧ y ∉ tail := by
  simp [notIn]

theorem mem_notIn_suffix {C : Contest α} (hC : C.candidates.Nodup) {pre t : List α}
    (hπ : (pre ++ t).Perm C.candidates) (y : α) : y ∈ notIn C t ↔ y ∈ pre := by
  rw [mem_notIn]
  constructor
  · rintro ⟨h1, h2⟩
    exact (List.mem_append.1 (hπ.mem_iff.2 h1)).resolve_right h2
  · intro hy
    exact ⟨hπ.mem_iff.1 (List.mem_append_left _ hy),
      fun h2 => (List.nodup_append.1 (hπ.nodup_iff.2 hC)).2.2 y hy y h2 rfl⟩

/-- the shape of an assertion examined at `tail = first :: rest` -/
def Shape (C : Contest α) (first : α) (rest : List α) (a : Assertion α D) : Prop :=
  (a.kind = .neb ∧ a.rulesOut = [] ∧ a.eliminated = [] ∧
    ((a.winner = first ∧ a.loser ∈ rest) ∨
     (a.winner ∈ C.candidates ∧ a.winner ∉ first :: rest ∧ a.loser ∈ first :: rest)))
  ∨ (a.kind = .nen ∧ a.rulesOut = [first :: rest] ∧ a.eliminated = notIn C (first :: rest) ∧
      a.winner = first ∧ a.loser ∈ rest)

section
omit [DiffOrd D]

theorem neb_fam {asn : Nat → Nat → Nat → Nat → D} {C : Contest α} {cvrs : List (Option (Ballot α))} {c d : α}
    (hc : c ∈ C.candidates) (hd : d ∈ C.candidates) (hne : c ≠ d) {a : Assertion α D}
    (he : nebLookup (nebTable asn C cvrs) c d = some a) :
    a.kind = .neb ∧ a.rulesOut = [] ∧ a.eliminated = [] ∧ a.winner = c ∧ a.loser = d ∧ Fam asn C cvrs a := by
  rw [nebLookup_table asn C cvrs c d hc hd, if_neg hne] at he
  unfold mkNeb at he
  simp only at he
  split at he
  · cases he
    exact ⟨rfl, rfl, rfl, rfl, rfl, ⟨hc, hd, hne, (fun h => nomatch h), ⟨rfl, rfl, ‹_›⟩, rfl⟩⟩
  · cases he

theorem nen_fam {asn : Nat → Nat → Nat → Nat → D} {C : Contest α} {cvrs : List (Option (Ballot α))}
    {tail : List α} {f l : α} (hf : f ∈ C.candidates) (hl : l ∈ C.candidates) (hne : f ≠ l) (hft : f ∈ tail)
    (hlt : l ∈ tail) {a : Assertion α D} (he : mkNen asn C (cvrs.filterMap id) tail f l = some a) :
    a.kind = .nen ∧ a.rulesOut = [tail] ∧ a.eliminated = notIn C tail ∧ a.winner = f ∧ a.loser = l ∧
    Fam asn C cvrs a := by
  unfold mkNen at he
  simp only at he
  split at he
  · cases he
    exact ⟨rfl, rfl, rfl, rfl, rfl, ⟨hf, hl, hne,
      fun _ => ⟨fun h => (mem_notIn.1 h).2 hft, fun h => (mem_notIn.1 h).2 hlt, fun y hy => (mem_notIn.1 hy).1⟩,
      ⟨rfl, rfl, ‹_›⟩, rfl⟩⟩
  · cases he

theorem candAt_spec (asn : Nat → Nat → Nat → Nat → D) (C : Contest α) (cvrs : List (Option (Ballot α)))
    (first : α) (rest : List α) (hnd : (first :: rest).Nodup) (hsub : ∀ y ∈ first :: rest, y ∈ C.candidates)
    (a : Assertion α D)
    (ha : some a ∈ candAt asn C (cvrs.filterMap id) (nebTable asn C cvrs) (first :: rest)) :
    Shape C first rest a ∧ Fam asn C cvrs a := by
  have hfirst : first ∈ C.candidates := hsub first List.mem_cons_self
  have hfr : first ∉ rest := (List.nodup_cons.1 hnd).1
  simp only [candAt, List.mem_append, List.mem_map, List.mem_flatMap] at ha
  rcases ha with (⟨later, hl, he⟩ | ⟨cand, hc, cit, hcit, he⟩) | ⟨later, hl, he⟩
  · obtain ⟨h1, h2, h3, h4, h5, hfam⟩ :=
      neb_fam hfirst (hsub later (List.mem_cons_of_mem _ hl)) (fun h => hfr (h ▸ hl)) he
    exact ⟨Or.inl ⟨h1, h2, h3, Or.inl ⟨h4, h5 ▸ hl⟩⟩, hfam⟩
  · obtain ⟨hcc, hct⟩ := mem_notIn.1 hc
    obtain ⟨h1, h2, h3, h4, h5, hfam⟩ := neb_fam hcc (hsub cit hcit) (fun h => hct (h ▸ hcit)) he
    exact ⟨Or.inl ⟨h1, h2, h3, Or.inr ⟨h4 ▸ hcc, h4 ▸ hct, h5 ▸ hcit⟩⟩, hfam⟩
  · obtain ⟨h1, h2, h3, h4, h5, hfam⟩ :=
      nen_fam hfirst (hsub later (List.mem_cons_of_mem _ hl)) (fun h => hfr (h ▸ hl)) List.mem_cons_self
        (List.mem_cons_of_mem _ hl) he
    exact ⟨Or.inr ⟨h1, h2, h3, h4, h5 ▸ hl⟩, hfam⟩

theorem shape_contradicts (C : Contest α) (hC : C.candidates.Nodup) (first : α) (rest : List α)
    (a : Assertion α D) (hs : Shape C first rest a) (π : List α) (hπ : π.Perm C.candidates)
    (hsuf : first :: rest <:+ π) : contradicts a π := by
  obtain ⟨pre, rfl⟩ := hsuf
  unfold contradicts
  rcases hs with ⟨hk, _, _, h | ⟨hwc, hwt, hlt⟩⟩ | ⟨hk, _, he, hw, hl⟩
  · rw [hk, h.1]; exact ⟨pre, rest, rfl, h.2⟩
  · rw [hk]
    have hwπ : a.winner ∈ pre ++ first :: rest := hπ.mem_iff.2 hwc
    have hwpre : a.winner ∈ pre := by
      rcases List.mem_append.1 hwπ with h | h
      · exact h
      · exact absurd h hwt
    obtain ⟨p1, p2, rfl⟩ := List.append_of_mem hwpre
    refine ⟨p1, p2 ++ first :: rest, by simp, ?_⟩
    exact List.mem_append_right _ hlt
  · rw [hk, hw, he]
    exact ⟨pre, rest, rfl, mem_notIn_suffix hC hπ, hl⟩

end

/-- **FBA-sound.** After `find_best_audit` on a node whose tail is duplicate-free and within the candidates: if an
assertion was found, it is a true assertion of the family (reported tallies = tallies of the CVRs, winner strictly
larger, difficulty = asn of the tallies), the node's estimate is its difficulty, and it contradicts every complete
order having the node's tail as a suffix. -/
theorem fba_sound (asn : Nat → Nat → Nat → Nat → D) (C : Contest α) (hC : C.candidates.Nodup)
    (cvrs : List (Option (Ballot α))) (tail : List α) (hnd : tail.Nodup)
    (hsub : ∀ y ∈ tail, y ∈ C.candidates) (a : Assertion α D)
    (h : (findBestAudit asn C (cvrs.filterMap id) (nebTable asn C cvrs) tail).1 = some a) :
    Fam asn C cvrs a ∧
    (findBestAudit asn C (cvrs.filterMap id) (nebTable asn C cvrs) tail).2 = Diff.fin a.difficulty ∧
    (∀ π, π.Perm C.candidates → tail <:+ π → contradicts a π) ∧
    (∃ first rest, tail = first :: rest ∧ Shape C first rest a) := by
  rcases fba_cases asn C (cvrs.filterMap id) (nebTable asn C cvrs) tail with ⟨h0, _⟩ | ⟨a', ha', he, hmem, _⟩
  · rw [h0] at h; cases h
  rw [ha'] at h; cases h
  cases tail with
  | nil => cases hmem
  | cons first rest =>
    obtain ⟨hs, hf⟩ := candAt_spec asn C cvrs first rest hnd hsub a hmem
    exact ⟨hf, he, fun π hπ hsuf => shape_contradicts C hC first rest a hs π hπ hsuf, first, rest, rfl, hs⟩

end Shangrla.Raire
