/-
  Who looks at what in the building blocks of the model of `NonnegMean.py` (running sums, null means,
  Welford's recursion, the shift-by-one, cumulative products): how each behaves under `++` and `List.take`,
  and the predicates `Causal` and `StrictlyCausal` (predictable) that the vectors built from them satisfy.
  No Mathlib.
-/
import Shangrla.Model.NonnegMean

namespace Shangrla.NM

theorem take_zip {α β} (l : List α) (l' : List β) (k : Nat) :
    (l.zip l').take k = (l.take k).zip (l'.take k) := by
  simp [List.zip, List.take_zipWith]

theorem take_of_take_eq {α} {l l' : List α} {n k : Nat} (h : l.take n = l'.take n) (hk : k ≤ n) :
    l.take k = l'.take k := by
  have := congrArg (List.take k) h
  rwa [List.take_take, List.take_take, Nat.min_eq_left hk] at this

theorem lt_length_of_getElem? {α} {l : List α} {i : Nat} {a : α} (h : l[i]? = some a) : i < l.length :=
  (List.getElem?_eq_some_iff.1 h).1

theorem exists_getElem? {α} (l : List α) {i : Nat} (h : i < l.length) : ∃ a, l[i]? = some a :=
  ⟨l[i], List.getElem?_eq_getElem h⟩

theorem getElem?_zip_some {α β} {l1 : List α} {l2 : List β} {i : Nat} {a : α} {b : β}
    (h1 : l1[i]? = some a) (h2 : l2[i]? = some b) : (l1.zip l2)[i]? = some (a, b) :=
  List.getElem?_zip_eq_some.2 ⟨h1, h2⟩

theorem getElem?_map_zip {α β γ} (f : α × β → γ) {l1 : List α} {l2 : List β} {i : Nat} {a : α} {b : β}
    (h1 : l1[i]? = some a) (h2 : l2[i]? = some b) : ((l1.zip l2).map f)[i]? = some (f (a, b)) := by
  rw [List.getElem?_map, getElem?_zip_some h1 h2]; rfl

theorem getElem?_mem_all {α} {l : List α} {P : α → Prop} (h : ∀ (j : Nat) (a : α), l[j]? = some a → P a) :
    ∀ a ∈ l, P a := by
  intro a ha
  obtain ⟨j, hj⟩ := List.mem_iff_getElem?.1 ha
  exact h j a hj

/-! ### running sums: `prefixSums` (`np.cumsum`, shifted) and the total `xsum` -/

@[simp] theorem length_prefixSumsFrom (S : Rat) (x : List Rat) :
    (prefixSumsFrom S x).length = x.length := by
  induction x generalizing S with
  | nil => rfl
  | cons a x ih => simp [prefixSumsFrom, ih]

@[simp] theorem length_prefixSums (x : List Rat) : (prefixSums x).length = x.length :=
  length_prefixSumsFrom 0 x

theorem xsumFrom_append (S : Rat) (x y : List Rat) :
    xsumFrom S (x ++ y) = xsumFrom (xsumFrom S x) y := by
  induction x generalizing S with
  | nil => rfl
  | cons a x ih => simp [xsumFrom, ih]

theorem prefixSumsFrom_append (S : Rat) (x y : List Rat) :
    prefixSumsFrom S (x ++ y) = prefixSumsFrom S x ++ prefixSumsFrom (xsumFrom S x) y := by
  induction x generalizing S with
  | nil => rfl
  | cons a x ih => simp [prefixSumsFrom, xsumFrom, ih]

theorem prefixSumsFrom_take (S : Rat) (x : List Rat) (k : Nat) :
    (prefixSumsFrom S x).take k = prefixSumsFrom S (x.take k) := by
  induction x generalizing S k with
  | nil => simp [prefixSumsFrom]
  | cons a x ih =>
    cases k with
    | zero => simp [prefixSumsFrom]
    | succ k => simp [prefixSumsFrom, ih]

/-! ### `mapIdxFrom f j`: `f` applied to each entry and its position, positions counted from `j` -/

@[simp] theorem length_mapIdxFrom {α β} (f : Nat → α → β) (j : Nat) (l : List α) :
    (mapIdxFrom f j l).length = l.length := by
  induction l generalizing j with
  | nil => rfl
  | cons a l ih => simp [mapIdxFrom, ih]

theorem mapIdxFrom_append {α β} (f : Nat → α → β) (j : Nat) (l l' : List α) :
    mapIdxFrom f j (l ++ l') = mapIdxFrom f j l ++ mapIdxFrom f (j + l.length) l' := by
  induction l generalizing j with
  | nil => rfl
  | cons a l ih =>
    simp only [List.cons_append, mapIdxFrom, ih, List.length_cons, Nat.add_assoc, Nat.add_comm 1]

theorem mapIdxFrom_take {α β} (f : Nat → α → β) (j : Nat) (l : List α) (k : Nat) :
    (mapIdxFrom f j l).take k = mapIdxFrom f j (l.take k) := by
  induction l generalizing j k with
  | nil => simp [mapIdxFrom]
  | cons a l ih =>
    cases k with
    | zero => simp [mapIdxFrom]
    | succ k => simp [mapIdxFrom, ih]

theorem mapIdxFrom_getElem? {α β} (f : Nat → α → β) (j : Nat) (l : List α) (i : Nat) :
    (mapIdxFrom f j l)[i]? = (l[i]?).map (f (j + i)) := by
  induction l generalizing j i with
  | nil => rfl
  | cons a l ih =>
    cases i with
    | zero => rfl
    | succ i =>
      rw [mapIdxFrom, List.getElem?_cons_succ, List.getElem?_cons_succ, ih, Nat.add_right_comm,
        Nat.add_assoc]

theorem mem_mapIdxFrom {α β} {f : Nat → α → β} {j : Nat} {l : List α} {b : β}
    (h : b ∈ mapIdxFrom f j l) : ∃ k a, a ∈ l ∧ b = f k a := by
  obtain ⟨i, hi, rfl⟩ := List.getElem_of_mem h
  have := List.getElem?_eq_getElem hi
  rw [mapIdxFrom_getElem?] at this
  obtain ⟨a, ha, hb⟩ := Option.map_eq_some_iff.1 this
  exact ⟨_, a, List.mem_of_getElem? ha, hb.symm⟩

/-! ### null means: an indexed map over the running sums -/

theorem nullMeansFrom_eq_mapIdxFrom (N : Option Nat) (t S : Rat) (j : Nat) (x : List Rat) :
    nullMeansFrom N t S j x = mapIdxFrom (fun i s => mu N t s i) j (prefixSumsFrom S x) := by
  induction x generalizing S j with
  | nil => rfl
  | cons a x ih => simp [nullMeansFrom, prefixSumsFrom, mapIdxFrom, ih]

@[simp] theorem length_nullMeansFrom (N : Option Nat) (t S : Rat) (j : Nat) (x : List Rat) :
    (nullMeansFrom N t S j x).length = x.length := by
  rw [nullMeansFrom_eq_mapIdxFrom, length_mapIdxFrom, length_prefixSumsFrom]

theorem nullMeansFrom_append (N : Option Nat) (t S : Rat) (j : Nat) (x y : List Rat) :
    nullMeansFrom N t S j (x ++ y)
      = nullMeansFrom N t S j x ++ nullMeansFrom N t (xsumFrom S x) (j + x.length) y := by
  simp only [nullMeansFrom_eq_mapIdxFrom, prefixSumsFrom_append, mapIdxFrom_append, length_prefixSumsFrom]

theorem nullMeansFrom_take (N : Option Nat) (t S : Rat) (j : Nat) (x : List Rat) (k : Nat) :
    (nullMeansFrom N t S j x).take k = nullMeansFrom N t S j (x.take k) := by
  simp only [nullMeansFrom_eq_mapIdxFrom, mapIdxFrom_take, prefixSumsFrom_take]

theorem sjm_eq (N : Option Nat) (t : Rat) (x : List Rat) (hne : x ≠ [])
    (hN : ∀ n, N = some n → x.length ≤ n) :
    sjm N t x = .ok (prefixSums x, xsum x, nullMeansFrom N t 0 1 x) := by
  unfold sjm
  rw [if_neg (by simpa using hne)]
  cases N with
  | none => rfl
  | some n => exact if_neg (Nat.not_lt.2 (hN n rfl))

/-! ### Welford's recursion: the running mean and variance after `k` draws depend on those `k` draws -/

/-- the state (running mean, running M2) of Welford's recursion after the observations `x` -/
def welfordEnd (m v : Rat) (i : Nat) : List Rat → Rat × Rat
  | [] => (m, v)
  | xi :: rest =>
    let mNew := m + (xi - m) / ((i + 1 : Nat) : Rat)
    welfordEnd mNew (v + (xi - m) * (xi - mNew)) (i + 1) rest

theorem length_welfordFrom (m v : Rat) (i : Nat) (x : List Rat) :
    (welfordFrom m v i x).1.length = x.length ∧ (welfordFrom m v i x).2.length = x.length := by
  induction x generalizing m v i with
  | nil => exact ⟨rfl, rfl⟩
  | cons a x ih => simp [welfordFrom, ih]

theorem welfordFrom_append (m v : Rat) (i : Nat) (x y : List Rat) :
    welfordFrom m v i (x ++ y)
      = ((welfordFrom m v i x).1 ++ (welfordFrom (welfordEnd m v i x).1 (welfordEnd m v i x).2 (i + x.length) y).1,
         (welfordFrom m v i x).2 ++ (welfordFrom (welfordEnd m v i x).1 (welfordEnd m v i x).2 (i + x.length) y).2) := by
  induction x generalizing m v i with
  | nil => rfl
  | cons a x ih =>
    simp only [List.cons_append, welfordFrom, welfordEnd, ih, List.length_cons, Nat.add_assoc, Nat.add_comm 1]

theorem welfordFrom_take (m v : Rat) (i : Nat) (x : List Rat) (k : Nat) :
    (welfordFrom m v i x).map (List.take k) (List.take k) = welfordFrom m v i (x.take k) := by
  induction x generalizing m v i k with
  | nil => simp [welfordFrom]
  | cons a x ih =>
    cases k with
    | zero => simp [welfordFrom]
    | succ k => simp [welfordFrom, ← ih]

@[simp] theorem length_welford_fst (x : List Rat) : (welford x).1.length = x.length := by
  cases x with
  | nil => rfl
  | cons a x => simp [welford, length_welfordFrom]

@[simp] theorem length_welford_snd (x : List Rat) : (welford x).2.length = x.length := by
  cases x with
  | nil => rfl
  | cons a x => simp [welford, length_welfordFrom]

theorem welford_take (x : List Rat) (k : Nat) :
    (welford x).map (List.take k) (List.take k) = welford (x.take k) := by
  cases x with
  | nil => simp [welford]
  | cons a x =>
    cases k with
    | zero => simp [welford]
    | succ k => simp [welford, ← welfordFrom_take]

/-! ### `shiftIn a v`: `v` delayed by one position — what turns a causal vector into a predictable one -/

@[simp] theorem length_shiftIn {α} (a : α) (v : List α) : (shiftIn a v).length = v.length := by
  simp [shiftIn]

theorem shiftIn_eq_take {α} (a : α) (v : List α) : shiftIn a v = (a :: v).take v.length := by
  simp [shiftIn, List.dropLast_eq_take]

theorem shiftIn_take_succ {α} (a : α) (v : List α) (k : Nat) (h : k < v.length) :
    (shiftIn a v).take (k + 1) = a :: v.take k := by
  rw [shiftIn_eq_take, List.take_take, Nat.min_eq_left (by omega), List.take_succ_cons]

theorem shiftIn_append_take {α} (a : α) (v w : List α) (hw : w ≠ []) :
    (shiftIn a (v ++ w)).take (v.length + 1) = a :: v := by
  obtain ⟨b, w', rfl⟩ := List.exists_cons_of_ne_nil hw
  rw [shiftIn_take_succ _ _ _ (by simp), List.take_left' rfl]

theorem shiftIn_getElem? {α} (a : α) (v : List α) {i : Nat} (hi : i < v.length) :
    (shiftIn a v)[i]? = (a :: v)[i]? :=
  List.getElem?_dropLast.trans (if_pos hi)

theorem mem_shiftIn {α} {a b : α} {v : List α} (h : b ∈ shiftIn a v) : b = a ∨ b ∈ v :=
  List.mem_cons.1 (List.dropLast_subset _ h)

theorem shiftIn_take {α} (a : α) (v : List α) (k : Nat) (h : k ≤ v.length) :
    (shiftIn a v).take k = shiftIn a (v.take k) := by
  rw [shiftIn_eq_take, shiftIn_eq_take, List.take_take, List.length_take, Nat.min_eq_left h]
  cases k with
  | zero => simp
  | succ k => simp [List.take_take]

/-! ### `np.cumprod`: a prefix of the running products is the running products of the prefix -/

/-- the running product `acc · l₀ · l₁ ⋯` after all of `l`: what `cumprodFrom` carries into a continuation -/
def prodFrom (acc : XR) : List XR → XR
  | [] => acc
  | a :: l => prodFrom (acc * a) l

@[simp] theorem length_cumprodFrom (acc : XR) (l : List XR) : (XR.cumprodFrom acc l).length = l.length := by
  induction l generalizing acc with
  | nil => rfl
  | cons a l ih => simp [XR.cumprodFrom, ih]

@[simp] theorem length_cumprod (l : List XR) : (XR.cumprod l).length = l.length :=
  length_cumprodFrom 1 l

theorem cumprodFrom_append (acc : XR) (l l' : List XR) :
    XR.cumprodFrom acc (l ++ l') = XR.cumprodFrom acc l ++ XR.cumprodFrom (prodFrom acc l) l' := by
  induction l generalizing acc with
  | nil => rfl
  | cons a l ih => simp [XR.cumprodFrom, prodFrom, ih]

theorem cumprodFrom_append_take (acc : XR) (l l' : List XR) :
    (XR.cumprodFrom acc (l ++ l')).take l.length = XR.cumprodFrom acc l := by
  rw [cumprodFrom_append]
  exact List.take_left' (by simp)

theorem cumprodFrom_take (acc : XR) (l : List XR) (k : Nat) :
    (XR.cumprodFrom acc l).take k = XR.cumprodFrom acc (l.take k) := by
  induction l generalizing acc k with
  | nil => simp [XR.cumprodFrom]
  | cons a l ih =>
    cases k with
    | zero => simp [XR.cumprodFrom]
    | succ k => simp [XR.cumprodFrom, ih]

theorem cumprod_take (l : List XR) (k : Nat) : (XR.cumprod l).take k = XR.cumprod (l.take k) :=
  cumprodFrom_take 1 l k

/-! ### `Causal` and `StrictlyCausal`

Positions are 0-based.  `Causal f`: entries `0..k-1` of `f l` are a function of `l[0..k-1]`
(entry `j` may look at observation `j` itself).  `StrictlyCausal f`: entries `0..k` of `f l` are a
function of `l[0..k-1]` as long as `l` is longer than `k` — entry `j` does not look at observation `j`
or any later one: it is *predictable*. -/

def Causal {β} (f : List Rat → List β) : Prop :=
  ∀ x y, (f (x ++ y)).take x.length = f x

/-- two samples that share the head `x` and both continue beyond it (`y`, `z` non-empty, of any lengths)
give the same entries `0..|x|` -/
def StrictlyCausal {β} (f : List Rat → List β) : Prop :=
  ∀ x y z, y ≠ [] → z ≠ [] → (f (x ++ y)).take (x.length + 1) = (f (x ++ z)).take (x.length + 1)

/-- `f` returns one entry per observation -/
def LenPres {β} (f : List Rat → List β) : Prop := ∀ x, (f x).length = x.length

theorem causal_iff_take {β} (f : List Rat → List β) :
    Causal f ↔ ∀ l k, (f l).take k = f (l.take k) := by
  constructor
  · intro h l k
    -- `f l` is not longer than `l`, so taking `k` or `min k |l|` entries of it is the same
    have h0 := h l []
    have hk := h (l.take k) (l.drop k)
    rw [List.append_nil] at h0
    rw [List.take_append_drop, List.length_take] at hk
    rw [← hk, ← h0, List.take_take, List.take_take, Nat.min_assoc, Nat.min_self]
  · intro h x y
    rw [h, List.take_left' rfl]

theorem Causal.take {β} {f : List Rat → List β} (h : Causal f) (l : List Rat) (k : Nat) :
    (f l).take k = f (l.take k) := (causal_iff_take f).1 h l k

theorem causal_of_take {β} {f : List Rat → List β} (h : ∀ l k, (f l).take k = f (l.take k)) :
    Causal f := (causal_iff_take f).2 h

theorem strictlyCausal_of_fun {β} {f : List Rat → List β} (g : List Rat → List β)
    (h : ∀ x a y, (f (x ++ a :: y)).take (x.length + 1) = g x) : StrictlyCausal f := by
  intro x y z hy hz
  obtain ⟨a, y', rfl⟩ := List.exists_cons_of_ne_nil hy
  obtain ⟨b, z', rfl⟩ := List.exists_cons_of_ne_nil hz
  rw [h, h]

theorem StrictlyCausal.take_le {β} {f : List Rat → List β} (h : StrictlyCausal f)
    (x y z : List Rat) (hy : y ≠ []) (hz : z ≠ []) (k : Nat) (hk : k ≤ x.length + 1) :
    (f (x ++ y)).take k = (f (x ++ z)).take k :=
  take_of_take_eq (h x y z hy hz) hk

theorem StrictlyCausal.causal {β} {f : List Rat → List β} (h : StrictlyCausal f) (hl : LenPres f) :
    Causal f := by
  intro x y
  rcases List.eq_nil_or_concat x with rfl | ⟨x', a, rfl⟩
  · exact (List.eq_nil_of_length_eq_zero (hl [])).symm
  · -- `x' ++ ([a] ++ y)` and `x' ++ [a]` are two continuations of `x'`
    rw [List.concat_eq_append, List.append_assoc, List.length_append, List.length_singleton,
      h x' ([a] ++ y) [a] (by simp) (by simp)]
    exact List.take_of_length_le (by rw [hl]; simp)

/-- a causal vector whose last entry does not look at the last observation is predictable -/
theorem Causal.strictlyCausal {β} {f : List Rat → List β} (h : Causal f) (g : List Rat → List β)
    (hg : ∀ x a, f (x ++ [a]) = g x) : StrictlyCausal f :=
  strictlyCausal_of_fun g fun x a y => by
    have := h (x ++ [a]) y
    rwa [List.append_assoc, List.length_append, hg] at this

/-! #### closure: `Causal` -/

theorem causal_id : Causal (fun x : List Rat => x) := fun _ _ => List.take_left' rfl

theorem Causal.map {β γ} {f : List Rat → List β} (h : Causal f) (g : β → γ) :
    Causal (fun x => (f x).map g) := by
  intro x y
  rw [← List.map_take, h]

theorem Causal.zip {β γ} {f : List Rat → List β} {g : List Rat → List γ} (hf : Causal f) (hg : Causal g) :
    Causal (fun x => (f x).zip (g x)) := by
  intro x y
  rw [take_zip, hf, hg]

theorem Causal.zipWith {β γ δ} {f : List Rat → List β} {g : List Rat → List γ} (hf : Causal f)
    (hg : Causal g) (op : β → γ → δ) : Causal (fun x => List.zipWith op (f x) (g x)) := by
  intro x y
  rw [List.take_zipWith, hf, hg]

theorem Causal.mapIdxFrom {β γ} {f : List Rat → List β} (h : Causal f) (g : Nat → β → γ) (j : Nat) :
    Causal (fun x => NM.mapIdxFrom g j (f x)) := by
  intro x y
  rw [mapIdxFrom_take, h]

theorem Causal.cumprodFrom {f : List Rat → List XR} (h : Causal f) (acc : XR) :
    Causal (fun x => XR.cumprodFrom acc (f x)) := by
  intro x y
  rw [cumprodFrom_take, h]

theorem Causal.cumprod {f : List Rat → List XR} (h : Causal f) : Causal (fun x => XR.cumprod (f x)) :=
  h.cumprodFrom 1

theorem Causal.comp_map {β} {f : List Rat → List β} (h : Causal f) (g : Rat → Rat) :
    Causal (fun x => f (x.map g)) := by
  intro x y
  have := h (x.map g) (y.map g)
  rwa [List.length_map, ← List.map_append] at this

theorem causal_prefixSumsFrom (S : Rat) : Causal (prefixSumsFrom S) :=
  causal_of_take (prefixSumsFrom_take S)

theorem causal_prefixSums : Causal prefixSums := causal_prefixSumsFrom 0

theorem causal_nullMeansFrom (N : Option Nat) (t S : Rat) (j : Nat) : Causal (nullMeansFrom N t S j) :=
  causal_of_take (nullMeansFrom_take N t S j)

theorem causal_welford_fst : Causal (fun x => (welford x).1) :=
  causal_of_take fun l k => congrArg Prod.fst (welford_take l k)

theorem causal_welford_snd : Causal (fun x => (welford x).2) :=
  causal_of_take fun l k => congrArg Prod.snd (welford_take l k)

/-! #### closure: `StrictlyCausal` -/

theorem StrictlyCausal.map {β γ} {f : List Rat → List β} (h : StrictlyCausal f) (g : β → γ) :
    StrictlyCausal (fun x => (f x).map g) := by
  intro x y z hy hz
  rw [← List.map_take, ← List.map_take, h x y z hy hz]

theorem StrictlyCausal.zip {β γ} {f : List Rat → List β} {g : List Rat → List γ}
    (hf : StrictlyCausal f) (hg : StrictlyCausal g) : StrictlyCausal (fun x => (f x).zip (g x)) := by
  intro x y z hy hz
  rw [take_zip, take_zip, hf x y z hy hz, hg x y z hy hz]

theorem StrictlyCausal.zipWith {β γ δ} {f : List Rat → List β} {g : List Rat → List γ}
    (hf : StrictlyCausal f) (hg : StrictlyCausal g) (op : β → γ → δ) :
    StrictlyCausal (fun x => List.zipWith op (f x) (g x)) := by
  intro x y z hy hz
  rw [List.take_zipWith, List.take_zipWith, hf x y z hy hz, hg x y z hy hz]

theorem StrictlyCausal.mapIdxFrom {β γ} {f : List Rat → List β} (h : StrictlyCausal f)
    (g : Nat → β → γ) (j : Nat) : StrictlyCausal (fun x => NM.mapIdxFrom g j (f x)) := by
  intro x y z hy hz
  rw [mapIdxFrom_take, mapIdxFrom_take, h x y z hy hz]

theorem StrictlyCausal.cumprodFrom {f : List Rat → List XR} (h : StrictlyCausal f) (acc : XR) :
    StrictlyCausal (fun x => XR.cumprodFrom acc (f x)) := by
  intro x y z hy hz
  rw [cumprodFrom_take, cumprodFrom_take, h x y z hy hz]

theorem strictlyCausal_const {β} (c : β) : StrictlyCausal (fun x : List Rat => x.map (fun _ => c)) :=
  (causal_id.map _).strictlyCausal (fun x => x.map (fun _ => c) ++ [c]) fun x a => by simp

theorem Causal.shiftIn {β} {f : List Rat → List β} (h : Causal f) (hl : LenPres f) (a : β) :
    StrictlyCausal (fun x => NM.shiftIn a (f x)) := by
  apply strictlyCausal_of_fun (fun x => a :: f x)
  intro x b y
  rw [shiftIn_take_succ _ _ _ (by rw [hl]; simp), h]

theorem strictlyCausal_prefixSumsFrom (S : Rat) : StrictlyCausal (prefixSumsFrom S) :=
  (causal_prefixSumsFrom S).strictlyCausal (fun x => prefixSumsFrom S x ++ [xsumFrom S x])
    fun x a => by rw [prefixSumsFrom_append]; rfl

theorem strictlyCausal_prefixSums : StrictlyCausal prefixSums := strictlyCausal_prefixSumsFrom 0

theorem strictlyCausal_nullMeansFrom (N : Option Nat) (t S : Rat) (j : Nat) :
    StrictlyCausal (nullMeansFrom N t S j) :=
  funext (nullMeansFrom_eq_mapIdxFrom N t S j) ▸ (strictlyCausal_prefixSumsFrom S).mapIdxFrom _ j

/-! #### `LenPres`: the building blocks and their combinations return one entry per observation -/

theorem lenPres_prefixSums : LenPres prefixSums := length_prefixSums
theorem lenPres_nullMeansFrom (N : Option Nat) (t S : Rat) (j : Nat) : LenPres (nullMeansFrom N t S j) :=
  length_nullMeansFrom N t S j
theorem lenPres_welford_fst : LenPres (fun x => (welford x).1) := length_welford_fst
theorem lenPres_welford_snd : LenPres (fun x => (welford x).2) := length_welford_snd

theorem LenPres.map {β γ} {f : List Rat → List β} (h : LenPres f) (g : β → γ) :
    LenPres (fun x => (f x).map g) := fun x => by simp [h x]

theorem LenPres.zip {β γ} {f : List Rat → List β} {g : List Rat → List γ} (hf : LenPres f)
    (hg : LenPres g) : LenPres (fun x => (f x).zip (g x)) := fun x => by simp [hf x, hg x]

theorem LenPres.mapIdxFrom {β γ} {f : List Rat → List β} (h : LenPres f) (g : Nat → β → γ) (j : Nat) :
    LenPres (fun x => NM.mapIdxFrom g j (f x)) := fun x => by simp [h x]

theorem LenPres.shiftIn {β} {f : List Rat → List β} (h : LenPres f) (a : β) :
    LenPres (fun x => NM.shiftIn a (f x)) := fun x => by simp [h x]

theorem LenPres.cumprod {f : List Rat → List XR} (h : LenPres f) :
    LenPres (fun x => XR.cumprod (f x)) := fun x => by simp [h x]

end Shangrla.NM
