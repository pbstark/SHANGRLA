/-
  `kaplan_wald`, `kaplan_markov`, `kaplan_kolmogorov` and `wald_sprt` of `NonnegMean.py`: the vectors they
  build (null means, factors, running products, masked terms) under names, and each test written as a chain
  of guards that raise, followed by a return (a guard is peeled off with `ite_congr`).  No Mathlib.
-/
import Shangrla.Lemmas.NMCausal

namespace Shangrla.C11
open Shangrla.NM

/-- the running products `T_j` of `kaplan_wald` (L601) -/
def kwTerms (cfg : Cfg) (x : List Rat) : List XR :=
  XR.cumprod (x.map fun a =>
    (XR.fin ((1 - cfg.kw.g.getD 0) * a)) / (XR.fin cfg.t) + (XR.fin (cfg.kw.g.getD 0)))

theorem kaplanWald_eq (cfg : Cfg) (x : List Rat) : kaplanWald cfg x =
    if cfg.kw.g.getD 0 < 0 || 1 < cfg.kw.g.getD 0 then .error .value
    else if x.any (· < 0) then .error .value
    else if x = [] then .error (if cfg.randomOrder then .value else .index)
    else .ok (XR.npmin 1 (1 / (if cfg.randomOrder then XR.maxList (kwTerms cfg x) else lastD (kwTerms cfg x))),
      (kwTerms cfg x).map (fun p => XR.npmin (1 / p) 1)) := by
  unfold kaplanWald
  dsimp only
  refine ite_congr rfl (fun _ => rfl) fun _ => ite_congr rfl (fun _ => rfl) fun _ => ?_
  cases x with
  | nil => cases cfg.randomOrder <;> rfl
  | cons a x => rfl

/-- the running products `p_j` of `kaplan_markov` (L558) -/
def kmTerms (cfg : Cfg) (x : List Rat) : List XR :=
  XR.cumprod (x.map fun a => (XR.fin (cfg.t + cfg.kw.g.getD 0)) / (XR.fin (a + cfg.kw.g.getD 0)))

theorem kaplanMarkov_eq (cfg : Cfg) (x : List Rat) : kaplanMarkov cfg x =
    if x.any (· < 0) then .error .value
    else if x = [] then .error (if cfg.randomOrder then .value else .index)
    else .ok (XR.npmin 1 (if cfg.randomOrder then XR.minList (kmTerms cfg x) else lastD (kmTerms cfg x)),
      (kmTerms cfg x).map (fun p => XR.npmin p 1)) := by
  unfold kaplanMarkov
  dsimp only
  refine ite_congr rfl (fun _ => rfl) fun _ => ?_
  cases x with
  | nil => cases cfg.randomOrder <;> rfl
  | cons a x => rfl

/-- the null means `mu_1, mu_2, ...` of `kaplan_kolmogorov` (the vector `m` of `sjm(N, t+g, x+g)`) -/
def kkM (cfg : Cfg) (n : Nat) (x : List Rat) : List Rat :=
  nullMeansFrom (some n) (cfg.t + cfg.kw.g.getD 0) 0 1 (x.map (· + cfg.kw.g.getD 0))

/-- the factors `(x_i + g)/mu_i` of `kaplan_kolmogorov` -/
def kkFactors (cfg : Cfg) (n : Nat) (x : List Rat) : List XR :=
  ((x.map (· + cfg.kw.g.getD 0)).zip (kkM cfg n x)).map fun (a, mj) => (XR.fin a) / (XR.fin mj)

/-- the terms of `kaplan_kolmogorov` after the two mask assignments (L515-517) -/
def kkMasked (cfg : Cfg) (n : Nat) (x : List Rat) : List XR :=
  ((kkM cfg n x).zip ((XR.cumprod (kkFactors cfg n x)).map (fun T => if T.isNan then (1 : XR) else T))).map
    (fun (mj, T) => if mj < 0 then XR.pinf else T)

theorem kaplanKolmogorov_eq (cfg : Cfg) (x : List Rat) : kaplanKolmogorov cfg x =
    if x.any (· < 0) then .error .assertion
    else match cfg.N with
      | none => .error .overflow
      | some n =>
        if x.length > n then .error .assertion
        else if n = 0 then .error .assertion
        else if x = [] then .error .index
        else .ok (XR.pymin (1 / (if cfg.randomOrder then XR.maxList (kkMasked cfg n x)
            else lastD (kkMasked cfg n x))) 1,
          (kkMasked cfg n x).map (fun T => XR.npmin (1 / T) 1)) := by
  unfold kaplanKolmogorov
  dsimp only
  refine ite_congr rfl (fun _ => rfl) fun _ => ?_
  cases cfg.N with
  | none => rfl
  | some n =>
    refine ite_congr rfl (fun _ => rfl) fun hlen => ite_congr rfl (fun _ => rfl) fun _ => ?_
    by_cases hx : x = []
    · rw [if_pos hx, hx]; rfl
    · rw [if_neg hx, sjm_eq _ _ _ (by simpa using hx) fun m hm => by cases hm; simpa using hlen]
      rfl

/-- the alternative mean used by `wald_sprt` (`getattr(self, "eta", u*(1-eps))`) -/
def sprtEta (cfg : Cfg) : Rat := cfg.kw.eta.getD (cfg.u * (1 - eps))

/-- the null means of `wald_sprt` (L648-657), literally -/
def sprtM (cfg : Cfg) (x : List Rat) : List XR :=
  match cfg.N with
  | some n => mapIdxFrom (fun j s => (XR.fin ((n : Rat) * cfg.t - s)) / (XR.fin ((n : Rat) - (j : Rat) + 1))) 1
      (prefixSums x)
  | none => x.map (fun _ => XR.fin cfg.t)

/-- the alternative means of `wald_sprt` truncated above at `u`, literally -/
def sprtE0 (cfg : Cfg) (x : List Rat) : List XR :=
  match cfg.N with
  | some n => mapIdxFrom (fun j s => XR.npmin (.fin cfg.u)
      ((XR.fin ((n : Rat) * sprtEta cfg - s)) / (XR.fin ((n : Rat) - (j : Rat) + 1)))) 1 (prefixSums x)
  | none => x.map (fun _ => XR.fin (sprtEta cfg))

/-- `etas = np.maximum(etas, m)`: not below the null mean -/
def sprtE (cfg : Cfg) (x : List Rat) : List XR :=
  ((sprtE0 cfg x).zip (sprtM cfg x)).map (fun (e, mj) => XR.npmax e mj)

/-- one factor `[x eta/mu + (u−x)(u−eta)/(u−mu)]/u` in IEEE arithmetic -/
def sprtFactor (u xj : Rat) (e mj : XR) : XR :=
  ((XR.fin xj) * e / mj + (XR.fin (u - xj)) * ((XR.fin u) - e) / ((XR.fin u) - mj)) / (XR.fin u)

/-- the factors of `wald_sprt`: draw `j` with its alternative mean `sprtE` and null mean `sprtM` -/
def sprtFactors (cfg : Cfg) (x : List Rat) : List XR :=
  (x.zip ((sprtE cfg x).zip (sprtM cfg x))).map fun (xj, e, mj) => sprtFactor cfg.u xj e mj

/-- the terms of `wald_sprt` after the five mask assignments (L662-666); `2*eps` and `1/1000000` are the `atol`
and `rtol` hard-coded there (the defaults of `alpha_mart`) -/
def sprtMasked (cfg : Cfg) (x : List Rat) : List XR :=
  ((sprtM cfg x).zip (XR.cumprod (sprtFactors cfg x))).map
    (fun (mj, T) => maskTermX cfg.u (2 * eps) (1 / 1000000) mj T)

/-- the second guard: sampling without replacement is refused unless the sample is declared to be in
random order -/
theorem waldSprt_eq (cfg : Cfg) (x : List Rat) : waldSprt cfg x =
    if x.any (fun a => a < 0 || cfg.u < a) then .error .value
    else if cfg.N.isSome && !cfg.randomOrder then .error .value
    else if x = [] then .error (if cfg.randomOrder then .value else .index)
    else .ok (pAndHist cfg.randomOrder (sprtMasked cfg x)) := by
  unfold waldSprt
  dsimp only
  refine ite_congr rfl (fun _ => rfl) fun _ => ?_
  unfold sprtMasked sprtFactors sprtE sprtE0 sprtM sprtFactor sprtEta
  cases x <;> cases cfg.N <;> cases cfg.randomOrder <;> rfl

theorem length_kwTerms (cfg : Cfg) (x : List Rat) : (kwTerms cfg x).length = x.length := by
  rw [kwTerms, length_cumprod, List.length_map]

theorem length_kmTerms (cfg : Cfg) (x : List Rat) : (kmTerms cfg x).length = x.length := by
  rw [kmTerms, length_cumprod, List.length_map]

theorem length_kkM (cfg : Cfg) (n : Nat) (x : List Rat) : (kkM cfg n x).length = x.length := by
  rw [kkM, length_nullMeansFrom, List.length_map]

theorem length_kkFactors (cfg : Cfg) (n : Nat) (x : List Rat) : (kkFactors cfg n x).length = x.length := by
  simp [kkFactors, length_kkM]

theorem length_kkMasked (cfg : Cfg) (n : Nat) (x : List Rat) : (kkMasked cfg n x).length = x.length := by
  simp [kkMasked, length_kkM, length_cumprod, length_kkFactors]

theorem length_sprtM (cfg : Cfg) (x : List Rat) : (sprtM cfg x).length = x.length := by
  unfold sprtM; cases cfg.N <;> simp [prefixSums]

theorem length_sprtE0 (cfg : Cfg) (x : List Rat) : (sprtE0 cfg x).length = x.length := by
  unfold sprtE0; cases cfg.N <;> simp [prefixSums]

theorem length_sprtE (cfg : Cfg) (x : List Rat) : (sprtE cfg x).length = x.length := by
  simp [sprtE, length_sprtE0, length_sprtM]

theorem length_sprtFactors (cfg : Cfg) (x : List Rat) : (sprtFactors cfg x).length = x.length := by
  simp [sprtFactors, length_sprtM, length_sprtE]

theorem length_sprtMasked (cfg : Cfg) (x : List Rat) : (sprtMasked cfg x).length = x.length := by
  simp [sprtMasked, length_sprtM, length_cumprod, length_sprtFactors]

end Shangrla.C11
