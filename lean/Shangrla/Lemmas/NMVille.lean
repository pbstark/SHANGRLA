/-
  The defining product of a sequential test as a non-negative supermartingale on the draw tree
  (sampling without replacement from a null population), and Ville's inequality for it.
  Generic in the factor `facQ` (ALPHA or betting) and in the predictable parameter function `g`.
-/
import Shangrla.Lemmas.NMProcess
import Shangrla.Lemmas.Ville
import Mathlib.Data.List.Induction

namespace Shangrla.NM
open Shangrla XR Shangrla.C12 Shangrla.Ville

variable (facQ : ℚ → ℚ → ℚ → ℚ) (u : ℚ) (n : Nat) (t : ℚ) (g : List ℚ → ℚ)

/-- after the draws `h` the null mean before the next draw is strictly inside `(0,u)` (then so were the earlier ones,
for draws in `[0,u]`) -/
def StateZ (h : List ℚ) : Prop := Zst (some n) t u h.sum (h.length + 1)

instance (h : List ℚ) : Decidable (StateZ u n t h) := by
  unfold StateZ Zst; exact inferInstance

/-- the value process: the defining product, provided every factor so far was applied at a null
mean strictly inside `(0,u)`; `0` otherwise (then the reported p-value is 1) -/
def valI (h : List ℚ) : ℚ :=
  if h = [] then 1 else if StateZ u n t h.dropLast then Tq facQ (some n) t g h else 0

/-- null invariant of the draw tree: `R` = items not yet drawn, `h` = draws so far -/
def Inv (R h : List ℚ) : Prop :=
  h.length + R.length = n ∧ (∀ a ∈ R, 0 ≤ a ∧ a ≤ u) ∧ (∀ a ∈ h, 0 ≤ a ∧ a ≤ u) ∧
    R.sum ≤ (n : ℚ) * t - h.sum

theorem valI_nil : valI facQ u n t g [] = 1 := by simp [valI]

theorem valI_snoc (h : List ℚ) (a : ℚ) :
    valI facQ u n t g (h ++ [a]) =
      if StateZ u n t h then Tq facQ (some n) t g h * facQ (muAfter (some n) t h) a (g h) else 0 := by
  unfold valI
  simp only [List.append_eq_nil_iff, List.cons_ne_self, and_false, ↓reduceIte, List.dropLast_concat]
  rw [(Tq_snoc facQ (some n) t g h a).1]

theorem stateZ_iff (h : List ℚ) (hlen : h.length + 1 ≤ n) :
    StateZ u n t h ↔ 0 < muAfter (some n) t h ∧ muAfter (some n) t h < u := by
  unfold StateZ muAfter
  exact Zst_iff_mu (by simp only [Room]; omega)

theorem valI_snoc_of_zone (h : List ℚ) (a : ℚ) (hlen : h.length + 1 ≤ n)
    (hz : 0 < muAfter (some n) t h ∧ muAfter (some n) t h < u) :
    valI facQ u n t g (h ++ [a]) = Tq facQ (some n) t g (h ++ [a]) := by
  rw [valI_snoc, if_pos ((stateZ_iff u n t h hlen).2 hz), (Tq_snoc facQ (some n) t g h a).1]

theorem stateZ_dropLast (h : List ℚ) (a : ℚ) (ha0 : 0 ≤ a) (hau : a ≤ u)
    (hz : StateZ u n t (h ++ [a])) : StateZ u n t h := by
  unfold StateZ at hz ⊢
  simp only [List.sum_append, List.sum_cons, List.sum_nil, add_zero, List.length_append,
    List.length_cons, List.length_nil, Nat.zero_add] at hz
  exact Zst_step ha0 hau hz

theorem valI_eq_Tq (h : List ℚ) (hr : ∀ a ∈ h, 0 ≤ a ∧ a ≤ u) (hz : StateZ u n t h) :
    valI facQ u n t g h = Tq facQ (some n) t g h := by
  unfold valI
  split
  · rename_i he; subst he; rw [Tq_nil]
  · rename_i hne
    obtain ⟨l, a, rfl⟩ : ∃ l a, h = l ++ [a] :=
      ⟨h.dropLast, h.getLast hne, (List.dropLast_concat_getLast hne).symm⟩
    rw [List.dropLast_concat, if_pos]
    exact stateZ_dropLast u n t l a (hr a (by simp)).1 (hr a (by simp)).2 hz

/-- the zone is assumed before the last draw only: it then holds before every earlier one (`Zst_step`) -/
theorem Tq_snoc_nonneg (N : Option Nat)
    (hfacnn : ∀ (h : List ℚ) (a : ℚ), (∀ b ∈ h, 0 ≤ b ∧ b ≤ u) → (∀ k, N = some k → h.length + 1 ≤ k) →
      0 < muAfter N t h → muAfter N t h < u → 0 ≤ a → a ≤ u → 0 ≤ facQ (muAfter N t h) a (g h)) :
    ∀ (l : List ℚ) (a : ℚ), (∀ b ∈ l ++ [a], 0 ≤ b ∧ b ≤ u) → (∀ k, N = some k → l.length + 1 ≤ k) →
      Zst N t u l.sum (l.length + 1) → 0 ≤ Tq facQ N t g (l ++ [a]) := by
  -- `hfacnn` with the zone given as `Zst` instead of `0 < muAfter < u`
  have hfac : ∀ (l : List ℚ) (a : ℚ), (∀ b ∈ l ++ [a], 0 ≤ b ∧ b ≤ u) →
      (∀ k, N = some k → l.length + 1 ≤ k) → Zst N t u l.sum (l.length + 1) →
      0 ≤ facQ (muAfter N t l) a (g l) := by
    intro l a hr hfit hz
    have hroom : Room N (l.length + 1) 1 := by
      cases N with
      | none => trivial
      | some k => exact Nat.succ_le_succ (hfit k rfl)
    obtain ⟨hm0, hmu⟩ := (Zst_iff_mu hroom).1 hz
    have ha := hr a (by simp)
    exact hfacnn l a (fun b hb => hr b (List.mem_append_left _ hb)) hfit hm0 hmu ha.1 ha.2
  intro l
  induction l using List.reverseRecOn with
  | nil =>
    intro a hr hfit hz
    rw [(Tq_snoc facQ N t g [] a).1, Tq_nil, one_mul]
    exact hfac [] a hr hfit hz
  | append_singleton l b ih =>
    intro a hr hfit hz
    have hr' : ∀ x ∈ l ++ [b], 0 ≤ x ∧ x ≤ u := fun x hx => hr x (List.mem_append_left _ hx)
    have hb := hr' b (by simp)
    rw [List.length_append, List.length_singleton] at hfit
    rw [List.sum_append, List.sum_singleton, List.length_append, List.length_singleton] at hz
    rw [(Tq_snoc facQ N t g (l ++ [b]) a).1]
    refine mul_nonneg (ih b hr' (fun k hk => by have := hfit k hk; omega) (Zst_step hb.1 hb.2 hz))
      (hfac _ a hr ?_ ?_)
    · rwa [List.length_append, List.length_singleton]
    · rwa [List.sum_append, List.sum_singleton, List.length_append, List.length_singleton]

theorem valI_nonneg
    (hfacnn : ∀ (h : List ℚ) (a : ℚ), (∀ b ∈ h, 0 ≤ b ∧ b ≤ u) → h.length + 1 ≤ n →
      0 < muAfter (some n) t h → muAfter (some n) t h < u → 0 ≤ a → a ≤ u →
      0 ≤ facQ (muAfter (some n) t h) a (g h))
    (h : List ℚ) (hr : ∀ a ∈ h, 0 ≤ a ∧ a ≤ u) (hlen : h.length ≤ n) :
    0 ≤ valI facQ u n t g h := by
  cases h using List.reverseRecOn with
  | nil => rw [valI_nil]; exact zero_le_one
  | append_singleton l a =>
    rw [List.length_append, List.length_singleton] at hlen
    rw [valI_snoc]
    split
    · rw [← (Tq_snoc facQ (some n) t g l a).1]
      exact Tq_snoc_nonneg facQ u t g (some n) (fun h a hr hfit => hfacnn h a hr (hfit n rfl)) l a hr
        (fun k hk => by cases hk; exact hlen) ‹_›
    · exact le_refl _

variable {u n t}

/-- the null invariant of the draw tree for values subject to any condition `P`; `Inv` is the case
`P a = (0 ≤ a ∧ a ≤ u)` -/
def InvP (P : ℚ → Prop) (n : Nat) (t : ℚ) (R h : List ℚ) : Prop :=
  h.length + R.length = n ∧ (∀ a ∈ R, P a) ∧ (∀ a ∈ h, P a) ∧ R.sum ≤ (n : ℚ) * t - h.sum

theorem InvP.init {P : ℚ → Prop} {pop : List ℚ} (hlen : pop.length = n) (hrange : ∀ a ∈ pop, P a)
    (hnull : pop.sum ≤ (n : ℚ) * t) : InvP P n t pop [] :=
  ⟨by rw [List.length_nil, Nat.zero_add, hlen], hrange, fun _ h => absurd h List.not_mem_nil,
    by rwa [List.sum_nil, sub_zero]⟩

theorem InvP.draw {P : ℚ → Prop} {R h : List ℚ} (hI : InvP P n t R h) {i : Nat} (hi : i < R.length) :
    InvP P n t (R.eraseIdx i) (h ++ [R.getD i 0]) := by
  obtain ⟨h1, h2, h3, h4⟩ := hI
  refine ⟨?_, fun a ha => h2 a (mem_eraseIdx_of ha),
    List.forall_mem_append.2 ⟨h3, List.forall_mem_singleton.2 (h2 _ (getD_mem hi))⟩, ?_⟩
  · rw [List.length_eraseIdx_of_lt hi, List.length_append, List.length_singleton, Nat.add_assoc,
      Nat.add_sub_cancel' (Nat.zero_lt_of_lt hi), h1]
  · rw [sum_eraseIdx R i hi, List.sum_append, List.sum_singleton, ← sub_sub]
    exact sub_le_sub_right h4 _

theorem Inv.draw {R h : List ℚ} (hI : Inv u n t R h) {i : Nat} (hi : i < R.length) :
    Inv u n t (R.eraseIdx i) (h ++ [R.getD i 0]) :=
  InvP.draw hI hi

theorem InvP.sum_le {P : ℚ → Prop} {R h : List ℚ} (hI : InvP P n t R h) (hP : ∀ a, P a → 0 ≤ a) :
    h.sum ≤ (n : ℚ) * t :=
  le_of_sub_nonneg ((List.sum_nonneg fun a ha => hP a (hI.2.1 a ha)).trans hI.2.2.2)

theorem Inv.sum_le {R h : List ℚ} (hI : Inv u n t R h) : h.sum ≤ (n : ℚ) * t :=
  InvP.sum_le hI fun _ ha => ha.1

theorem Inv.muAfter_mul_length {R h : List ℚ} (hI : Inv u n t R h) (hR : R ≠ []) :
    muAfter (some n) t h * R.length = (n : ℚ) * t - h.sum := by
  have hn : (n : ℚ) - ((h.length + 1 : Nat) : ℚ) + 1 = R.length := by
    rw [← hI.1]; push_cast; ring
  have hR' : (R.length : ℚ) ≠ 0 := Nat.cast_ne_zero.2 (List.length_pos_iff.2 hR).ne'
  simp only [muAfter, mu, hn]
  exact div_mul_cancel₀ _ hR'

variable (u n t)

/-- Ville's inequality for the test statistic, drawing without replacement from a population of size
`n` with values in `[0,u]` and total at most `n t`: it is enough that every factor is non-negative inside
the zone and averages to at most 1 over the next draw whenever the remaining items have mean at most the
null mean. -/
theorem process_ville
    (hfacnn : ∀ (h : List ℚ) (a : ℚ), (∀ b ∈ h, 0 ≤ b ∧ b ≤ u) → h.length + 1 ≤ n →
      0 < muAfter (some n) t h → muAfter (some n) t h < u → 0 ≤ a → a ≤ u →
      0 ≤ facQ (muAfter (some n) t h) a (g h))
    (hfacsuper : ∀ (h R : List ℚ), (∀ b ∈ h, 0 ≤ b ∧ b ≤ u) → h.length + 1 ≤ n →
      0 < muAfter (some n) t h → muAfter (some n) t h < u → R ≠ [] → (∀ a ∈ R, 0 ≤ a ∧ a ≤ u) →
      R.sum ≤ muAfter (some n) t h * R.length →
      avgIdx R.length (fun i => facQ (muAfter (some n) t h) (R.getD i 0) (g h)) ≤ 1)
    (ev : List ℚ → Bool) (c : ℚ) (hc : 0 < c)
    (hev : ∀ R h, Inv u n t R h → ev h = true → c ≤ valI facQ u n t g h)
    (pop : List ℚ) (hpop : Inv u n t pop []) :
    hitEv ev pop.length pop [] ≤ 1 / c := by
  have hnn : ∀ R h, Inv u n t R h → 0 ≤ valI facQ u n t g h := fun R h hI =>
    valI_nonneg facQ u n t g hfacnn h hI.2.2.1 (by have := hI.1; omega)
  have key := hitEv_le ev (valI facQ u n t g) c hc (Inv u n t) hev hnn
    (fun R h hI i hi => hI.draw hi) ?_ pop.length pop [] hpop (le_refl _)
  · rwa [valI_nil] at key
  · intro R h hI hR
    have hRpos : 0 < R.length := List.length_pos_iff.mpr hR
    have hlen : h.length + 1 ≤ n := by have := hI.1; omega
    have hv := hnn R h hI
    simp only [valI_snoc]
    by_cases hz : StateZ u n t h
    · -- inside the zone the value is multiplied by a factor of average at most 1
      obtain ⟨hm0, hmu⟩ := (stateZ_iff u n t h hlen).1 hz
      rw [valI_eq_Tq facQ u n t g h hI.2.2.1 hz] at hv ⊢
      simp only [if_pos hz]
      rw [avgIdx_mul_left]
      exact mul_le_of_le_one_right hv (hfacsuper h R hI.2.2.1 hlen hm0 hmu hR hI.2.1
        (by rw [hI.muAfter_mul_length hR]; exact hI.2.2.2))
    · -- outside it stays 0
      simp only [if_neg hz]
      rwa [avgIdx_const _ hRpos]

end Shangrla.NM
