/-
  Reading a successful `Except` computation backwards: a `do`-block of the models that returned `.ok` passed
  every step and every raising guard; `map` and `mapM` succeed exactly when their pieces do.  Core Lean only.
-/

namespace Shangrla

theorem bind_eq_ok {ε α β : Type} {x : Except ε α} {f : α → Except ε β} {b : β} (h : x >>= f = .ok b) :
    ∃ a, x = .ok a ∧ f a = .ok b := by
  cases x with
  | error e => cases h
  | ok a => exact ⟨a, rfl, h⟩

theorem map_eq_ok {ε α β : Type} {x : Except ε α} {f : α → β} {b : β} :
    x.map f = .ok b ↔ ∃ a, x = .ok a ∧ f a = b := by
  cases x with
  | error e => exact ⟨fun h => (nomatch h), fun ⟨_, h, _⟩ => (nomatch h)⟩
  | ok a => exact ⟨fun h => ⟨a, rfl, Except.ok.inj h⟩, fun ⟨_, h, h'⟩ => by cases h; exact congrArg _ h'⟩

theorem mapM_eq_map {ε α β : Type} (f : α → Except ε β) (g : α → β) :
    ∀ l : List α, (∀ x ∈ l, f x = .ok (g x)) → l.mapM f = .ok (l.map g)
  | [], _ => rfl
  | a :: l, h => by
    rw [List.mapM_cons, h a List.mem_cons_self, mapM_eq_map f g l fun x hx => h x (List.mem_cons_of_mem a hx)]
    rfl

theorem mapM_cons_ok_iff {α β ε} (f : α → Except ε β) (a : α) (l : List α) (r : List β) :
    (a :: l).mapM f = .ok r ↔ ∃ b bs, f a = .ok b ∧ l.mapM f = .ok bs ∧ r = b :: bs := by
  rw [List.mapM_cons]
  cases f a with
  | error e => exact ⟨fun h => (nomatch h), fun ⟨_, _, h, _⟩ => nomatch h⟩
  | ok b =>
    cases l.mapM f with
    | error e => exact ⟨fun h => (nomatch h), fun ⟨_, _, _, h, _⟩ => nomatch h⟩
    | ok bs =>
      exact ⟨fun h => ⟨b, bs, rfl, rfl, (Except.ok.inj h).symm⟩,
        fun ⟨_, _, h1, h2, h3⟩ => by cases h1; cases h2; rw [h3]; rfl⟩

theorem mapM_ok_getElem {α β ε : Type} (f : α → Except ε β) (l : List α) : ∀ rs : List β, l.mapM f = .ok rs →
    rs.length = l.length ∧ ∀ (i : Nat) (h1 : i < l.length) (h2 : i < rs.length), f l[i] = .ok rs[i] := by
  induction l with
  | nil => intro rs h; cases h; exact ⟨rfl, fun i h1 => nomatch h1⟩
  | cons a l ih =>
    intro rs h
    obtain ⟨b, bs, ha, hl, rfl⟩ := (mapM_cons_ok_iff f a l rs).1 h
    obtain ⟨hlen, hi⟩ := ih bs hl
    refine ⟨congrArg (· + 1) hlen, fun i h1 h2 => ?_⟩
    cases i with
    | zero => exact ha
    | succ j => exact hi j (Nat.lt_of_succ_lt_succ h1) (Nat.lt_of_succ_lt_succ h2)

theorem mapM_ok_mem {α β ε : Type} (f : α → Except ε β) (l : List α) (rs : List β) (h : l.mapM f = .ok rs) :
    ∀ b ∈ rs, ∃ a ∈ l, f a = .ok b := by
  obtain ⟨hl, hi⟩ := mapM_ok_getElem f l rs h
  intro b hb
  obtain ⟨i, h2, rfl⟩ := List.getElem_of_mem hb
  exact ⟨l[i]'(hl ▸ h2), List.getElem_mem _, hi i (hl ▸ h2) h2⟩

theorem mapM_isOk_iff {α β ε} (f : α → Except ε β) (l : List α) :
    (∃ r, l.mapM f = .ok r) ↔ ∀ a ∈ l, ∃ b, f a = .ok b := by
  induction l with
  | nil => exact ⟨fun _ _ h => (nomatch h), fun _ => ⟨[], rfl⟩⟩
  | cons a l ih =>
    simp only [mapM_cons_ok_iff, List.forall_mem_cons, ← ih]
    exact ⟨fun ⟨_, b, bs, h1, h2, _⟩ => ⟨⟨b, h1⟩, bs, h2⟩,
      fun ⟨⟨b, h1⟩, bs, h2⟩ => ⟨_, b, bs, h1, h2, rfl⟩⟩

theorem ok_of_ite_error {ε α} {c : Prop} [Decidable c] {e : ε} {a : Except ε α} {r : α}
    (H : (if c then .error e else a) = .ok r) : a = .ok r := by
  by_cases h : c
  · rw [if_pos h] at H; cases H
  · rwa [if_neg h] at H

theorem of_ok {ε α} {r : Except ε α} {a : α} {P : α → Prop} (ha : r = .ok a)
    (h : ∃ b, r = .ok b ∧ P b) : P a := by
  obtain ⟨b, hb, hP⟩ := h
  cases Except.ok.inj (ha.symm.trans hb)
  exact hP

end Shangrla
