/-
  The node store, the order on lower bounds, and the frontier primitives `insert_node` / `replace_descendents`
  of the RAIRE model (the inserted node splits the old frontier).  Core Lean only.
-/
import Shangrla.Lemmas.RaireFBA

namespace Shangrla.Raire

variable {α : Type} {D : Type}

/-! ### store -/

theorem Store.get_push_lt (s : Store α D) (n : Node α D) {i : Nat} (h : i < s.size) :
    Store.get (s.push n) i = s.get i := by
  unfold Store.get
  rw [Array.getElem?_push, if_neg (by omega)]

theorem Store.get_push_eq (s : Store α D) (n : Node α D) : Store.get (s.push n) s.size = n := by
  unfold Store.get
  rw [Array.getElem?_push, if_pos rfl]; rfl

theorem Store.get_set_ne (s : Store α D) (n : Node α D) {i j : Nat} (h : i ≠ j) :
    Store.get (s.setIfInBounds i n) j = s.get j := by
  unfold Store.get
  rw [Array.getElem?_setIfInBounds, if_neg h]

theorem Store.get_set_eq (s : Store α D) (n : Node α D) {i : Nat} (h : i < s.size) :
    Store.get (s.setIfInBounds i n) i = n := by
  unfold Store.get
  rw [Array.getElem?_setIfInBounds, if_pos rfl, if_pos h]; rfl

/-! ### lower bounds -/

variable [DiffOrd D]

/-- order on lower bounds: the sentinel is below everything -/
def LB.le : LB D → LB D → Prop
  | none, _ => True
  | some _, none => False
  | some a, some b => Diff.le a b = true

theorem LB.le_refl [DiffOrd.Lawful D] (a : LB D) : LB.le a a := by
  cases a with
  | none => trivial
  | some x => exact Diff.le_refl x

theorem LB.le_trans [DiffOrd.Lawful D] {a b c : LB D} (h1 : LB.le a b) (h2 : LB.le b c) : LB.le a c := by
  cases a with
  | none => trivial
  | some x =>
    cases b with
    | none => cases h1
    | some y =>
      cases c with
      | none => cases h2
      | some z => exact Diff.le_trans h1 h2

theorem leLB_iff {e : Diff D} {lb : LB D} : leLB e lb = true ↔ LB.le (some e) lb := by
  cases lb with
  | none => exact ⟨(fun h => nomatch h), False.elim⟩
  | some l => exact Iff.rfl

theorem leLB_mono [DiffOrd.Lawful D] {e : Diff D} {a b : LB D} (h : LB.le a b) (he : leLB e a = true) :
    leLB e b = true :=
  leLB_iff.2 (LB.le_trans (leLB_iff.1 he) h)

theorem leLB_trans [DiffOrd.Lawful D] {e e' : Diff D} {a : LB D} (h : Diff.le e e' = true)
    (he : leLB e' a = true) : leLB e a = true :=
  leLB_iff.2 (LB.le_trans (b := some e') h (leLB_iff.1 he))

theorem maxLB_some (l x : Diff D) : maxLB (some l) x = some (if Diff.lt l x then x else l) :=
  (apply_ite some _ _ _).symm

theorem le_maxLB_left [DiffOrd.Lawful D] (lb : LB D) (x : Diff D) : LB.le lb (maxLB lb x) := by
  cases lb with
  | none => trivial
  | some l => rw [maxLB_some]; exact Diff.le_max_left l x

theorem le_maxLB_right [DiffOrd.Lawful D] (lb : LB D) (x : Diff D) : leLB x (maxLB lb x) = true := by
  cases lb with
  | none => exact Diff.le_refl x
  | some l => rw [maxLB_some]; exact Diff.le_max_right l x

theorem maxLB_rec {P : LB D → Prop} {lb : LB D} {x : Diff D} (h1 : P lb) (h2 : P (some x)) : P (maxLB lb x) := by
  cases lb with
  | none => exact h2
  | some l => rw [maxLB_some]; split <;> assumption

theorem le_maxLB2_left [DiffOrd.Lawful D] (lb x : LB D) : LB.le lb (maxLB2 lb x) := by
  cases x with
  | none => exact LB.le_refl lb
  | some d => exact le_maxLB_left lb d

theorem le_maxLB2_right [DiffOrd.Lawful D] (lb x : LB D) : LB.le x (maxLB2 lb x) := by
  cases x with
  | none => trivial
  | some d => exact leLB_iff.1 (le_maxLB_right lb d)

theorem maxLB2_rec {P : LB D → Prop} {lb x : LB D} (h1 : P lb) (h2 : P x) : P (maxLB2 lb x) := by
  cases x with
  | none => exact h1
  | some d => exact maxLB_rec h1 h2

/-- the running lower bound (raire.py `lowerbound`) is not `np.inf`: no leaf has shown an audit to be impossible -/
def LBfin (lb : LB D) : Prop := lb ≠ some Diff.inf

theorem leLB_fin {e : Diff D} {lb : LB D} (hf : LBfin lb) (h : leLB e lb = true) : e ≠ Diff.inf := by
  intro he; subst he
  cases lb with
  | none => cases h
  | some l =>
    have := (Diff.inf_le_iff l).1 h
    subst this
    exact hf rfl

omit [DiffOrd D] in
theorem LB.isInf_false_of_fin {lb : LB D} (h : LBfin lb) : LB.isInf lb = false := by
  cases lb with
  | none => rfl
  | some d =>
    cases d with
    | fin x => rfl
    | inf => exact absurd rfl h

/-! ### frontier primitives -/

theorem insertSorted_split (s : Store α D) (est : Diff D) (id : Nat) (F : List Nat) :
    ∃ pre post, F = pre ++ post ∧ insertSorted s est id F = pre ++ id :: post ∧
      (∀ x ∈ pre, Diff.le (s.get x).estimate est = false) ∧
      (∀ y, post.head? = some y → Diff.le (s.get y).estimate est = true) := by
  induction F with
  | nil => exact ⟨[], [], rfl, rfl, by simp, by simp⟩
  | cons x xs ih =>
    unfold insertSorted
    by_cases h : Diff.le (s.get x).estimate est = true
    · rw [if_pos h]
      exact ⟨[], x :: xs, rfl, rfl, by simp, by simp [h]⟩
    · rw [if_neg h]
      obtain ⟨pre, post, h1, h2, h3, h4⟩ := ih
      refine ⟨x :: pre, post, by rw [h1]; rfl, by rw [h2]; rfl, ?_, h4⟩
      intro y hy
      simp only [List.mem_cons] at hy
      rcases hy with rfl | hy
      · simpa using h
      · exact h3 y hy

/-- `insert_node` puts the node somewhere into the old frontier; where depends on its three cases -/
theorem insertNode_split (s : Store α D) (F : List Nat) (id : Nat) :
    ∃ pre post, F = pre ++ post ∧ insertNode s F id = pre ++ id :: post ∧
      ((s.get id).expandable = false → post = []) ∧
      ((s.get id).expandable = true → (s.get id).estimate = Diff.inf → pre = []) ∧
      ((s.get id).expandable = true → (s.get id).estimate ≠ Diff.inf →
        (∀ x ∈ pre, Diff.le (s.get x).estimate (s.get id).estimate = false) ∧
        (∀ y, post.head? = some y → Diff.le (s.get y).estimate (s.get id).estimate = true)) := by
  unfold insertNode
  simp only
  cases he : (s.get id).expandable with
  | false => exact ⟨F, [], (List.append_nil F).symm, rfl, fun _ => rfl, (fun h => nomatch h), (fun h => nomatch h)⟩
  | true =>
    cases hi : (s.get id).estimate.isInf with
    | true =>
      exact ⟨[], F, rfl, rfl, (fun h => nomatch h), fun _ _ => rfl,
        fun _ h => absurd ((Diff.isInf_iff _).1 hi) h⟩
    | false =>
      obtain ⟨pre, post, h1, h2, h3, h4⟩ := insertSorted_split s (s.get id).estimate id F
      refine ⟨pre, post, h1, h2, (fun h => nomatch h), fun _ h => ?_, fun _ _ => ⟨h3, h4⟩⟩
      rw [h] at hi; cases hi

theorem mem_insertNode (s : Store α D) (F : List Nat) (id x : Nat) :
    x ∈ insertNode s F id ↔ x = id ∨ x ∈ F := by
  obtain ⟨pre, post, h1, h2, _⟩ := insertNode_split s F id
  rw [h2, h1, List.mem_append, List.mem_append, List.mem_cons]
  exact or_left_comm

variable [DecidableEq α]

theorem mem_replaceDescendents (s : Store α D) (F : List Nat) (id x : Nat) :
    x ∈ replaceDescendents s F id ↔
      x = id ∨ (x ∈ F ∧ isDescendentOf (s.get x).tail (s.get id).tail = false) := by
  unfold replaceDescendents
  simp only [mem_insertNode, List.mem_filter, Bool.not_eq_true']

theorem isDescendentOf_iff (t1 t2 : List α) :
    isDescendentOf t1 t2 = true ↔ ∃ pre, pre ≠ [] ∧ t1 = pre ++ t2 := by
  unfold isDescendentOf
  by_cases h : t1.length ≤ t2.length
  · rw [if_pos h]
    simp only [Bool.false_eq_true, false_iff]
    rintro ⟨pre, hpre, rfl⟩
    rw [List.length_append] at h
    exact hpre (List.length_eq_zero_iff.1 (by omega))
  · rw [if_neg h, beq_iff_eq, eq_comm, ← List.suffix_iff_eq_drop]
    constructor
    · rintro ⟨pre, rfl⟩
      exact ⟨pre, fun h0 => h (by rw [h0]; exact Nat.le_refl _), rfl⟩
    · rintro ⟨pre, _, rfl⟩
      exact ⟨pre, rfl⟩

/-! ### the largest estimate on the frontier -/

section
variable {α : Type} [DecidableEq α] {D : Type} [DiffOrd D] [DiffOrd.Lawful D]
-- fixed statements of this file stand in a section with instance arguments they do not all use
set_option linter.unusedSectionVars false

theorem le_maxEst (s : Store α D) (te : Nat) (rest : List Nat) :
    ∀ id ∈ te :: rest, Diff.le (s.get id).estimate (maxEst s te rest) = true := by
  unfold maxEst
  have key : ∀ (l : List Nat) (m : Diff D),
      Diff.le m (l.foldl (fun m i => if Diff.lt m (s.get i).estimate then (s.get i).estimate else m) m) = true ∧
      ∀ id ∈ l, Diff.le (s.get id).estimate
        (l.foldl (fun m i => if Diff.lt m (s.get i).estimate then (s.get i).estimate else m) m) = true := by
    intro l
    induction l with
    | nil => intro m; exact ⟨Diff.le_refl m, fun _ h => nomatch h⟩
    | cons i l ih =>
      intro m
      rw [List.foldl_cons]
      obtain ⟨h1, h2⟩ := ih (if Diff.lt m (s.get i).estimate then (s.get i).estimate else m)
      refine ⟨Diff.le_trans (Diff.le_max_left m _) h1, fun id hid => ?_⟩
      rcases List.mem_cons.1 hid with rfl | hid
      · exact Diff.le_trans (Diff.le_max_right m _) h1
      · exact h2 id hid
  obtain ⟨h1, h2⟩ := key rest (s.get te).estimate
  intro id hid
  rcases List.mem_cons.1 hid with rfl | hid
  · exact h1
  · exact h2 id hid

theorem maxEst_fin (s : Store α D) (te : Nat) (rest : List Nat) (h : maxEst s te rest ≠ Diff.inf) :
    ∀ id ∈ te :: rest, (s.get id).estimate ≠ Diff.inf :=
  fun id hid hinf => h ((Diff.inf_le_iff _).1 (hinf ▸ le_maxEst s te rest id hid))

end

end Shangrla.Raire
