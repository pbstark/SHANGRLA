/-
  (S1) of DESIGN.md Appendix F: what is true of every node the RAIRE search creates (`NodeOK`: tail
  duplicate-free within the candidates, assertion/estimate = `find_best_audit` of the tail, best ancestor
  = a cheapest proper suffix), and the store extension relation `Ext`.  Core Lean only.
-/
import Shangrla.Lemmas.RaireStore

namespace Shangrla.Raire
open Spec

-- fixed statements of this file stand in a section with instance arguments they do not all use
set_option linter.unusedSectionVars false

section Loop
variable {α : Type} [DecidableEq α] {D : Type} [DiffOrd D] [DiffOrd.Lawful D]
variable (asn : Nat → Nat → Nat → Nat → D) (C : Contest α) (cvrs : List (Option (Ballot α))) (winner : α)

/-- `find_best_audit` of a tail on the reported ballots and the NEB table of the contest -/
def fbaOf (tail : List α) : Option (Assertion α D) × Diff D :=
  findBestAudit asn C (cvrs.filterMap id) (nebTable asn C cvrs) tail

/-- what is true of every node ever created.  `alt`: the tail ends in a candidate other than the reported winner —
the node stands for alternative outcomes only.  `expLen`: an expandable node is not yet a complete order.  `anc`,
`ancMin`: the best ancestor is an earlier node whose tail is a proper suffix, and its estimate is least among those
of all proper suffixes of length ≥ 2.  `ancNone`: only a node of the initial frontier (raire.py L121-143) has no
best ancestor; its tail has length 2, so there is no such suffix. -/
structure NodeOK (s : Store α D) (id : Nat) : Prop where
  nodup : (s.get id).tail.Nodup
  sub : ∀ y ∈ (s.get id).tail, y ∈ C.candidates
  len : 2 ≤ (s.get id).tail.length
  alt : ∃ pre c, (s.get id).tail = pre ++ [c] ∧ c ≠ winner
  best : (s.get id).best = (fbaOf asn C cvrs (s.get id).tail).1
  est : (s.get id).estimate = (fbaOf asn C cvrs (s.get id).tail).2
  expLen : (s.get id).expandable = true → (s.get id).tail.length < C.candidates.length
  anc : ∀ j, (s.get id).bestAnc = some j → j < id ∧ ∃ pre, pre ≠ [] ∧ (s.get id).tail = pre ++ (s.get j).tail
  ancMin : ∀ j, (s.get id).bestAnc = some j → ∀ t, t <:+ (s.get id).tail → 2 ≤ t.length →
    t.length < (s.get id).tail.length → Diff.le (s.get j).estimate (fbaOf asn C cvrs t).2 = true
  ancNone : (s.get id).bestAnc = none → (s.get id).tail.length = 2

/-- every node of the store is as the search creates nodes (`NodeOK`) -/
def StoreOK (s : Store α D) : Prop := ∀ id, id < s.size → NodeOK asn C cvrs winner s id

/-- the immutable part of a node is unchanged, `expandable` can only be switched off -/
def NodeExt (n n' : Node α D) : Prop :=
  n'.tail = n.tail ∧ n'.best = n.best ∧ n'.estimate = n.estimate ∧ n'.bestAnc = n.bestAnc ∧
  n'.diveNode = n.diveNode ∧ (n'.expandable = true → n.expandable = true)

theorem NodeExt.refl (n : Node α D) : NodeExt n n := ⟨rfl, rfl, rfl, rfl, rfl, id⟩

/-- the search only appends nodes to the store and switches `expandable` off: what was proved of a node stays true -/
def Ext (s s' : Store α D) : Prop := s.size ≤ s'.size ∧ ∀ k, k < s.size → NodeExt (s.get k) (s'.get k)

theorem Ext.refl (s : Store α D) : Ext s s := ⟨Nat.le_refl _, fun _ _ => NodeExt.refl _⟩

theorem Ext.trans {s s' s'' : Store α D} (h1 : Ext s s') (h2 : Ext s' s'') : Ext s s'' := by
  refine ⟨Nat.le_trans h1.1 h2.1, fun k hk => ?_⟩
  obtain ⟨a1, a2, a3, a4, a5, a6⟩ := h1.2 k hk
  obtain ⟨b1, b2, b3, b4, b5, b6⟩ := h2.2 k (Nat.lt_of_lt_of_le hk h1.1)
  exact ⟨b1.trans a1, b2.trans a2, b3.trans a3, b4.trans a4, b5.trans a5, fun h => a6 (b6 h)⟩

variable {asn C cvrs winner}

theorem NodeOK.ext {s s' : Store α D} {id : Nat} (h : NodeOK asn C cvrs winner s id)
    (he : ∀ k, k ≤ id → NodeExt (s.get k) (s'.get k)) : NodeOK asn C cvrs winner s' id := by
  obtain ⟨e1, e2, e3, e4, _, e6⟩ := he id (Nat.le_refl _)
  obtain ⟨h1, h2, h3, h4, h5, h6, h7, h8, h9, h10⟩ := h
  rw [← e1] at h1 h2 h3 h4 h5 h6 h7 h8 h9 h10
  rw [← e2] at h5
  rw [← e3] at h6
  rw [← e4] at h8 h9 h10
  refine ⟨h1, h2, h3, h4, h5, h6, fun hx => h7 (e6 hx), fun j hj => ?_, fun j hj => ?_, h10⟩
  · obtain ⟨hlt, hsuf⟩ := h8 j hj
    exact ⟨hlt, by rw [(he j (Nat.le_of_lt hlt)).1]; exact hsuf⟩
  · rw [(he j (Nat.le_of_lt (h8 j hj).1)).2.2.1]
    exact h9 j hj

theorem StoreOK.ext {s s' : Store α D} (h : StoreOK asn C cvrs winner s) (he : Ext s s') :
    ∀ id, id < s.size → NodeOK asn C cvrs winner s' id :=
  fun id hid => (h id hid).ext (fun k hk => he.2 k (Nat.lt_of_le_of_lt hk hid))

theorem StoreOK.succ {s s' : Store α D} (h : StoreOK asn C cvrs winner s) (he : Ext s s')
    (hsz : s'.size = s.size + 1) (hn : NodeOK asn C cvrs winner s' s.size) : StoreOK asn C cvrs winner s' := by
  intro k hk
  rcases Nat.lt_succ_iff_lt_or_eq.1 (hsz ▸ hk) with hk | rfl
  · exact h.ext he k hk
  · exact hn

theorem ext_push (s : Store α D) (n : Node α D) : Ext s (s.push n) := by
  refine ⟨by rw [Array.size_push]; omega, fun k hk => ?_⟩
  rw [Store.get_push_lt s n hk]; exact NodeExt.refl _

theorem ext_set (s : Store α D) (i : Nat) (n : Node α D) (hn : NodeExt (s.get i) n) :
    Ext s (s.setIfInBounds i n) := by
  refine ⟨by rw [Array.size_setIfInBounds]; omega, fun k hk => ?_⟩
  by_cases h : i = k
  · subst h; rw [Store.get_set_eq s n hk]; exact hn
  · rw [Store.get_set_ne s n h]; exact NodeExt.refl _

end Loop
end Shangrla.Raire
