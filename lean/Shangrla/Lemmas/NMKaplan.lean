/-
  For the Kaplan tests and the SPRT of `Shangrla.NM` (properties C01, C11, C12): invariants along
  `XR.cumprodFrom`, the entries of the model's vectors in terms of the partial sums `psum`, and the
  monotonicity of the null means in the draw (numerators `N t − S` non-increasing; once above `u`, always
  above `u`).
-/
import Shangrla.Lemmas.PHist
import Shangrla.Lemmas.NMCausal
import Mathlib.Tactic.Linarith
import Mathlib.Tactic.Positivity
import Mathlib.Tactic.FieldSimp
import Mathlib.Tactic.Ring
import Mathlib.Tactic.NormNum
import Mathlib.Algebra.Order.Field.Basic
import Mathlib.Algebra.Order.Ring.Rat

namespace Shangrla.XR

/-! ### `cumprodFrom` -/

theorem cumprodFrom_absorb {z : XR} (l : List XR) (h : ∀ a ∈ l, z * a = z) :
    cumprodFrom z l = l.map (fun _ => z) := by
  induction l with
  | nil => rfl
  | cons a l ih =>
    obtain ⟨ha, hl⟩ := List.forall_mem_cons.1 h
    rw [cumprodFrom, ha, ih hl]; rfl

theorem cumprodFrom_nan (l : List XR) : cumprodFrom nan l = l.map (fun _ => nan) :=
  cumprodFrom_absorb l fun a _ => nan_mul a

/-- `np.cumprod` over rationals: what `cumprodFrom` computes while every factor is a number -/
def cumprodRat (acc : Rat) : List Rat → List Rat
  | [] => []
  | a :: l => (acc * a) :: cumprodRat (acc * a) l

theorem cumprodFrom_fin (l : List Rat) : ∀ acc : Rat,
    cumprodFrom (fin acc) (l.map fin) = (cumprodRat acc l).map fin := by
  induction l with
  | nil => intro _; rfl
  | cons a l ih => intro acc; exact congrArg (fin (acc * a) :: ·) (ih _)

/-- `∏_{i<k} f i` -/
def prodTo (f : Nat → Rat) : Nat → Rat
  | 0 => 1
  | k + 1 => prodTo f k * f k

theorem eq_prodTo {T f : Nat → Rat} (h0 : T 0 = 1) (hs : ∀ k, T (k + 1) = T k * f k) (k : Nat) :
    T k = prodTo f k := by
  induction k with
  | zero => exact h0
  | succ k ih => rw [hs, ih]; rfl

theorem prodTo_congr {f g : Nat → Rat} {k : Nat} (h : ∀ i < k, f i = g i) : prodTo f k = prodTo g k := by
  induction k with
  | zero => rfl
  | succ k ih =>
    rw [prodTo, prodTo, ih (fun i hi => h i (Nat.lt_succ_of_lt hi)), h k (Nat.lt_succ_self k)]

theorem prodTo_nonneg {f : Nat → Rat} {k : Nat} (h : ∀ i < k, 0 ≤ f i) : 0 ≤ prodTo f k := by
  induction k with
  | zero => exact zero_le_one
  | succ k ih =>
    exact mul_nonneg (ih (fun i hi => h i (Nat.lt_succ_of_lt hi))) (h k (Nat.lt_succ_self k))

theorem prodTo_pos {f : Nat → Rat} {k : Nat} (h : ∀ i < k, 0 < f i) : 0 < prodTo f k := by
  induction k with
  | zero => exact one_pos
  | succ k ih =>
    exact mul_pos (ih (fun i hi => h i (Nat.lt_succ_of_lt hi))) (h k (Nat.lt_succ_self k))

/-- an index-dependent invariant along a cumulative product: if `C 0` holds of the start value and the
factors up to `j` carry `C i` to `C (i+1)`, entry `j` satisfies `C (j+1)` -/
theorem cumprodFrom_getElem?_inv (F : List XR) : ∀ (C : Nat → XR → Prop) (acc : XR) (j : Nat),
    j < F.length → C 0 acc → (∀ i ≤ j, ∀ T f, F[i]? = some f → C i T → C (i + 1) (T * f)) →
    ∃ T, (cumprodFrom acc F)[j]? = some T ∧ C (j + 1) T := by
  induction F with
  | nil => intro C acc j hj; exact absurd hj (Nat.not_lt_zero _)
  | cons a F ih =>
    intro C acc j hj hacc hstep
    have h1 : C 1 (acc * a) := hstep 0 (Nat.zero_le _) acc a rfl hacc
    cases j with
    | zero => exact ⟨acc * a, rfl, h1⟩
    | succ j =>
      exact ih (fun i => C (i + 1)) (acc * a) j (Nat.lt_of_succ_lt_succ hj) h1
        (fun i hi T f hf => hstep (i + 1) (Nat.succ_le_succ hi) T f hf)

theorem cumprodFrom_getElem?_fin (F : List XR) (acc : Rat) (f : Nat → Rat) (j : Nat)
    (h : ∀ i ≤ j, F[i]? = some (fin (f i))) :
    (cumprodFrom (fin acc) F)[j]? = some (fin (acc * prodTo f (j + 1))) := by
  obtain ⟨T, hT, rfl⟩ := cumprodFrom_getElem?_inv F (fun k T => T = fin (acc * prodTo f k)) (fin acc) j
    (NM.lt_length_of_getElem? (h j (le_refl j))) (by rw [prodTo, mul_one])
    (fun i hi T f' hf hT => by
      rw [h i hi] at hf
      rw [hT, ← Option.some.inj hf, fin_mul, prodTo, mul_assoc])
  exact hT

theorem cumprodFrom_getElem?_closed (C : XR → Prop) (hmul : ∀ a b, C a → C b → C (a * b))
    (F : List XR) (acc : XR) (j : Nat) (hacc : C acc) (hj : j < F.length)
    (h : ∀ i ≤ j, ∀ a, F[i]? = some a → C a) :
    ∃ T, (cumprodFrom acc F)[j]? = some T ∧ C T :=
  cumprodFrom_getElem?_inv F (fun _ => C) acc j hj hacc (fun i hi T f hf hT => hmul T f hT (h i hi f hf))

theorem cumprodFrom_all (C : XR → Prop) (hmul : ∀ a b, C a → C b → C (a * b)) (F : List XR)
    (acc : XR) (hacc : C acc) (hF : ∀ a ∈ F, C a) : ∀ T ∈ cumprodFrom acc F, C T := by
  intro T hT
  obtain ⟨j, hj⟩ := List.mem_iff_getElem?.1 hT
  obtain ⟨T', hT', hC⟩ := cumprodFrom_getElem?_closed C hmul F acc j hacc
    (NM.length_cumprodFrom acc F ▸ NM.lt_length_of_getElem? hj)
    (fun i _ a ha => hF a (List.mem_of_getElem? ha))
  rwa [Option.some.inj (hj.symm.trans hT')]

/-- a strictly positive rational or `+inf` -/
def Pos : XR → Prop
  | fin q => 0 < q
  | pinf => True
  | _ => False

theorem Pos.cases {x : XR} (h : Pos x) : x = pinf ∨ ∃ q : Rat, 0 < q ∧ x = fin q := by
  cases x with
  | fin q => exact Or.inr ⟨q, h, rfl⟩
  | pinf => exact Or.inl rfl
  | _ => exact h.elim

theorem Pos.good {x : XR} (h : Pos x) : Good x := by
  rcases h.cases with rfl | ⟨q, hq, rfl⟩
  · trivial
  · exact hq.le

theorem pinf_mul_pos {a : XR} (ha : Pos a) : (pinf * a : XR) = pinf := by
  rcases ha.cases with rfl | ⟨q, hq, rfl⟩
  · rfl
  · exact infTimes_pos pinf hq

theorem pos_mul_pinf {a : XR} (ha : Pos a) : (a * pinf : XR) = pinf := by
  rcases ha.cases with rfl | ⟨q, hq, rfl⟩
  · rfl
  · exact infTimes_pos pinf hq

theorem pos_mul {a b : XR} (ha : Pos a) (hb : Pos b) : Pos (a * b) := by
  rcases hb.cases with rfl | ⟨q, hq, rfl⟩
  · rw [pos_mul_pinf ha]; trivial
  · rcases ha.cases with rfl | ⟨p, hp, rfl⟩
    · rw [pinf_mul_pos hb]; trivial
    · exact mul_pos hp hq

/-- `+inf` times a positive factor stays `+inf`: once a Kaplan-Markov product is infinite it stays so -/
theorem cumprodFrom_pinf (l : List XR) (h : ∀ a ∈ l, Pos a) : cumprodFrom pinf l = l.map (fun _ => pinf) :=
  cumprodFrom_absorb l fun a ha => pinf_mul_pos (h a ha)

/-- "good or nan": a non-negative rational, `+inf`, or `nan` (what a Kaplan-Kolmogorov running product
can be while the null means are still non-negative) -/
def GN (x : XR) : Prop := x = nan ∨ Good x

theorem gn_of_nonneg {q : Rat} (h : 0 ≤ q) : GN (infTimes pinf q) := by
  rcases h.eq_or_lt with rfl | h
  · exact Or.inl rfl
  · rw [infTimes_pos _ h]; exact Or.inr good_pinf

theorem gn_mul {a b : XR} (ha : GN a) (hb : GN b) : GN (a * b) := by
  rcases ha with rfl | ha
  · exact Or.inl (nan_mul b)
  rcases hb with rfl | hb
  · exact Or.inl (mul_nan a)
  rcases ha.cases with rfl | ⟨p, hp, rfl⟩ <;> rcases hb.cases with rfl | ⟨q, hq, rfl⟩
  · exact Or.inr good_pinf
  · exact gn_of_nonneg hq
  · exact gn_of_nonneg hp
  · exact Or.inr (good_mul hp hq)

theorem gn_div {a m : Rat} (ha : 0 ≤ a) (hm : 0 ≤ m) : GN (fin a / fin m) := by
  rcases hm.eq_or_lt with rfl | hm
  · rcases ha.eq_or_lt with rfl | ha
    · exact Or.inl rfl
    · rw [fin_div_zero_pos ha]; exact Or.inr good_pinf
  · right
    rw [fin_div _ _ hm.ne']
    exact div_nonneg ha hm.le

end Shangrla.XR

namespace Shangrla.NM
open Shangrla.XR

/-! ### entries of the model's vectors -/

/-- the total of the first `i` observations: what `sjm` subtracts from `N t` in the null mean before draw `i+1` -/
def psum (l : List Rat) (i : Nat) : Rat := (l.take i).sum

@[simp] theorem psum_zero (l : List Rat) : psum l 0 = 0 := rfl
@[simp] theorem psum_nil (i : Nat) : psum [] i = 0 := by rw [psum, List.take_nil]; rfl
@[simp] theorem psum_cons_succ (a : Rat) (l : List Rat) (i : Nat) : psum (a :: l) (i + 1) = a + psum l i :=
  List.sum_cons

/-- `+ 0` beyond the end of the list -/
theorem psum_step (l : List Rat) (k : Nat) : psum l (k + 1) = psum l k + l.getD k 0 := by
  rw [psum, psum, List.take_add_one, List.sum_append, List.getD_eq_getElem?_getD]
  cases l[k]? with
  | none => rfl
  | some a => exact congrArg _ List.sum_singleton

theorem psum_append_left (h r : List Rat) (i : Nat) (hi : i ≤ h.length) : psum (h ++ r) i = psum h i := by
  unfold psum
  rw [List.take_append_of_le_length hi]

theorem psum_length (h : List Rat) : psum h h.length = h.sum := by
  unfold psum; rw [List.take_length]

theorem getD_of_forall {l : List Rat} {P : Rat → Prop} (h0 : P 0) (h : ∀ a ∈ l, P a) (k : Nat) :
    P (l.getD k 0) := by
  rw [List.getD_eq_getElem?_getD]
  cases hk : l[k]? with
  | none => exact h0
  | some a => exact h a (List.mem_of_getElem? hk)

theorem sum_map_add_const (l : List Rat) (g : Rat) : (l.map (· + g)).sum = l.sum + (l.length : Rat) * g := by
  induction l with
  | nil => simp
  | cons a l ih =>
    rw [List.map_cons, List.sum_cons, List.sum_cons, ih, List.length_cons]
    push_cast; ring

theorem prefixSumsFrom_getElem? (l : List Rat) : ∀ (S : Rat) (i : Nat), i < l.length →
    (prefixSumsFrom S l)[i]? = some (S + psum l i) := by
  induction l with
  | nil => intro S i hi; exact absurd hi (Nat.not_lt_zero _)
  | cons a l ih =>
    intro S i hi
    cases i with
    | zero => rw [psum_zero, add_zero]; rfl
    | succ i =>
      rw [psum_cons_succ, ← add_assoc]
      exact ih (S + a) i (Nat.lt_of_succ_lt_succ hi)

theorem nullMeansFrom_getElem? (N : Option Nat) (t : Rat) (l : List Rat) (S : Rat) (j i : Nat)
    (hi : i < l.length) : (nullMeansFrom N t S j l)[i]? = some (mu N t (S + psum l i) (j + i)) := by
  rw [nullMeansFrom_eq_mapIdxFrom, mapIdxFrom_getElem?, prefixSumsFrom_getElem? l S i hi]; rfl

/-! ### monotonicity of prefix sums, sample totals and null means -/

theorem psum_mono {l : List Rat} (h : ∀ a ∈ l, 0 ≤ a) {i k : Nat} (hik : i ≤ k) : psum l i ≤ psum l k := by
  induction hik with
  | refl => exact le_refl _
  | step _ ih =>
    rw [psum_step]
    exact le_trans ih (le_add_of_nonneg_right (getD_of_forall (P := (0 ≤ ·)) (le_refl _) h _))

theorem psum_le_sum {x : List Rat} (hx : ∀ a ∈ x, 0 ≤ a) (i : Nat) : psum x i ≤ x.sum := by
  rcases le_total i x.length with hi | hi
  · rw [← psum_length x]; exact psum_mono hx hi
  · unfold psum; rw [List.take_of_length_le hi]

theorem xsumFrom_ge (y : List Rat) (hy : ∀ a ∈ y, 0 ≤ a) : ∀ S : Rat, S ≤ xsumFrom S y := by
  induction y with
  | nil => intro S; exact le_refl _
  | cons a y ih =>
    intro S
    have h1 := ih (fun b hb => hy b (List.mem_cons_of_mem _ hb)) (S + a)
    have h2 := hy a (List.mem_cons_self)
    show S ≤ xsumFrom (S + a) y
    linarith

theorem xsum_le_append (x y : List Rat) (hy : ∀ a ∈ y, 0 ≤ a) : xsum x ≤ xsum (x ++ y) := by
  unfold xsum
  rw [xsumFrom_append]
  exact xsumFrom_ge y hy _

theorem psum_le_add {l : List Rat} {u : Rat} (hu : 0 ≤ u) (h : ∀ a ∈ l, a ≤ u) {i k : Nat} (hik : i ≤ k) :
    psum l k ≤ psum l i + ((k : Rat) - (i : Rat)) * u := by
  induction hik with
  | refl => rw [sub_self, zero_mul, add_zero]
  | step _ ih =>
    have := getD_of_forall (P := (· ≤ u)) hu h
    rw [psum_step, Nat.cast_succ]
    linarith [this ‹_›]

theorem mu_some (n : Nat) (t S : Rat) (j : Nat) :
    mu (some n) t S j = ((n : Rat) * t - S) / ((n : Rat) - (j : Rat) + 1) := rfl

theorem mu_none (t S : Rat) (j : Nat) : mu none t S j = t := rfl

theorem den_pos {n j : Nat} (h : j ≤ n) : 0 < (n : Rat) - (j : Rat) + 1 :=
  add_pos_of_nonneg_of_pos (sub_nonneg.2 (Nat.cast_le.2 h)) one_pos

theorem mu_pos_iff {n j : Nat} (h : j ≤ n) (t S : Rat) : 0 < mu (some n) t S j ↔ S < (n : Rat) * t := by
  rw [mu_some, div_pos_iff_of_pos_right (den_pos h), sub_pos]

theorem mu_nonneg_iff {n j : Nat} (h : j ≤ n) (t S : Rat) : 0 ≤ mu (some n) t S j ↔ S ≤ (n : Rat) * t := by
  rw [mu_some, le_div_iff₀ (den_pos h), zero_mul, sub_nonneg]

/-- Kaplan-Kolmogorov / ALPHA monotonicity: with non-negative observations the numerator `N t − S_i`
is non-increasing, so a null mean that is positive (non-negative) at draw `k` was so at every earlier draw,
and once it is `≤ 0` (`< 0`) it stays so -/
theorem mu_pos_of_later {n : Nat} {l : List Rat} (hl : ∀ a ∈ l, 0 ≤ a) (t S : Rat) {i k j j' : Nat}
    (hik : i ≤ k) (hj : j ≤ n) (hj' : j' ≤ n) (h : 0 < mu (some n) t (S + psum l k) j') :
    0 < mu (some n) t (S + psum l i) j :=
  (mu_pos_iff hj _ _).2 (lt_of_le_of_lt (add_le_add_right (psum_mono hl hik) S) ((mu_pos_iff hj' _ _).1 h))

theorem mu_nonneg_of_later {n : Nat} {l : List Rat} (hl : ∀ a ∈ l, 0 ≤ a) (t S : Rat) {i k j j' : Nat}
    (hik : i ≤ k) (hj : j ≤ n) (hj' : j' ≤ n) (h : 0 ≤ mu (some n) t (S + psum l k) j') :
    0 ≤ mu (some n) t (S + psum l i) j :=
  (mu_nonneg_iff hj _ _).2 (le_trans (add_le_add_right (psum_mono hl hik) S) ((mu_nonneg_iff hj' _ _).1 h))

theorem mu_nonpos_of_earlier {n : Nat} {l : List Rat} (hl : ∀ a ∈ l, 0 ≤ a) (t S : Rat) {i k j j' : Nat}
    (hik : i ≤ k) (hj : j ≤ n) (hj' : j' ≤ n) (h : mu (some n) t (S + psum l i) j ≤ 0) :
    mu (some n) t (S + psum l k) j' ≤ 0 :=
  not_lt.1 (fun h' => not_lt.2 h (mu_pos_of_later hl t S hik hj hj' h'))

theorem mu_neg_of_earlier {n : Nat} {l : List Rat} (hl : ∀ a ∈ l, 0 ≤ a) (t S : Rat) {i k j j' : Nat}
    (hik : i ≤ k) (hj : j ≤ n) (hj' : j' ≤ n) (h : mu (some n) t (S + psum l i) j < 0) :
    mu (some n) t (S + psum l k) j' < 0 :=
  not_le.1 (fun h' => not_le.2 h (mu_nonneg_of_later hl t S hik hj hj' h'))

/-- SPRT / ALPHA monotonicity at the upper end: with observations `≤ u`, a null mean `≥ u` at draw
`i+1` stays `≥ u` at every later draw; hence a null mean `< u` at draw `k+1` was `< u` at every earlier one -/
theorem mu_lt_u_of_later {n : Nat} {l : List Rat} {u : Rat} (hu : 0 ≤ u) (hl : ∀ a ∈ l, a ≤ u) (t : Rat)
    {i k : Nat} (hik : i ≤ k) (hk : k + 1 ≤ n) (h : mu (some n) t (psum l k) (k + 1) < u) :
    mu (some n) t (psum l i) (i + 1) < u := by
  rw [mu_some, div_lt_iff₀ (den_pos hk), Nat.cast_succ] at h
  rw [mu_some, div_lt_iff₀ (den_pos (le_trans (Nat.succ_le_succ hik) hk)), Nat.cast_succ]
  have := psum_le_add hu hl hik
  linarith

/-! ### non-negative rationals -/

def FinNN (x : XR) : Prop := ∃ q : Rat, 0 ≤ q ∧ x = fin q

theorem FinNN.good {x : XR} (h : FinNN x) : Good x := by
  obtain ⟨q, hq, rfl⟩ := h; exact hq

theorem finNN_one : FinNN 1 := ⟨1, zero_le_one, rfl⟩

theorem finNN_mul {a b : XR} (ha : FinNN a) (hb : FinNN b) : FinNN (a * b) := by
  obtain ⟨p, hp, rfl⟩ := ha
  obtain ⟨q, hq, rfl⟩ := hb
  exact ⟨p * q, mul_nonneg hp hq, rfl⟩

end Shangrla.NM
