/-
  Loop invariants of the RAIRE search (DESIGN.md Appendix F, S2-S3, O1-O3): the strengthened Cover
  invariant `SC`, the frontier-local invariants `FInv` and the termination measure `Phi`, through every step
  of the main loop of `raire`; the "audit not possible" exits produce an alternative order no true assertion
  contradicts (`BadLeaf`).
-/
import Shangrla.Lemmas.RaireChain

namespace Shangrla.Raire
open Spec

-- fixed statements of this file stand in a section with instance arguments they do not all use
set_option linter.unusedSectionVars false

section Loop
variable {α : Type} [DecidableEq α] {D : Type} [DiffOrd D] [DiffOrd.Lawful D]
variable (asn : Nat → Nat → Nat → Nat → D) (C : Contest α) (cvrs : List (Option (Ballot α))) (winner : α)

/-! ### the strengthened Cover invariant -/

/-- node `n` still accounts for `π`: it will never be expanded (`estimate <= lowerbound`), or `π` does not
run through one of the children already handed over to a dive -/
def Eff (n : Node α D) (lb : LB D) (π : List α) : Prop :=
  leLB n.estimate lb = true ∨ ∀ c ∈ n.explored, ¬ (c :: n.tail) <:+ π

/-- (S2) `π` is covered by a frontier node that still accounts for it -/
def SC (st : St α D) (π : List α) : Prop :=
  ∃ id ∈ st.fr, (st.store.get id).tail <:+ π ∧ Eff (st.store.get id) st.lb π

theorem Eff.mono {n : Node α D} {lb lb' : LB D} {π : List α} (h : Eff n lb π) (hl : LB.le lb lb') :
    Eff n lb' π :=
  h.imp (leLB_mono hl) id

theorem SC.mono {s : Store α D} {fr fr' : List Nat} {lb lb' : LB D} {π : List α} (h : SC ⟨s, fr, lb⟩ π)
    (hfr : ∀ id ∈ fr, id ∈ fr') (hl : LB.le lb lb') : SC ⟨s, fr', lb'⟩ π := by
  obtain ⟨id, hid, h1, h2⟩ := h
  exact ⟨id, hfr id hid, h1, h2.mono hl⟩

theorem SC.ext {st : St α D} {π : List α} (h : SC st π) {s' : Store α D} (he : Ext st.store s')
    (hin : ∀ id ∈ st.fr, id < st.store.size)
    (hx : ∀ id ∈ st.fr, ∀ c ∈ (s'.get id).explored,
      c ∈ (st.store.get id).explored ∨ ¬ (c :: (st.store.get id).tail) <:+ π) :
    SC ⟨s', st.fr, st.lb⟩ π := by
  obtain ⟨w, hw, h1, h2⟩ := h
  obtain ⟨e1, _, e3, _⟩ := he.2 w (hin w hw)
  refine ⟨w, hw, e1 ▸ h1, ?_⟩
  unfold Eff
  rw [e1, e3]
  exact h2.imp id fun h c hc => (hx w hw c hc).elim (h c) id

theorem SC.insertNode {s : Store α D} {fr : List Nat} {lb lb' : LB D} {π : List α} (h : SC ⟨s, fr, lb⟩ π)
    (id : Nat) (hl : LB.le lb lb') : SC ⟨s, Raire.insertNode s fr id, lb'⟩ π :=
  h.mono (fun _ hx => (mem_insertNode _ _ _ _).2 (Or.inr hx)) hl

/-- the witnesses that `replace_descendents` removes are descendants of the node `a` it puts in, which
accounts for everything once it is below the lower bound -/
theorem SC.replaceDescendents {s : Store α D} {fr : List Nat} {lb lb' : LB D} {π : List α}
    (h : SC ⟨s, fr, lb⟩ π) {a : Nat} (hl : LB.le lb lb') (ha : leLB (s.get a).estimate lb' = true) :
    SC ⟨s, Raire.replaceDescendents s fr a, lb'⟩ π := by
  obtain ⟨w, hw, hw1, hw2⟩ := h
  by_cases hd : isDescendentOf (s.get w).tail (s.get a).tail = true
  · obtain ⟨q, _, hq⟩ := (isDescendentOf_iff _ _).1 hd
    exact ⟨a, (mem_replaceDescendents _ _ _ _).2 (Or.inl rfl), List.IsSuffix.trans ⟨q, hq.symm⟩ hw1, Or.inl ha⟩
  · exact ⟨w, (mem_replaceDescendents _ _ _ _).2 (Or.inr ⟨hw, by simpa using hd⟩), hw1, hw2.mono hl⟩

/-! ### frontier-local invariants (S3) -/

/-- the frontier-local part of the loop invariant: (S3) in its first four fields, then (O1)-(O3) -/
structure FInv (st : St α D) : Prop where
  /-- every frontier entry is the index of a node of the store -/
  inRange : ∀ id ∈ st.fr, id < st.store.size
  /-- (S3) a node without assertion (`estimate = inf`) is expandable -/
  infExp : ∀ id ∈ st.fr, (st.store.get id).estimate = Diff.inf → (st.store.get id).expandable = true
  /-- (S3) the nodes without assertion form a prefix of the frontier -/
  infPre : st.fr.Pairwise fun a b =>
    (st.store.get b).estimate = Diff.inf → (st.store.get a).estimate = Diff.inf
  /-- the lower bound is never `inf` at the loop head (`inf` is the "audit not possible" exit) -/
  lbFin : LBfin st.lb
  /-- (O1) the lower bound is below the largest difficulty of every sufficient set of true assertions -/
  lbOpt : ∀ x, st.lb = some x → LeOPT asn C cvrs winner x
  /-- (O2) so is the estimate of every frontier node that will not be expanded -/
  nonexpOpt : ∀ id ∈ st.fr, (st.store.get id).expandable = false →
    LeOPT asn C cvrs winner (st.store.get id).estimate
  /-- (O3) an expandable node is cheaper than everything before it, unless it is below the lower bound -/
  sorted : st.fr.Pairwise fun a b => (st.store.get b).expandable = true →
    Diff.le (st.store.get b).estimate (st.store.get a).estimate = true ∨
    leLB (st.store.get b).estimate st.lb = true

/-- the running lower bound is finite and really is one: every sufficient set of true assertions reaches it -/
def LBok (lb : LB D) : Prop := LBfin lb ∧ ∀ x, lb = some x → LeOPT asn C cvrs winner x

variable {asn C cvrs winner}

theorem FInv.lbOk {st : St α D} (h : FInv asn C cvrs winner st) : LBok asn C cvrs winner st.lb := ⟨h.lbFin, h.lbOpt⟩

theorem FInv.leOPT_of_leLB {st : St α D} (h : FInv asn C cvrs winner st) {e : Diff D}
    (he : leLB e st.lb = true) : LeOPT asn C cvrs winner e := by
  cases hl : st.lb with
  | none => rw [hl] at he; cases he
  | some l =>
    rw [hl] at he
    exact (h.lbOpt l hl).mono he

theorem FInv.ext {st : St α D} (h : FInv asn C cvrs winner st) {s' : Store α D} (he : Ext st.store s')
    (hoff : ∀ id ∈ st.fr, (s'.get id).expandable = false →
      (st.store.get id).expandable = false ∨ leLB (st.store.get id).estimate st.lb = true) :
    FInv asn C cvrs winner ⟨s', st.fr, st.lb⟩ := by
  have hest : ∀ id ∈ st.fr, (s'.get id).estimate = (st.store.get id).estimate :=
    fun id hid => (he.2 id (h.inRange id hid)).2.2.1
  refine ⟨fun id hid => Nat.lt_of_lt_of_le (h.inRange id hid) he.1, ?_, ?_, h.lbFin, h.lbOpt, ?_, ?_⟩
  · intro id hid hinf
    rw [hest id hid] at hinf
    cases hx : (s'.get id).expandable with
    | true => rfl
    | false =>
      rcases hoff id hid hx with h1 | h1
      · rw [h.infExp id hid hinf] at h1; cases h1
      · exact absurd hinf (leLB_fin h.lbFin h1)
  · refine h.infPre.imp_of_mem ?_
    intro a b ha hb hab
    rw [hest a ha, hest b hb]; exact hab
  · intro id hid hx
    rw [hest id hid]
    rcases hoff id hid hx with h1 | h1
    · exact h.nonexpOpt id hid h1
    · exact h.leOPT_of_leLB h1
  · refine h.sorted.imp_of_mem ?_
    intro a b ha hb hab hx
    rw [hest a ha, hest b hb]
    exact hab ((he.2 b (h.inRange b hb)).2.2.2.2.2 hx)

/-- `insert_node` keeps (S3) and (O3) in each of its three cases (append a non-expandable node, put a node
without assertion first, insert by estimate); a non-expandable node must come with (O2) and a finite estimate -/
theorem FInv.insertNode {st : St α D} (h : FInv asn C cvrs winner st) (id : Nat) (hid : id < st.store.size)
    (hne : (st.store.get id).expandable = false →
      (st.store.get id).estimate ≠ Diff.inf ∧ LeOPT asn C cvrs winner (st.store.get id).estimate) :
    FInv asn C cvrs winner { st with fr := Raire.insertNode st.store st.fr id } := by
  obtain ⟨pre, post, h1, h2, c1, c2, c3⟩ := insertNode_split st.store st.fr id
  have hmem := fun x => (mem_insertNode st.store st.fr id x).1
  have hexp : (st.store.get id).estimate = Diff.inf → (st.store.get id).expandable = true := fun hinf => by
    cases he : (st.store.get id).expandable with
    | true => rfl
    | false => exact absurd hinf (hne he).1
  -- the node right behind `id` is at most as difficult
  have hy : ∀ y post', post = y :: post' →
      Diff.le (st.store.get y).estimate (st.store.get id).estimate = true := fun y post' hp => by
    have he : (st.store.get id).expandable = true := by
      cases he : (st.store.get id).expandable with
      | true => rfl
      | false => rw [c1 he] at hp; cases hp
    by_cases hinf : (st.store.get id).estimate = Diff.inf
    · rw [hinf]; exact Diff.le_inf _
    · exact (c3 he hinf).2 y (by rw [hp]; rfl)
  refine ⟨fun x hx => ?_, fun x hx => ?_, ?_, h.lbFin, h.lbOpt, fun x hx hx' => ?_, ?_⟩
  · rcases hmem x hx with rfl | hx
    · exact hid
    · exact h.inRange x hx
  · rcases hmem x hx with rfl | hx
    · exact hexp
    · exact h.infExp x hx
  · show (Raire.insertNode st.store st.fr id).Pairwise _
    rw [h2]
    refine pairwise_insert (h1 ▸ h.infPre) (fun a ha hinf => ?_) (fun y post' hp => ?_)
    · rw [c2 (hexp hinf) hinf] at ha; cases ha
    · have key : (st.store.get y).estimate = Diff.inf → (st.store.get id).estimate = Diff.inf :=
        fun hyinf => (Diff.inf_le_iff _).1 (hyinf ▸ hy y post' hp)
      exact ⟨key, fun b _ hyb hb => key (hyb hb)⟩
  · rcases hmem x hx with rfl | hx
    · exact (hne hx').2
    · exact h.nonexpOpt x hx hx'
  · show (Raire.insertNode st.store st.fr id).Pairwise _
    rw [h2]
    refine pairwise_insert (h1 ▸ h.sorted) (fun a ha hx => ?_) (fun y post' hp => ?_)
    · by_cases hinf : (st.store.get id).estimate = Diff.inf
      · rw [c2 hx hinf] at ha; cases ha
      · exact Or.inl (Diff.le_of_not_le ((c3 hx hinf).1 a ha))
    · exact ⟨fun _ => Or.inl (hy y post' hp),
        fun b _ hyb hx => (hyb hx).imp_left fun hby => Diff.le_trans hby (hy y post' hp)⟩

theorem FInv.sublist {st : St α D} (h : FInv asn C cvrs winner st) {fr : List Nat} (hs : fr.Sublist st.fr) :
    FInv asn C cvrs winner { st with fr := fr } :=
  ⟨fun id hid => h.inRange id (hs.subset hid), fun id hid => h.infExp id (hs.subset hid), h.infPre.sublist hs,
   h.lbFin, h.lbOpt, fun id hid => h.nonexpOpt id (hs.subset hid), h.sorted.sublist hs⟩

theorem FInv.filter {st : St α D} (h : FInv asn C cvrs winner st) (p : Nat → Bool) :
    FInv asn C cvrs winner { st with fr := st.fr.filter p } :=
  h.sublist List.filter_sublist

theorem FInv.replaceDescendents {st : St α D} (h : FInv asn C cvrs winner st) (id : Nat) (hid : id < st.store.size)
    (hne : (st.store.get id).estimate ≠ Diff.inf) (hopt : LeOPT asn C cvrs winner (st.store.get id).estimate) :
    FInv asn C cvrs winner { st with fr := Raire.replaceDescendents st.store st.fr id } :=
  (h.filter _).insertNode id hid (fun _ => ⟨hne, hopt⟩)

theorem FInv.setLb {st : St α D} (h : FInv asn C cvrs winner st) (lb : LB D) (hle : LB.le st.lb lb)
    (hlb : LBok asn C cvrs winner lb) : FInv asn C cvrs winner { st with lb := lb } :=
  ⟨h.inRange, h.infExp, h.infPre, hlb.1, hlb.2, h.nonexpOpt,
   h.sorted.imp (fun hab hexp => (hab hexp).imp id (leLB_mono hle))⟩

theorem FInv.maxLB {st : St α D} (h : FInv asn C cvrs winner st) {x : Diff D} (hx : x ≠ Diff.inf)
    (hopt : LeOPT asn C cvrs winner x) : FInv asn C cvrs winner { st with lb := Raire.maxLB st.lb x } :=
  h.setLb _ (le_maxLB_left _ _)
    (maxLB_rec h.lbOk ⟨fun e => hx (Option.some.inj e), fun _ hy => Option.some.inj hy ▸ hopt⟩)

variable (asn C cvrs winner)

/-! ### termination measure

Every iteration of the main loop strictly decreases `Phi`, the sum over the frontier of the weights of the
expandable nodes: a node that will never be expanded (`estimate <= lowerbound`) weighs its tail length, any
other expandable node weighs `W (N - length)`, more than everything its processing can add to the frontier. -/

/-- weight of an expandable node that may still be expanded, `d` = number of candidates not in its tail.
With `X = W N (d - 1)` the weight of a child, processing the node adds at most `N * X` in the dive (at most `N`
nodes, each at most `X`), at most `N * X` in the expansion loop (at most `N` children), and the node itself
may be put back with weight `< N < X`: hence the factor `2 * N + 1` (`W_pred`, `lt_of_budget`). -/
def W (N : Nat) : Nat → Nat
  | 0 => N + 1
  | d + 1 => (2 * N + 1) * W N d

theorem W_le_succ (N d : Nat) : W N d ≤ W N (d + 1) :=
  Nat.le_mul_of_pos_left _ (Nat.succ_pos _)

theorem succ_le_W (N d : Nat) : N + 1 ≤ W N d := by
  induction d with
  | zero => exact Nat.le_refl _
  | succ d ih => exact Nat.le_trans ih (W_le_succ N d)

theorem W_mono (N : Nat) {d d' : Nat} (h : d ≤ d') : W N d ≤ W N d' := by
  induction h with
  | refl => exact Nat.le_refl _
  | step _ ih => exact Nat.le_trans ih (W_le_succ N _)

theorem W_pred {N k : Nat} (h : k < N) :
    W N (N - k) = N * W N (N - k - 1) + N * W N (N - k - 1) + W N (N - k - 1) := by
  have e : N - k = (N - k - 1) + 1 := (Nat.sub_add_cancel (Nat.sub_pos_of_lt h)).symm
  rw [e, Nat.add_sub_cancel]
  show (2 * N + 1) * W N _ = _
  rw [Nat.add_mul, Nat.one_mul, Nat.two_mul, Nat.add_mul]

/-- what an iteration may add to the measure `P0` of the rest of the frontier stays below the weight
`Y + Y + X` (`Y = N * X`) of the popped node: at most `Y` in a dive, then `Y` in the expansion loop, or the
`k - 1` of the node put back by a pruning test -/
theorem lt_of_budget {P0 P1 X Y N k : Nat} (hX : N + 1 ≤ X) (hk : k < N) (h1 : P1 ≤ P0 + Y) :
    P1 + Y < P0 + Y + Y + X ∧ P1 + (k - 1) < P0 + Y + Y + X :=
  have hk1 : k - 1 < Y + X :=
    Nat.lt_of_lt_of_le (Nat.lt_of_le_of_lt (Nat.sub_le k 1) (Nat.lt_trans hk hX)) (Nat.le_add_left X Y)
  ⟨Nat.lt_of_le_of_lt (Nat.add_le_add_right h1 Y) (Nat.lt_add_of_pos_right (Nat.lt_of_lt_of_le (Nat.succ_pos N) hX)),
   Nat.lt_of_le_of_lt (Nat.add_le_add_right h1 _) (Nat.add_assoc (P0 + Y) Y X ▸ Nat.add_lt_add_left hk1 _)⟩

/-- the first step of a dive from a node with `k` candidates in its tail adds one weight `W (N - k - 1)`, the
rest of the dive at most `N - (k + 1)` smaller ones -/
theorem dive_budget {N k : Nat} (h : k < N) :
    W N (N - k - 1) + (N - (k + 1)) * W N (N - (k + 1) - 1) ≤ (N - k) * W N (N - k - 1) := by
  have e : N - k = N - (k + 1) + 1 := (Nat.sub_add_cancel (Nat.sub_pos_of_lt h)).symm
  rw [Nat.sub_sub N k 1, e, Nat.succ_mul, Nat.add_comm]
  exact Nat.add_le_add_right (Nat.mul_le_mul_left _ (W_mono N (Nat.sub_le _ _))) _

/-- the weight of a frontier node in the termination measure: an expandable node above the lower bound weighs
`W` of the candidates not yet in its tail, one at or below it only its length (it is put back at most that often) -/
def wt (N : Nat) (n : Node α D) (lb : LB D) : Nat :=
  if n.expandable then (if leLB n.estimate lb then n.tail.length else W N (N - n.tail.length)) else 0

/-- the termination measure of the main loop: every iteration lowers it -/
def Phi (st : St α D) : Nat :=
  (st.fr.map fun id => wt C.candidates.length (st.store.get id) st.lb).sum

theorem len_le_W {N k : Nat} (h : k ≤ N) (d : Nat) : k ≤ W N d :=
  Nat.le_trans h (Nat.le_trans (Nat.le_succ N) (succ_le_W N d))

theorem wt_le_W (N : Nat) (n : Node α D) (lb : LB D) (hlen : n.tail.length ≤ N) :
    wt N n lb ≤ W N (N - n.tail.length) := by
  unfold wt
  split
  · split
    · exact len_le_W hlen _
    · exact Nat.le_refl _
  · exact Nat.zero_le _

theorem wt_final_le (N : Nat) (n : Node α D) (lb : LB D) (h : leLB n.estimate lb = true) :
    wt N n lb ≤ n.tail.length := by
  unfold wt
  rw [if_pos h]
  split
  · exact Nat.le_refl _
  · exact Nat.zero_le _

theorem le_wt_of_exp (N : Nat) (n : Node α D) (lb : LB D) (h : n.expandable = true)
    (hlen : n.tail.length ≤ N) : n.tail.length ≤ wt N n lb := by
  unfold wt
  rw [if_pos h]
  split
  · exact Nat.le_refl _
  · exact len_le_W hlen _

theorem wt_nonexp (N : Nat) (n : Node α D) (lb : LB D) (h : n.expandable = false) : wt N n lb = 0 := by
  unfold wt; rw [h]; rfl

theorem wt_mono_lb (N : Nat) (n : Node α D) {lb lb' : LB D} (hle : LB.le lb lb')
    (hlen : n.tail.length ≤ N) : wt N n lb' ≤ wt N n lb := by
  unfold wt
  split
  · by_cases h : leLB n.estimate lb = true
    · rw [if_pos h, if_pos (leLB_mono hle h)]; exact Nat.le_refl _
    · rw [if_neg h]
      split
      · exact len_le_W hlen _
      · exact Nat.le_refl _
  · exact Nat.le_refl _

theorem wt_ext (N : Nat) {n n' : Node α D} (lb : LB D) (h : NodeExt n n') : wt N n' lb ≤ wt N n lb := by
  obtain ⟨e1, _, e3, _, _, e6⟩ := h
  cases hx : n'.expandable with
  | false => rw [wt_nonexp N n' lb hx]; exact Nat.zero_le _
  | true =>
    unfold wt
    rw [hx, e6 hx, e1, e3]; exact Nat.le_refl _

theorem Phi_ext {st : St α D} {s' : Store α D} (he : Ext st.store s') (hin : ∀ id ∈ st.fr, id < st.store.size) :
    Phi C ⟨s', st.fr, st.lb⟩ ≤ Phi C st :=
  sum_map_le _ _ _ (fun id hid => wt_ext _ _ (he.2 id (hin id hid)))

theorem Phi_insert (s : Store α D) (fr : List Nat) (lb : LB D) (id : Nat) :
    Phi C ⟨s, Raire.insertNode s fr id, lb⟩ = Phi C ⟨s, fr, lb⟩ + wt C.candidates.length (s.get id) lb := by
  obtain ⟨pre, post, h1, h2, _⟩ := insertNode_split s fr id
  show ((Raire.insertNode s fr id).map _).sum = (fr.map _).sum + _
  rw [h2, h1]
  simp only [List.map_append, List.map_cons, List.sum_append, List.sum_cons]
  omega

theorem Phi_replace (s : Store α D) (fr : List Nat) (lb : LB D) (a : Nat) :
    Phi C ⟨s, Raire.replaceDescendents s fr a, lb⟩ ≤ Phi C ⟨s, fr, lb⟩ + wt C.candidates.length (s.get a) lb :=
  Nat.le_trans (Nat.le_of_eq (Phi_insert C s _ lb a)) (Nat.add_le_add_right (sum_map_filter_le _ _ _) _)

variable {asn C cvrs winner}

theorem NodeOK.len_le {s : Store α D} {id : Nat} (h : NodeOK asn C cvrs winner s id) :
    (s.get id).tail.length ≤ C.candidates.length :=
  (List.subperm_of_subset h.nodup h.sub).length_le

theorem Phi_setLb (st : St α D) (lb' : LB D) (hle : LB.le st.lb lb')
    (hok : StoreOK asn C cvrs winner st.store) (hin : ∀ id ∈ st.fr, id < st.store.size) :
    Phi C ({ st with lb := lb' } : St α D) ≤ Phi C st :=
  sum_map_le _ _ _ (fun id hid => wt_mono_lb _ _ hle (hok id (hin id hid)).len_le)

variable (asn C cvrs winner)

/-! ### manage_node -/

theorem manageNode_expandable (st : St α D) (id : Nat) (h : (st.store.get id).expandable = true) :
    manageNode st id = (false, false, { st with fr := Raire.insertNode st.store st.fr id }) := by
  simp [manageNode, h]

theorem manageNode_leaf (st : St α D) (id anc : Nat) (h : (st.store.get id).expandable = false)
    (ha : (st.store.get id).bestAnc = some anc) :
    manageNode st id =
      if (st.store.get id).estimate.isInf && (st.store.get anc).estimate.isInf then
        (true, true, { st with lb := some Diff.inf })
      else if Diff.le (st.store.get anc).estimate (st.store.get id).estimate then
        (false, true, { st with lb := maxLB st.lb (st.store.get anc).estimate,
                                fr := Raire.replaceDescendents st.store st.fr anc })
      else
        (false, true, { st with lb := maxLB st.lb (st.store.get id).estimate,
                                fr := Raire.insertNode st.store st.fr id }) := by
  simp [manageNode, h, ha]

/-- `manage_node` reporting "audit not possible": the new leaf is an alternative order that no true
assertion contradicts -/
theorem manageNode_anp (hC : C.candidates.Nodup) (st : St α D) (id : Nat) (hid : id < st.store.size)
    (hok : StoreOK asn C cvrs winner st.store)
    (hanc : (st.store.get id).expandable = false → ∃ j, (st.store.get id).bestAnc = some j)
    (hleaf : (st.store.get id).expandable = false → (st.store.get id).tail.length = C.candidates.length)
    (h : (manageNode st id).1 = true) : BadLeaf asn C cvrs winner := by
  cases he : (st.store.get id).expandable with
  | true => rw [manageNode_expandable st id he] at h; cases h
  | false =>
    obtain ⟨anc, ha⟩ := hanc he
    rw [manageNode_leaf st id anc he ha] at h
    by_cases c1 : ((st.store.get id).estimate.isInf && (st.store.get anc).estimate.isInf) = true
    · simp only [Bool.and_eq_true, Diff.isInf_iff] at c1
      refine leaf_bad hC (hok id hid) (hleaf he) c1.1 ?_
      intro j hj
      rw [ha] at hj; cases hj; exact c1.2
    · rw [if_neg c1] at h
      split at h <;> cases h

/-- what `manage_node` does to the invariants when it does not report "audit not possible":
the store is untouched, nothing that was covered gets uncovered, and every order through the new
node's tail is covered afterwards -/
theorem manageNode_spec (hC : C.candidates.Nodup) (st : St α D) (id : Nat) (hid : id < st.store.size)
    (hok : StoreOK asn C cvrs winner st.store) (hF : FInv asn C cvrs winner st)
    (hexp0 : (st.store.get id).explored = [])
    (hanc : (st.store.get id).expandable = false → ∃ j, (st.store.get id).bestAnc = some j)
    (hleaf : (st.store.get id).expandable = false → (st.store.get id).tail.length = C.candidates.length)
    (h : (manageNode st id).1 = false) :
    (manageNode st id).2.2.store = st.store ∧ FInv asn C cvrs winner (manageNode st id).2.2 ∧
    LB.le st.lb (manageNode st id).2.2.lb ∧
    (∀ π, SC st π → SC (manageNode st id).2.2 π) ∧
    (∀ π, (st.store.get id).tail <:+ π → SC (manageNode st id).2.2 π) ∧
    (manageNode st id).2.1 = !(st.store.get id).expandable ∧
    Phi C (manageNode st id).2.2 ≤
      Phi C st + W C.candidates.length (C.candidates.length - (st.store.get id).tail.length) := by
  cases he : (st.store.get id).expandable with
  | true =>
    rw [manageNode_expandable st id he]
    exact ⟨rfl, hF.insertNode id hid (by simp [he]), LB.le_refl _, fun π hsc => hsc.insertNode id (LB.le_refl _),
      fun π hπ => ⟨id, (mem_insertNode _ _ _ _).2 (Or.inl rfl), hπ, Or.inr (by rw [hexp0]; simp)⟩, rfl,
      Nat.le_trans (Nat.le_of_eq (Phi_insert C _ _ _ id))
        (Nat.add_le_add_left (wt_le_W _ _ _ (hok id hid).len_le) _)⟩
  | false =>
    obtain ⟨anc, ha⟩ := hanc he
    obtain ⟨hlt, pre, hpre, htail⟩ := (hok id hid).anc anc ha
    have hancsz : anc < st.store.size := Nat.lt_trans hlt hid
    have hopt := leaf_leOPT asn C cvrs winner hC (hok id hid) (hleaf he) ha
    have hW := succ_le_W C.candidates.length (C.candidates.length - (st.store.get id).tail.length)
    rw [manageNode_leaf st id anc he ha] at h ⊢
    by_cases c1 : ((st.store.get id).estimate.isInf && (st.store.get anc).estimate.isInf) = true
    · rw [if_pos c1] at h; cases h
    rw [if_neg c1]
    by_cases c2 : Diff.le (st.store.get anc).estimate (st.store.get id).estimate = true
    · -- the ancestor's assertion is the cheaper one: it replaces its descendants
      rw [if_pos c2]
      rw [if_pos c2] at hopt
      have hafin : (st.store.get anc).estimate ≠ Diff.inf := by
        intro hi
        rw [hi, Diff.inf_le_iff] at c2
        rw [hi, c2] at c1
        exact c1 rfl
      have hle := le_maxLB_left st.lb (st.store.get anc).estimate
      have hbelow := le_maxLB_right st.lb (st.store.get anc).estimate
      refine ⟨rfl, (hF.replaceDescendents anc hancsz hafin hopt).maxLB hafin hopt, hle,
        fun π hsc => hsc.replaceDescendents hle hbelow,
        fun π hπ => ⟨anc, (mem_replaceDescendents _ _ _ _).2 (Or.inl rfl),
          List.IsSuffix.trans ⟨pre, htail.symm⟩ hπ, Or.inl hbelow⟩, rfl, ?_⟩
      have h1 := Phi_replace C st.store st.fr (maxLB st.lb (st.store.get anc).estimate) anc
      have h2 := Phi_setLb st _ hle hok hF.inRange
      have h3 := wt_final_le C.candidates.length (st.store.get anc) _ hbelow
      have h4 := (hok anc hancsz).len_le
      -- by `h3`, `h4`, `hW`: `wt anc <= |tail anc| <= N < W`
      exact Nat.le_trans h1 (Nat.add_le_add h2 (by omega))
    · -- the leaf's own assertion is the cheaper one: the leaf goes into the frontier
      rw [if_neg c2]
      rw [if_neg c2] at hopt
      have hnfin : (st.store.get id).estimate ≠ Diff.inf := by
        intro hi; rw [hi, Diff.le_inf] at c2; exact c2 rfl
      have hle := le_maxLB_left st.lb (st.store.get id).estimate
      refine ⟨rfl, (hF.insertNode id hid (fun _ => ⟨hnfin, hopt⟩)).maxLB hnfin hopt, hle,
        fun π hsc => hsc.insertNode id hle,
        fun π hπ => ⟨id, (mem_insertNode _ _ _ _).2 (Or.inl rfl), hπ, Or.inl (le_maxLB_right _ _)⟩, rfl, ?_⟩
      have h1 := Phi_insert C st.store st.fr (maxLB st.lb (st.store.get id).estimate) id
      have h2 := Phi_setLb st _ hle hok hF.inRange
      rw [wt_nonexp _ _ _ he] at h1
      exact Nat.le_trans (Nat.le_of_eq h1) (Nat.add_le_add h2 (Nat.zero_le _))

/-! ### creating a child node -/

/-- the ancestor chosen at raire.py L240-243 / raire_utils.py L889-891: the local `anc` of `mkChild`, under a name so
that `mkChild_fields` can state it -/
def childAnc (s : Store α D) (p : Nat) : Nat :=
  match (s.get p).bestAnc with
  | some a => if Diff.le (s.get a).estimate (s.get p).estimate then a else p
  | none => p

theorem mkChild_fields (s : Store α D) (p : Nat) (c : α) (dive : Bool) :
    let n := mkChild asn C (cvrs.filterMap id) (nebTable asn C cvrs) s p c dive
    n.tail = c :: (s.get p).tail ∧ n.best = (fbaOf asn C cvrs (c :: (s.get p).tail)).1 ∧
    n.estimate = (fbaOf asn C cvrs (c :: (s.get p).tail)).2 ∧ n.bestAnc = some (childAnc s p) ∧
    n.expandable = !(((s.get p).tail.length + 1) == C.candidates.length) ∧ n.explored = [] ∧
    n.diveNode = dive := by
  refine ⟨rfl, rfl, rfl, ?_, rfl, rfl, rfl⟩
  simp only [mkChild, childAnc]
  cases (s.get p).bestAnc <;> rfl

variable {asn C cvrs winner}

theorem alt_through (hC : C.candidates.Nodup) {π t : List α} (hπ : π.Perm C.candidates) (ht : t <:+ π)
    (hlen : t.length < C.candidates.length) :
    ∃ c, (c :: t) <:+ π ∧ c ∈ C.candidates ∧ c ∉ t := by
  obtain ⟨pre, rfl⟩ := ht
  have hne : pre ≠ [] := fun h => by
    rw [← hπ.length_eq, h] at hlen
    exact Nat.lt_irrefl _ hlen
  obtain ⟨pre', c, rfl⟩ := exists_eq_concat hne
  refine ⟨c, ⟨pre', (List.append_assoc pre' [c] t).symm⟩, hπ.mem_iff.1 (by simp), fun hct => ?_⟩
  exact (List.nodup_append.1 (hπ.nodup_iff.2 hC)).2.2 c (by simp) c hct rfl

/-- (S1), BestAnc for a new child `c :: tail(p)`: its best ancestor is the cheaper of `p` and the best ancestor of `p`,
hence at most as difficult as every proper suffix of its tail of length at least 2 -/
theorem child_ok (s s1 : Store α D) (hok : StoreOK asn C cvrs winner s) (p : Nat) (hp : p < s.size)
    (c : α) (hc : c ∈ C.candidates) (hct : c ∉ (s.get p).tail) (hexp : (s.get p).expandable = true)
    (dive : Bool) (hs1 : ∀ k, k < s.size → NodeExt (s.get k) (Store.get s1 k))
    (hnew : Store.get s1 s.size = mkChild asn C (cvrs.filterMap id) (nebTable asn C cvrs) s p c dive) :
    NodeOK asn C cvrs winner s1 s.size := by
  obtain ⟨f1, f2, f3, f4, f5, _⟩ := mkChild_fields asn C cvrs s p c dive
  rw [← hnew] at f1 f2 f3 f4 f5
  have hP := hok p hp
  -- the chosen ancestor: a proper suffix, cheaper than the parent and than every shorter suffix
  obtain ⟨ha1, ha2, ha3, ha4⟩ : childAnc s p < s.size ∧
      (∃ pre, pre ≠ [] ∧ c :: (s.get p).tail = pre ++ (s.get (childAnc s p)).tail) ∧
      Diff.le (s.get (childAnc s p)).estimate (s.get p).estimate = true ∧
      (∀ t, t <:+ (s.get p).tail → 2 ≤ t.length → t.length < (s.get p).tail.length →
        Diff.le (s.get (childAnc s p)).estimate (fbaOf asn C cvrs t).2 = true) := by
    unfold childAnc
    cases hb : (s.get p).bestAnc with
    | none =>
      refine ⟨hp, ⟨[c], List.cons_ne_nil c [], rfl⟩, Diff.le_refl _, fun t _ h2 h3 => ?_⟩
      exact absurd (hP.ancNone hb ▸ h3) (Nat.not_lt.2 h2)
    | some a =>
      obtain ⟨hap, pre, hpre, htl⟩ := hP.anc a hb
      simp only
      by_cases hle : Diff.le (s.get a).estimate (s.get p).estimate = true
      · rw [if_pos hle]
        exact ⟨Nat.lt_trans hap hp, ⟨c :: pre, List.cons_ne_nil c pre, congrArg (c :: ·) htl⟩, hle, hP.ancMin a hb⟩
      · rw [if_neg hle]
        exact ⟨hp, ⟨[c], List.cons_ne_nil c [], rfl⟩, Diff.le_refl _, fun t h1 h2 h3 =>
          Diff.le_trans (Diff.le_of_not_le (Bool.eq_false_iff.2 hle)) (hP.ancMin a hb t h1 h2 h3)⟩
  have hancE := hs1 _ ha1
  refine ⟨by rw [f1]; exact List.nodup_cons.2 ⟨hct, hP.nodup⟩,
    by rw [f1]; exact List.forall_mem_cons.2 ⟨hc, hP.sub⟩,
    by rw [f1]; exact Nat.le_succ_of_le hP.len, ?_, by rw [f2, f1], by rw [f3, f1], ?_, ?_, ?_,
    fun h => nomatch f4.symm.trans h⟩
  · obtain ⟨pre, x, h1, h2⟩ := hP.alt
    exact ⟨c :: pre, x, by rw [f1, h1]; rfl, h2⟩
  · rw [f5, f1]
    intro h
    simp only [Bool.not_eq_true', beq_eq_false_iff_ne] at h
    exact Nat.lt_of_le_of_ne (hP.expLen hexp) h
  · intro j hj
    cases f4.symm.trans hj
    exact ⟨ha1, by rw [f1, hancE.1]; exact ha2⟩
  · intro j hj t h1 h2 h3
    cases f4.symm.trans hj
    rw [f1] at h1 h3
    rw [hancE.2.2.1]
    rcases List.suffix_cons_iff.1 h1 with h | h
    · exact absurd h3 (h ▸ Nat.lt_irrefl _)
    · by_cases hl : t.length = (s.get p).tail.length
      · rw [h.eq_of_length hl, ← hP.est]; exact ha3
      · exact ha4 t h h2 (Nat.lt_of_le_of_ne h.length_le hl)

/-- the step shared by a dive and the expansion loop: the child `c :: tail(p)` of the expandable node `p` is
put at the end of the store and handed to `manage_node`. `s0` is the store the child is pushed on: that of `st`,
except that `c` may have been added to the explored children of `p`. -/
theorem child_step (hC : C.candidates.Nodup) (st : St α D) (p : Nat) (c : α) (dive : Bool) (s0 : Store α D)
    (hp : p < st.store.size) (hok : StoreOK asn C cvrs winner st.store) (hF : FInv asn C cvrs winner st)
    (hexp : (st.store.get p).expandable = true) (hc : c ∈ C.candidates) (hct : c ∉ (st.store.get p).tail)
    (hsz : s0.size = st.store.size) (hold : ∀ k, k ≠ p → s0.get k = st.store.get k)
    (E : List α) (hE : ∀ x ∈ E, x ∈ (st.store.get p).explored ∨ x = c)
    (hpar : s0.get p = { st.store.get p with explored := E }) {b t : Bool} {st2 : St α D}
    (hr : manageNode ⟨s0.push (mkChild asn C (cvrs.filterMap id) (nebTable asn C cvrs) st.store p c dive),
      st.fr, st.lb⟩ st.store.size = (b, t, st2)) :
    (b = true ∧ BadLeaf asn C cvrs winner) ∨
    (b = false ∧ st2.store.size = st.store.size + 1 ∧ (∀ k, k < st.store.size → st2.store.get k = s0.get k) ∧
      (st2.store.get st.store.size).tail = c :: (st.store.get p).tail ∧
      StoreOK asn C cvrs winner st2.store ∧ FInv asn C cvrs winner st2 ∧
      LB.le st.lb st2.lb ∧ (∀ π, SC st π → SC st2 π) ∧
      (∀ π, (c :: (st.store.get p).tail) <:+ π → SC st2 π) ∧
      (t = false → (st2.store.get st.store.size).expandable = true) ∧
      Phi C st2 ≤ Phi C st +
        W C.candidates.length (C.candidates.length - (st.store.get p).tail.length - 1)) := by
  generalize hs1 : s0.push _ = s1 at hr
  have hsz1 : s1.size = st.store.size + 1 := by rw [← hs1, Array.size_push, hsz]
  have hold1 : ∀ k, k < st.store.size → Store.get s1 k = s0.get k :=
    fun k hk => by rw [← hs1]; exact Store.get_push_lt _ _ (hsz ▸ hk)
  have hnew : Store.get s1 st.store.size =
      mkChild asn C (cvrs.filterMap id) (nebTable asn C cvrs) st.store p c dive := by
    rw [← hs1, ← hsz]; exact Store.get_push_eq _ _
  obtain ⟨f1, _, _, f4, f5, f6, _⟩ := mkChild_fields asn C cvrs st.store p c dive
  rw [← hnew] at f1 f4 f5 f6
  have hnode : ∀ k, k < st.store.size → NodeExt (st.store.get k) (Store.get s1 k) ∧
      (Store.get s1 k).expandable = (st.store.get k).expandable := by
    intro k hk
    rw [hold1 k hk]
    by_cases hkp : k = p
    · rw [hkp, hpar]; exact ⟨⟨rfl, rfl, rfl, rfl, rfl, id⟩, rfl⟩
    · rw [hold k hkp]; exact ⟨NodeExt.refl _, rfl⟩
  have hE1 : Ext st.store s1 := ⟨hsz1 ▸ Nat.le_succ _, fun k hk => (hnode k hk).1⟩
  have hok1 : StoreOK asn C cvrs winner s1 :=
    hok.succ hE1 hsz1 (child_ok st.store s1 hok p hp c hc hct hexp dive hE1.2 hnew)
  have hF1 : FInv asn C cvrs winner ⟨s1, st.fr, st.lb⟩ :=
    hF.ext hE1 fun k hk hx => Or.inl ((hnode k (hF.inRange k hk)).2 ▸ hx)
  -- an order that does not run through the new child is covered as before
  have hsc1 : ∀ π, ¬ (c :: (st.store.get p).tail) <:+ π → SC st π →
      SC ⟨s1, st.fr, st.lb⟩ π := fun π hthru hsc =>
    hsc.ext hE1 hF.inRange fun k hk x hx => by
      rw [hold1 k (hF.inRange k hk)] at hx
      by_cases hkp : k = p
      · rw [hkp, hpar] at hx; exact hkp ▸ (hE x hx).imp_right fun (e : x = c) => e ▸ hthru
      · rw [hold k hkp] at hx; exact Or.inl hx
  have hancNew : (Store.get s1 st.store.size).expandable = false →
      ∃ j, (Store.get s1 st.store.size).bestAnc = some j := fun _ => ⟨_, f4⟩
  have hleafNew : (Store.get s1 st.store.size).expandable = false →
      (Store.get s1 st.store.size).tail.length = C.candidates.length := by
    rw [f5, f1]
    intro hx
    simpa using hx
  have hidlt : st.store.size < s1.size := hsz1 ▸ Nat.lt_succ_self _
  have hm := manageNode_spec asn C cvrs winner hC ⟨s1, st.fr, st.lb⟩ st.store.size hidlt hok1 hF1 f6
    hancNew hleafNew
  have hbad := manageNode_anp asn C cvrs winner hC ⟨s1, st.fr, st.lb⟩ st.store.size hidlt hok1
    hancNew hleafNew
  rw [hr] at hm hbad
  cases b with
  | true => exact Or.inl ⟨rfl, hbad rfl⟩
  | false =>
  obtain ⟨hst, hF2, hlb, hkeep, hcov, hflag, hPhi2⟩ := hm rfl
  have hst' : st2.store = s1 := hst
  rw [f1] at hcov hPhi2
  rw [hst']
  refine Or.inr ⟨rfl, hsz1, hold1, f1, hok1, hF2, hlb, fun π hsc => ?_, hcov, fun ht => ?_, ?_⟩
  · by_cases hthru : (c :: (st.store.get p).tail) <:+ π
    · exact hcov π hthru
    · exact hkeep π (hsc1 π hthru hsc)
  · simpa [ht] using hflag
  · rw [List.length_cons, Nat.sub_add_eq] at hPhi2
    exact Nat.le_trans hPhi2 (Nat.add_le_add_right (Phi_ext C hE1 hF.inRange) _)

variable (asn C cvrs winner)

/-! ### the two pruning tests on the popped node -/

theorem pruneChecks_none {st : St α D} {te : Nat} (h : pruneChecks st te = none) :
    leLB (st.store.get te).estimate st.lb = false := by
  unfold pruneChecks at h
  simp only at h
  split at h
  · cases h
  · split at h
    · cases h
    · rename_i h1; simpa using h1

theorem pruneChecks_cases {st st' : St α D} {te : Nat} (h : pruneChecks st te = some st') :
    (∃ a, (st.store.get te).bestAnc = some a ∧ leLB (st.store.get a).estimate st.lb = true ∧
      st' = { st with fr := replaceDescendents st.store st.fr a }) ∨
    (leLB (st.store.get te).estimate st.lb = true ∧
      st' = { st with store := st.store.setIfInBounds te { st.store.get te with expandable := false },
                      fr := insertNode (st.store.setIfInBounds te { st.store.get te with expandable := false })
                              st.fr te }) := by
  unfold pruneChecks at h
  simp only at h
  split at h
  · rename_i a ha
    left
    cases hb : (st.store.get te).bestAnc with
    | none => rw [hb] at ha; cases ha
    | some b =>
      rw [hb] at ha
      simp only at ha
      split at ha
      · rename_i hl
        simp only [Option.some.injEq] at ha
        subst ha
        exact ⟨b, rfl, hl, by cases h; rfl⟩
      · cases ha
  · right
    split at h
    · rename_i hl
      exact ⟨hl, by cases h; rfl⟩
    · cases h

-- `hC` is not used: the statement takes it like the other step lemmas
set_option linter.unusedVariables false in
/-- the two pruning tests of the main loop on the popped node `te`, when one of them is true: the best ancestor
replaces its descendants, or `te` goes back into the frontier marked as not expandable. The lower bound stays,
(S1)-(S3), (O1)-(O3) are kept, everything through `te` is covered again, and the measure grows by less than
the tail length of `te`. -/
theorem pruneChecks_spec (hC : C.candidates.Nodup) (st st' : St α D) (te : Nat) (hte : te < st.store.size)
    (hok : StoreOK asn C cvrs winner st.store) (hF : FInv asn C cvrs winner st) (h : pruneChecks st te = some st') :
    StoreOK asn C cvrs winner st'.store ∧ FInv asn C cvrs winner st' ∧ st'.lb = st.lb ∧
    (∀ π, SC st π → SC st' π) ∧ (∀ π, (st.store.get te).tail <:+ π → SC st' π) ∧
    Phi C st' ≤ Phi C st + ((st.store.get te).tail.length - 1) := by
  rcases pruneChecks_cases h with ⟨a, ha, hl, rfl⟩ | ⟨hl, rfl⟩
  · -- the best ancestor is below the lower bound: it replaces its descendants
    obtain ⟨hlt, pre, hpre, htail⟩ := (hok te hte).anc a ha
    refine ⟨hok, hF.replaceDescendents a (Nat.lt_trans hlt hte) (leLB_fin hF.lbFin hl) (hF.leOPT_of_leLB hl), rfl,
      fun π hsc => hsc.replaceDescendents (LB.le_refl _) hl,
      fun π hπ => ⟨a, (mem_replaceDescendents _ _ _ _).2 (Or.inl rfl),
        List.IsSuffix.trans ⟨pre, htail.symm⟩ hπ, Or.inl hl⟩, ?_⟩
    have h1 := Phi_replace C st.store st.fr st.lb a
    have h2 := wt_final_le C.candidates.length (st.store.get a) st.lb hl
    have h3 : (st.store.get a).tail.length + 1 ≤ (st.store.get te).tail.length := by
      rw [htail, List.length_append]
      have : pre.length ≠ 0 := fun h0 => hpre (List.length_eq_zero_iff.1 h0)
      omega
    -- by `h2`, `h3`: `wt a <= |tail a| <= |tail te| - 1`
    exact Nat.le_trans h1 (Nat.add_le_add_left (by omega) _)
  · -- the node itself is below the lower bound: it goes back into the frontier, not expandable
    let n' : Node α D := { st.store.get te with expandable := false }
    have hsz : (st.store.setIfInBounds te n').size = st.store.size := Array.size_setIfInBounds
    have hte' := Store.get_set_eq st.store n' hte
    have hne' := fun k (hk : te ≠ k) => Store.get_set_ne st.store n' hk
    have hE := ext_set st.store te n' ⟨rfl, rfl, rfl, rfl, rfl, fun h => nomatch h⟩
    generalize st.store.setIfInBounds te n' = s1 at hsz hte' hne' hE ⊢
    have hF1 : FInv asn C cvrs winner ⟨s1, st.fr, st.lb⟩ := by
      refine hF.ext hE (fun id _ hx => ?_)
      by_cases hk : te = id
      · exact hk ▸ Or.inr hl
      · rw [hne' id hk] at hx; exact Or.inl hx
    refine ⟨fun id hid => hok.ext hE id (hsz ▸ hid), hF1.insertNode te (hsz ▸ hte)
        (fun _ => by rw [hte']; exact ⟨leLB_fin hF.lbFin hl, hF.leOPT_of_leLB hl⟩),
      rfl, fun π hsc => ?_, fun π hπ => ?_, ?_⟩
    · refine (hsc.ext hE hF.inRange fun k _ x hx => Or.inl ?_).insertNode te (LB.le_refl _)
      by_cases hk : te = k
      · rw [← hk, hte'] at hx; exact hk ▸ hx
      · rw [hne' k hk] at hx; exact hx
    · exact ⟨te, (mem_insertNode _ _ _ _).2 (Or.inl rfl), by rw [hte']; exact hπ, Or.inl (by rw [hte']; exact hl)⟩
    · have h1 := Phi_insert C s1 st.fr st.lb te
      rw [hte', wt_nonexp _ _ _ rfl] at h1
      exact Nat.le_trans (Nat.le_of_eq h1) (Nat.add_le_add (Phi_ext C hE hF.inRange) (Nat.zero_le _))

/-! ### perform_dive -/

theorem nextCand_mem (outcome : List α) (c0 : α) (rest : List α) : nextCand outcome c0 rest ∈ c0 :: rest := by
  unfold nextCand
  split
  · exact List.mem_cons_self
  · suffices h : ∀ (l : List α) (acc : α × Nat), acc.1 ∈ c0 :: rest → (∀ x ∈ l, x ∈ c0 :: rest) →
        (l.foldl (fun (acc : α × Nat) c =>
          if outcome.idxOf c > acc.2 then (c, outcome.idxOf c) else acc) acc).1 ∈ c0 :: rest from
      h rest _ List.mem_cons_self (fun x hx => List.mem_cons_of_mem _ hx)
    intro l
    induction l with
    | nil => intro acc h _; exact h
    | cons x l ih =>
      intro acc h hl
      rw [List.foldl_cons]
      apply ih
      · split
        · exact hl x List.mem_cons_self
        · exact h
      · exact fun y hy => hl y (List.mem_cons_of_mem _ hy)

/-- the effect of a dive from node `nid` that does not end in "audit not possible" -/
def DiveOut (st : St α D) (nid : Nat) (sd : St α D) : Prop :=
  ∃ next, StoreOK asn C cvrs winner sd.store ∧ FInv asn C cvrs winner sd ∧ LB.le st.lb sd.lb ∧
    (∀ π, SC st π → SC sd π) ∧ (∀ π, (next :: (st.store.get nid).tail) <:+ π → SC sd π) ∧
    st.store.size ≤ sd.store.size ∧
    (∀ k, k < st.store.size → k ≠ nid → sd.store.get k = st.store.get k) ∧
    sd.store.get nid = { st.store.get nid with explored := (st.store.get nid).explored ++ [next] } ∧
    Phi C sd ≤ Phi C st + (C.candidates.length - (st.store.get nid).tail.length) *
      W C.candidates.length (C.candidates.length - (st.store.get nid).tail.length - 1)

/-- what a dive returns: never an exception; "audit not possible" comes with a witness order; otherwise
`DiveOut` -/
def DiveRes (st : St α D) (nid : Nat) (res : Res (St α D)) : Prop :=
  match res with
  | Res.ok sd => (LB.isInf sd.lb = true → BadLeaf asn C cvrs winner) ∧
      (LB.isInf sd.lb = false → DiveOut asn C cvrs winner st nid sd)
  | Res.fuel => True
  | Res.err _ => False

/-- a dive from the expandable node `nid`, by induction on the fuel: each step is a `child_step`; the fuel runs
out only if `fuel + |tail nid| <= N`, so never with the `N + 1` the main loop gives; `DiveOut` composes along the
path because each step keeps what was covered and the child covers the next step's orders -/
theorem performDive_spec (hC : C.candidates.Nodup) : ∀ (fuel nid : Nat) (st : St α D) (res : Res (St α D)),
    performDive asn C (cvrs.filterMap id) (nebTable asn C cvrs) fuel nid st = res →
    nid < st.store.size → StoreOK asn C cvrs winner st.store → FInv asn C cvrs winner st →
    (st.store.get nid).expandable = true →
    DiveRes asn C cvrs winner st nid res ∧
    (res = Res.fuel → fuel + (st.store.get nid).tail.length ≤ C.candidates.length) := by
  intro fuel
  induction fuel with
  | zero =>
    intro nid st res h hnid hok _ _; simp only [performDive] at h; subst h
    exact ⟨trivial, fun _ => by
      have := (hok nid hnid).len_le
      omega⟩
  | succ fuel ih =>
    intro nid st res h hnid hok hF hexp
    have hklt := (hok nid hnid).expLen hexp
    rw [performDive] at h
    cases hrem : notIn C (st.store.get nid).tail with
    | nil =>
      obtain ⟨c, hc, hct⟩ := exists_not_mem_of_length_lt (t := (st.store.get nid).tail) hC hklt
      have : c ∈ notIn C (st.store.get nid).tail := mem_notIn.2 ⟨hc, hct⟩
      rw [hrem] at this; cases this
    | cons c0 rest =>
      rw [hrem] at h
      simp only at h
      generalize hnext : nextCand C.outcome c0 rest = next at h
      obtain ⟨hnc, hnt⟩ := mem_notIn.1
        (show next ∈ notIn C (st.store.get nid).tail by rw [hrem, ← hnext]; exact nextCand_mem _ _ _)
      generalize hr : manageNode (⟨_, st.fr, st.lb⟩ : St α D) _ = r at h
      obtain ⟨r1, r2, st2⟩ := r
      -- the child is pushed on the store in which `next` is an explored child of `nid`
      rcases child_step hC st nid next true _ hnid hok hF hexp hnc hnt Array.size_setIfInBounds
        (fun k hne => Store.get_set_ne _ _ (Ne.symm hne)) _
        (fun x hx => (List.mem_append.1 hx).imp id List.eq_of_mem_singleton) (Store.get_set_eq _ _ hnid) hr with
        ⟨rfl, hbad⟩ | ⟨rfl, hsz2, hold2, htail2, hok2, hF2, hlb2, hkeep2, hcov2, hexp2, hPhi2⟩
      · simp only [if_true] at h
        subst h
        exact ⟨⟨fun _ => hbad, fun hinf => nomatch hinf⟩, fun h => nomatch h⟩
      simp only [Bool.false_eq_true, if_false] at h
      have hlt : st.store.size < st2.store.size := hsz2 ▸ Nat.lt_succ_self _
      have hget_old : ∀ k, k < st.store.size → k ≠ nid → st2.store.get k = st.store.get k :=
        fun k hk hne => (hold2 k hk).trans (Store.get_set_ne _ _ (Ne.symm hne))
      have hget_nid : st2.store.get nid =
          { st.store.get nid with explored := (st.store.get nid).explored ++ [next] } :=
        (hold2 nid hnid).trans (Store.get_set_eq _ _ hnid)
      cases r2 with
      | true =>
        simp only [if_true] at h
        subst h
        refine ⟨⟨fun hinf => ?_, fun _ => ?_⟩, fun h => nomatch h⟩
        · rw [LB.isInf_false_of_fin hF2.lbFin] at hinf; cases hinf
        · exact ⟨next, hok2, hF2, hlb2, hkeep2, hcov2, Nat.le_of_lt hlt, hget_old, hget_nid,
            Nat.le_trans hPhi2 (Nat.add_le_add_left (Nat.le_mul_of_pos_left _ (Nat.sub_pos_of_lt hklt)) _)⟩
      | false =>
        simp only [Bool.false_eq_true, if_false] at h
        obtain ⟨ihres, ihfuel⟩ := ih st.store.size st2 res h hlt hok2 hF2 (hexp2 rfl)
        have hlen2 : (st2.store.get st.store.size).tail.length = (st.store.get nid).tail.length + 1 := by
          rw [htail2]; rfl
        rw [hlen2] at ihfuel
        refine ⟨?_, fun hr => by have := ihfuel hr; omega⟩
        cases res with
        | fuel => trivial
        | err e => exact ihres
        | ok sd =>
          refine ⟨ihres.1, fun hinf => ?_⟩
          obtain ⟨_, hokd, hFd, hlbd, hkeepd, _, hszd, hframed, _, hPhid⟩ := ihres.2 hinf
          rw [hlen2] at hPhid
          have hframe : ∀ k, k < st.store.size → sd.store.get k = st2.store.get k :=
            fun k hk => hframed k (Nat.lt_trans hk hlt) (Nat.ne_of_lt hk)
          refine ⟨next, hokd, hFd, LB.le_trans hlb2 hlbd, fun π hsc => hkeepd π (hkeep2 π hsc),
            fun π hthru => hkeepd π (hcov2 π hthru), Nat.le_trans (Nat.le_of_lt hlt) hszd,
            fun k hk hne => (hframe k hk).trans (hget_old k hk hne), (hframe nid hnid).trans hget_nid, ?_⟩
          exact Nat.le_trans hPhid (Nat.le_trans (Nat.add_le_add_right hPhi2 _)
            (by rw [Nat.add_assoc]; exact Nat.add_le_add_left (dive_budget hklt) _))

/-! ### the expansion loop -/

/-- the expansion loop over the candidates `cs` at node `te`, by induction on `cs`: every child that is neither in
the tail nor already explored is created by a `child_step`; the store only grows, the old nodes stay as they
are, and each child adds at most one weight `W (N - |tail te| - 1)` -/
theorem expandLoop_spec (hC : C.candidates.Nodup) (te : Nat) : ∀ (cs : List α) (st st' : St α D) (b : Bool),
    expandLoop asn C (cvrs.filterMap id) (nebTable asn C cvrs) te cs st = (b, st') →
    te < st.store.size → StoreOK asn C cvrs winner st.store → FInv asn C cvrs winner st →
    (∀ c ∈ cs, c ∈ C.candidates) → (st.store.get te).expandable = true →
    (b = true → BadLeaf asn C cvrs winner) ∧
    (b = false →
      StoreOK asn C cvrs winner st'.store ∧ FInv asn C cvrs winner st' ∧ LB.le st.lb st'.lb ∧
      (∀ π, SC st π → SC st' π) ∧
      (∀ c ∈ cs, c ∉ (st.store.get te).tail → c ∉ (st.store.get te).explored →
        ∀ π, (c :: (st.store.get te).tail) <:+ π → SC st' π) ∧
      st.store.size ≤ st'.store.size ∧ (∀ k, k < st.store.size → st'.store.get k = st.store.get k) ∧
      Phi C st' ≤ Phi C st + cs.length *
        W C.candidates.length (C.candidates.length - (st.store.get te).tail.length - 1)) := by
  intro cs
  induction cs with
  | nil =>
    intro st st' b h _ hok hF _ _
    simp only [expandLoop, Prod.mk.injEq] at h
    obtain ⟨rfl, rfl⟩ := h
    exact ⟨fun h => Bool.noConfusion h,
      fun _ => ⟨hok, hF, LB.le_refl _, fun _ h => h, fun _ h => (nomatch h), Nat.le_refl _, fun _ _ => rfl,
        Nat.le_add_right _ _⟩⟩
  | cons c cs ih =>
    intro st st' b h hte hok hF hcs hexp
    have hcs' : ∀ c' ∈ cs, c' ∈ C.candidates := fun c' hc' => hcs c' (List.mem_cons_of_mem _ hc')
    rw [expandLoop] at h
    simp only at h
    by_cases hcond : (!(st.store.get te).tail.contains c && !(st.store.get te).explored.contains c) = true
    · rw [if_pos hcond] at h
      simp only [Bool.and_eq_true, Bool.not_eq_true', List.contains_eq_mem, decide_eq_false_iff_not] at hcond
      generalize hr : manageNode (⟨_, st.fr, st.lb⟩ : St α D) _ = r at h
      obtain ⟨r1, r2, st2⟩ := r
      rcases child_step hC st te c false st.store hte hok hF hexp
        (hcs c List.mem_cons_self) hcond.1 rfl (fun _ _ => rfl) (st.store.get te).explored
        (fun x hx => Or.inl hx) rfl hr with
        ⟨rfl, hbad⟩ | ⟨rfl, hsz, hold, _, hok2, hF2, hlb2, hkeep2, hcov2, _, hPhi2⟩
      · simp only [if_true, Prod.mk.injEq] at h
        obtain ⟨rfl, _⟩ := h
        exact ⟨fun _ => hbad, fun h => nomatch h⟩
      simp only [Bool.false_eq_true, if_false] at h
      have hte2 : st2.store.get te = st.store.get te := hold te hte
      obtain ⟨ihbad, ihgood⟩ := ih st2 st' b h (hsz ▸ Nat.lt_succ_of_lt hte) hok2 hF2 hcs'
        (by rw [hte2]; exact hexp)
      refine ⟨ihbad, fun hb => ?_⟩
      obtain ⟨hok', hF', hlb', hkeep', hcov', hsz', hframe', hPhi'⟩ := ihgood hb
      rw [hte2] at hcov' hPhi'
      have hle : st.store.size ≤ st2.store.size := hsz ▸ Nat.le_succ _
      refine ⟨hok', hF', LB.le_trans hlb2 hlb', fun π hsc => hkeep' π (hkeep2 π hsc), ?_, Nat.le_trans hle hsz',
        fun k hk => (hframe' k (Nat.lt_of_lt_of_le hk hle)).trans (hold k hk), ?_⟩
      · intro c' hc' h1 h2 π hπ
        rcases List.mem_cons.1 hc' with rfl | hc'
        · exact hkeep' π (hcov2 π hπ)
        · exact hcov' c' hc' h1 h2 π hπ
      · rw [List.length_cons, Nat.succ_mul]
        omega
    · rw [if_neg hcond] at h
      obtain ⟨ihbad, ihgood⟩ := ih st st' b h hte hok hF hcs' hexp
      refine ⟨ihbad, fun hb => ?_⟩
      obtain ⟨hok', hF', hlb', hkeep', hcov', hsz', hframe', hPhi'⟩ := ihgood hb
      refine ⟨hok', hF', hlb', hkeep', ?_, hsz', hframe', Nat.le_trans hPhi' (Nat.add_le_add_left
        (Nat.mul_le_mul_right _ (Nat.le_succ _)) _)⟩
      intro c' hc' h1 h2 π hπ
      rcases List.mem_cons.1 hc' with rfl | hc'
      · exact absurd (by simp [h1, h2]) hcond
      · exact hcov' c' hc' h1 h2 π hπ

/-! ### the main loop -/

/-- the loop invariant at the loop head (S1, S2, S3, O1-O3) -/
structure Inv (st : St α D) : Prop where
  ok : StoreOK asn C cvrs winner st.store
  fr : FInv asn C cvrs winner st
  cover : ∀ π, Alt C.candidates winner π → SC st π

/-- the normal exit of the main loop of `raire` (L168): the invariant holds and the head of the frontier is not
expandable -/
def ExitState (st : St α D) : Prop :=
  Inv asn C cvrs winner st ∧ ∃ te rest, st.fr = te :: rest ∧ (st.store.get te).expandable = false

/-- the exit state of the main loop with an `agap` test: the head is not expandable, or the test was true -/
def ExitG (gap : Diff D → Diff D → Bool) (st : St α D) : Prop :=
  Inv asn C cvrs winner st ∧ ∃ te rest, st.fr = te :: rest ∧
    ((st.store.get te).expandable = false ∨ gapExit gap (maxEst st.store te rest) st.lb = true)

/-- what the main loop returns: never an exception; an exit state, or "audit not possible" with a
witness order -/
def LoopOutG (gap : Diff D → Diff D → Bool) (res : Res (Option (St α D))) : Prop :=
  match res with
  | Res.ok (some st') => ExitG asn C cvrs winner gap st'
  | Res.ok none => BadLeaf asn C cvrs winner
  | Res.fuel => True
  | Res.err _ => False

/-- `LoopOutG` for the modelled loop, which has no `agap` test -/
def LoopOut (res : Res (Option (St α D))) : Prop :=
  match res with
  | Res.ok (some st') => ExitState asn C cvrs winner st'
  | Res.ok none => BadLeaf asn C cvrs winner
  | Res.fuel => True
  | Res.err _ => False

theorem exists_alt (hC : C.candidates.Nodup) (hn : 2 ≤ C.candidates.length) :
    ∃ π, Alt C.candidates winner π := by
  obtain ⟨c, hc, hcw⟩ := exists_not_mem_of_length_lt (t := [winner]) hC hn
  exact ⟨C.candidates.erase c ++ [c], List.perm_append_comm.trans (List.perm_cons_erase hc).symm,
    C.candidates.erase c, c, rfl, fun h => hcw (List.mem_singleton.2 h)⟩

theorem Phi_cons {st : St α D} {te : Nat} {rest : List Nat} (hfr : st.fr = te :: rest) :
    Phi C st = Phi C ({ st with fr := rest } : St α D) + wt C.candidates.length (st.store.get te) st.lb := by
  unfold Phi
  rw [hfr, List.map_cons, List.sum_cons, Nat.add_comm]

/-- the main loop, by induction on the fuel: it returns an exit state satisfying the invariant or "audit not
possible" with a witness, never an exception, and runs out of fuel only if the fuel is at most `Phi`.
One iteration pops the head `te`; the rest of the frontier `st0` still satisfies `FInv`, and what `te` accounted
for must be covered again by what the iteration puts into the frontier (`next`). The iteration is a pruning test
(`pruneChecks_spec`), or a dive (`performDive_spec`), the update of the lower bound and a second pruning test, and
then, as for a node created by a dive, the expansion loop (`hexpand`, `expandLoop_spec`): an order through `te`
runs through one of its children (`alt_through`), covered by the dive if explored and by the expansion if not.
`lt_of_budget` shows that the measure has decreased in each case. -/
theorem mainLoopG_spec (gap : Diff D → Diff D → Bool) (hC : C.candidates.Nodup) (hn : 2 ≤ C.candidates.length) :
    ∀ (fuel : Nat) (st : St α D) (r : Res (Option (St α D))),
    mainLoopG gap asn C (cvrs.filterMap id) (nebTable asn C cvrs) fuel st = r →
    Inv asn C cvrs winner st →
    LoopOutG asn C cvrs winner gap r ∧ (r = Res.fuel → fuel ≤ Phi C st) := by
  intro fuel
  induction fuel with
  | zero =>
    intro st r h _; simp only [mainLoopG] at h; subst h
    exact ⟨trivial, fun _ => Nat.zero_le _⟩
  | succ fuel ih =>
    intro st r h hI
    rw [mainLoopG] at h
    cases hfr : st.fr with
    | nil =>
      obtain ⟨π, hπ⟩ := exists_alt C winner hC hn
      obtain ⟨w, hw, _⟩ := hI.cover π hπ
      rw [hfr] at hw; cases hw
    | cons te rest =>
      rw [hfr] at h
      -- the `let`s of the loop body stay local definitions (`expand` is used twice)
      simp (config := { zeta := false }) only at h
      extract_lets n st0 expand at h
      by_cases hgap : gapExit gap (maxEst st.store te rest) st.lb = true
      · -- exit: the `agap` test is true
        rw [if_pos hgap] at h; subst h
        exact ⟨⟨hI, te, rest, hfr, Or.inr hgap⟩, fun h => nomatch h⟩
      rw [if_neg hgap] at h
      by_cases hne : (!(st.store.get te).expandable) = true
      · -- exit: the first frontier node is not expandable
        rw [if_pos hne] at h; subst h
        exact ⟨⟨hI, te, rest, hfr, Or.inl (by simpa using hne)⟩, fun h => nomatch h⟩
      rw [if_neg hne] at h
      have hexp : (st.store.get te).expandable = true := by simpa using hne
      have hte : te < st.store.size := hI.fr.inRange te (by rw [hfr]; exact List.mem_cons_self)
      have hF0 : FInv asn C cvrs winner st0 := hI.fr.sublist (hfr ▸ List.sublist_cons_self te rest)
      have hlen := (hI.ok te hte).expLen hexp
      have hlen2 := (hI.ok te hte).len
      have hPhi : Phi C st = Phi C st0 + _ := Phi_cons C hfr
      -- the next iteration, on a state `st2` of smaller measure: what the rest of the frontier covered must still
      -- be covered, and so must everything the popped node `te` accounted for
      have next : ∀ st2 : St α D, StoreOK asn C cvrs winner st2.store → FInv asn C cvrs winner st2 →
          (∀ π, SC st0 π → SC st2 π) →
          (∀ π, Alt C.candidates winner π → (st.store.get te).tail <:+ π → Eff (st.store.get te) st.lb π →
            SC st2 π) →
          Phi C st2 < Phi C st →
          mainLoopG gap asn C (cvrs.filterMap id) (nebTable asn C cvrs) fuel st2 = r →
          LoopOutG asn C cvrs winner gap r ∧ (r = Res.fuel → fuel + 1 ≤ Phi C st) := by
        intro st2 hok2 hF2 h1 h2 hlt hrun
        obtain ⟨hout, hfuel⟩ := ih st2 r hrun ⟨hok2, hF2, fun π hπ => by
          obtain ⟨w, hw, hw1, hw2⟩ := hI.cover π hπ
          rw [hfr] at hw
          rcases List.mem_cons.1 hw with rfl | hw
          · exact h2 π hπ hw1 hw2
          · exact h1 π ⟨w, hw, hw1, hw2⟩⟩
        exact ⟨hout, fun hr => Nat.lt_of_le_of_lt (hfuel hr) hlt⟩
      cases hp : pruneChecks st0 te with
      | some stp =>
        rw [hp] at h
        obtain ⟨hokp, hFp, _, hkeepp, hcovp, hPhip⟩ := pruneChecks_spec asn C cvrs winner hC st0 stp te hte hI.ok hF0 hp
        -- `k - 1 < k <= wt te`
        have hwt_ge := le_wt_of_exp C.candidates.length (st.store.get te) st.lb hexp (Nat.le_of_lt hlen)
        exact next stp hokp hFp hkeepp (fun π _ hthru _ => hcovp π hthru)
          (Nat.lt_of_lt_of_eq (Nat.lt_of_le_of_lt hPhip (Nat.add_lt_add_left (Nat.lt_of_lt_of_le
            (Nat.sub_lt (Nat.lt_of_lt_of_le Nat.zero_lt_two hlen2) Nat.one_pos) hwt_ge) _)) hPhi.symm) h
      | none =>
        rw [hp] at h
        simp only at h
        have hnle : leLB (st.store.get te).estimate st.lb = false := pruneChecks_none (st := st0) hp
        -- the weight of `te`, with `X = W (N - k - 1)`: `wt te = N * X + N * X + X`
        have hwt_te : wt C.candidates.length (st.store.get te) st.lb =
            W C.candidates.length (C.candidates.length - (st.store.get te).tail.length) := by
          unfold wt
          rw [if_pos hexp, hnle]
          rfl
        rw [hwt_te, W_pred hlen, ← Nat.add_assoc, ← Nat.add_assoc] at hPhi
        have hXpos := succ_le_W C.candidates.length (C.candidates.length - (st.store.get te).tail.length - 1)
        -- the expansion loop from a state reached after popping `te`, and the next iteration
        have hexpand : ∀ st1 : St α D, te < st1.store.size → StoreOK asn C cvrs winner st1.store →
            FInv asn C cvrs winner st1 → (st1.store.get te).tail = (st.store.get te).tail →
            (st1.store.get te).expandable = true → (∀ π, SC st0 π → SC st1 π) →
            (∀ π c, (c :: (st.store.get te).tail) <:+ π → c ∈ (st1.store.get te).explored →
              c ∉ (st.store.get te).explored → SC st1 π) →
            Phi C st1 ≤ Phi C st0 + C.candidates.length *
              W C.candidates.length (C.candidates.length - (st.store.get te).tail.length - 1) →
            (if (expandLoop asn C (cvrs.filterMap id) (nebTable asn C cvrs) te C.candidates st1).1 = true
              then Res.ok none
              else mainLoopG gap asn C (cvrs.filterMap id) (nebTable asn C cvrs) fuel
                (expandLoop asn C (cvrs.filterMap id) (nebTable asn C cvrs) te C.candidates st1).2) = r →
            LoopOutG asn C cvrs winner gap r ∧ (r = Res.fuel → fuel + 1 ≤ Phi C st) := by
          intro st1 hte1 hok1 hF1 htail1 hexp1 hsc1 hexpl hPhi1 hrun
          generalize he : expandLoop _ _ _ _ te _ st1 = e at hrun
          obtain ⟨b, st2⟩ := e
          obtain ⟨ebad, egood⟩ := expandLoop_spec asn C cvrs winner hC te C.candidates st1 st2 b he hte1 hok1 hF1
            (fun c hc => hc) hexp1
          cases b with
          | true => simp only [if_true] at hrun; subst hrun; exact ⟨ebad rfl, fun h => nomatch h⟩
          | false =>
          simp only [Bool.false_eq_true, if_false] at hrun
          obtain ⟨hok2, hF2, _, hkeep2, hcov2, _, _, hPhi2⟩ := egood rfl
          rw [htail1] at hcov2 hPhi2
          refine next st2 hok2 hF2 (fun π hsc => hkeep2 π (hsc1 π hsc)) ?_
            (Nat.lt_of_lt_of_eq (Nat.lt_of_le_of_lt hPhi2 (lt_of_budget hXpos hlen hPhi1).1) hPhi.symm) hrun
          -- every order through `te` runs through one of its children: covered by the dive or by the expansion
          intro π hπ hthru heff
          rcases heff with heff | heff
          · rw [heff] at hnle; cases hnle
          · obtain ⟨c, hc1, hc2, hc3⟩ := alt_through hC hπ.1 hthru hlen
            by_cases hce : c ∈ (st1.store.get te).explored
            · exact hkeep2 π (hexpl π c hc1 hce (fun h => heff c h hc1))
            · exact hcov2 c hc2 hc3 hce π hc1
        by_cases hdn : (!(st.store.get te).diveNode) = true
        · -- dive first
          rw [if_pos hdn] at h
          obtain ⟨hdres, hdfuel⟩ := performDive_spec asn C cvrs winner hC (C.candidates.length + 1) te st0 _ rfl
            hte hI.ok hF0 hexp
          generalize hdive : performDive _ _ _ _ _ te st0 = dres at h hdres hdfuel
          cases dres with
          | fuel => exact absurd (Nat.le_trans (Nat.le_add_right _ _) (hdfuel rfl)) (Nat.not_succ_le_self _)
          | err e => exact hdres.elim
          | ok sd =>
            simp only at h
            by_cases hinf : LB.isInf sd.lb = true
            · rw [if_pos hinf] at h; subst h
              exact ⟨hdres.1 hinf, fun h => nomatch h⟩
            rw [if_neg hinf] at h
            obtain ⟨next', hokd, hFd, _, hkeepd, hcovd, hszd, _, hnid, hPhid⟩ := hdres.2 (Bool.eq_false_iff.2 hinf)
            have hnid' : sd.store.get te =
                { st.store.get te with explored := (st.store.get te).explored ++ [next'] } := hnid
            have htail1 : (sd.store.get te).tail = (st.store.get te).tail := by rw [hnid']
            let st1 : St α D := { sd with lb := maxLB2 st.lb sd.lb }
            have hle1 : LB.le sd.lb st1.lb := le_maxLB2_right _ _
            have hF1 : FInv asn C cvrs winner st1 := hFd.setLb _ hle1 (maxLB2_rec hI.fr.lbOk hFd.lbOk)
            have hsc1 : ∀ π, SC st0 π → SC st1 π :=
              fun π hsc => (hkeepd π hsc).mono (fun _ hx => hx) hle1
            have hte1 : te < sd.store.size := Nat.lt_of_lt_of_le hte hszd
            have hPhi1 : Phi C st1 ≤ Phi C st0 + C.candidates.length *
                W C.candidates.length (C.candidates.length - (st.store.get te).tail.length - 1) :=
              Nat.le_trans (Phi_setLb sd _ hle1 hokd hFd.inRange)
                (Nat.le_trans hPhid (Nat.add_le_add_left (Nat.mul_le_mul_right _ (Nat.sub_le _ _)) _))
            cases hp2 : pruneChecks st1 te with
            | some stp =>
              rw [hp2] at h
              obtain ⟨hokp, hFp, _, hkeepp, hcovp, hPhip⟩ :=
                pruneChecks_spec asn C cvrs winner hC st1 stp te hte1 hokd hF1 hp2
              have hPhip' : Phi C stp ≤ Phi C st1 + ((sd.store.get te).tail.length - 1) := hPhip
              rw [htail1] at hPhip'
              exact next stp hokp hFp (fun π hsc => hkeepp π (hsc1 π hsc))
                (fun π _ hthru _ => hcovp π (htail1 ▸ hthru))
                (Nat.lt_of_lt_of_eq (Nat.lt_of_le_of_lt hPhip' (lt_of_budget hXpos hlen hPhi1).2) hPhi.symm) h
            | none =>
              rw [hp2] at h
              refine hexpand st1 hte1 hokd hF1 htail1 (by rw [hnid']; exact hexp) hsc1 ?_ hPhi1 h
              intro π c hc1 hce hnew
              rw [hnid'] at hce
              rcases List.mem_append.1 hce with hce | hce
              · exact absurd hce hnew
              · rw [List.eq_of_mem_singleton hce] at hc1
                exact (hcovd π hc1).mono (fun _ hx => hx) hle1
        · -- the node was created by a dive: expand directly
          rw [if_neg hdn] at h
          exact hexpand st0 hte hI.ok hF0 rfl hexp (fun π hsc => hsc) (fun π c _ hce hnew => absurd hce hnew)
            (Nat.le_add_right _ _) h

/-- `mainLoop` is `mainLoopG` with the test `noGap`, which is never true: the exit state has a non-expandable head -/
theorem mainLoop_spec (hC : C.candidates.Nodup) (hn : 2 ≤ C.candidates.length)
    (fuel : Nat) (st : St α D) (r : Res (Option (St α D)))
    (h : mainLoop asn C (cvrs.filterMap id) (nebTable asn C cvrs) fuel st = r)
    (hI : Inv asn C cvrs winner st) :
    LoopOut asn C cvrs winner r ∧ (r = Res.fuel → fuel ≤ Phi C st) := by
  obtain ⟨h1, h2⟩ := mainLoopG_spec asn C cvrs winner noGap hC hn fuel st r h hI
  refine ⟨?_, h2⟩
  match r, h1 with
  | Res.ok none, h1 => exact h1
  | Res.ok (some st'), ⟨hI', te, rest, hfr, hx⟩ =>
    refine ⟨hI', te, rest, hfr, hx.resolve_right fun hg => ?_⟩
    cases hlb : st'.lb <;> rw [hlb] at hg <;> cases hg
  | Res.fuel, _ => trivial
  | Res.err _, h1 => exact h1

end Loop
end Shangrla.Raire
