/-
  The test statistic as a process indexed by the history of draws: `Tq h` is the defining product
  after the draws `h` when the parameter applied to each observation is a function `g` of the
  earlier observations (a *predictable* estimator / bet).

  Imports `Props/C12Mart.lean` because `walkQ`, `alphaQ`, `betQ` and `Agree` are defined there, with the
  C12 theorems that relate them to the model.
-/
import Shangrla.Props.C12Mart
import Shangrla.Lemmas.NMKaplan

namespace Shangrla.NM
open Shangrla XR Shangrla.C12

/-- predictable parameters: entry `i` is `g` applied to the first `i` observations -/
def params (g : List ℚ → ℚ) (x : List ℚ) : List ℚ := (List.range x.length).map (fun i => g (x.take i))

@[simp] theorem length_params (g : List ℚ → ℚ) (x : List ℚ) : (params g x).length = x.length := by
  simp [params]

theorem params_getElem? (g : List ℚ → ℚ) (x : List ℚ) {i : Nat} (hi : i < x.length) :
    (params g x)[i]? = some (g (x.take i)) := by
  unfold params
  rw [List.getElem?_map, List.getElem?_range hi]
  rfl

theorem params_snoc (g : List ℚ → ℚ) (h : List ℚ) (a : ℚ) :
    params g (h ++ [a]) = params g h ++ [g h] := by
  unfold params
  simp only [List.length_append, List.length_cons, List.length_nil, Nat.zero_add]
  rw [List.range_succ, List.map_append]
  congr 1
  · apply List.map_congr_left
    intro i hi
    rw [List.mem_range] at hi
    rw [List.take_append_of_le_length (by omega)]
  · simp

/-- the running product at the end of the walk `w` (`T`, the starting value, if there was no draw) -/
def lastT (T : ℚ) (w : List (ℚ × ℚ)) : ℚ := (w.getLast?.map Prod.snd).getD T

theorem lastT_cons (T T' m : ℚ) (w : List (ℚ × ℚ)) : lastT T ((m, T') :: w) = lastT T' w := by
  cases w with
  | nil => rfl
  | cons p ps =>
    simp only [lastT, List.getLast?_cons_cons, List.getLast?_eq_some_getLast (List.cons_ne_nil p ps),
      Option.map_some, Option.getD_some]

theorem walkQ_append (facQ : ℚ → ℚ → ℚ → ℚ) (N : Option Nat) (t : ℚ) :
    ∀ (l l' : List (ℚ × ℚ)) (S : ℚ) (j : Nat) (T : ℚ),
      walkQ facQ N t S j T (l ++ l') =
        walkQ facQ N t S j T l ++
          walkQ facQ N t (S + (l.map Prod.fst).sum) (j + l.length) (lastT T (walkQ facQ N t S j T l)) l' := by
  intro l
  induction l with
  | nil => intro l' S j T; simp [walkQ, lastT]
  | cons hd rest ih =>
    intro l' S j T
    obtain ⟨a, c⟩ := hd
    simp only [List.cons_append, walkQ, List.map_cons, List.sum_cons, List.length_cons]
    rw [ih]
    congr 2
    · congr 1
      · ring
      · omega
      · rw [lastT_cons]

/-- the test statistic after the draws `h`: the product of the factors `facQ`, the parameter applied to each draw being
`g` of the draws before it -/
def Tq (facQ : ℚ → ℚ → ℚ → ℚ) (N : Option Nat) (t : ℚ) (g : List ℚ → ℚ) (h : List ℚ) : ℚ :=
  lastT 1 (walkQ facQ N t 0 1 1 (h.zip (params g h)))

/-- the null conditional mean before the next draw, after the draws `h` -/
def muAfter (N : Option Nat) (t : ℚ) (h : List ℚ) : ℚ := mu N t h.sum (h.length + 1)

/-- entry `i` of the vector `m` of `sjm` depends on the first `i` observations only -/
theorem nullMeans_params (N : Option Nat) (t : ℚ) (x : List ℚ) :
    nullMeansFrom N t 0 1 x = params (muAfter N t) x := by
  refine List.ext_getElem (by rw [length_nullMeansFrom, length_params]) fun i h1 _ => ?_
  rw [length_nullMeansFrom] at h1
  apply Option.some.inj
  rw [← List.getElem?_eq_getElem, ← List.getElem?_eq_getElem, nullMeansFrom_getElem? N t x 0 1 i h1,
    params_getElem? _ x h1, muAfter, psum, zero_add, List.length_take_of_le h1.le, Nat.add_comm]

theorem Tq_nil (facQ : ℚ → ℚ → ℚ → ℚ) (N : Option Nat) (t : ℚ) (g : List ℚ → ℚ) :
    Tq facQ N t g [] = 1 := by
  simp [Tq, params, walkQ, lastT]

/-- the second conjunct says the same of the walk itself, which is the form `Agree` speaks of -/
theorem Tq_snoc (facQ : ℚ → ℚ → ℚ → ℚ) (N : Option Nat) (t : ℚ) (g : List ℚ → ℚ) (h : List ℚ) (a : ℚ) :
    Tq facQ N t g (h ++ [a]) = Tq facQ N t g h * facQ (muAfter N t h) a (g h) ∧
      (walkQ facQ N t 0 1 1 ((h ++ [a]).zip (params g (h ++ [a])))).getLast?
        = some (muAfter N t h, Tq facQ N t g h * facQ (muAfter N t h) a (g h)) := by
  -- split the zipped sample at the last draw and run the walk over the two parts (`walkQ_append`)
  have hz : (h ++ [a]).zip (params g (h ++ [a])) = h.zip (params g h) ++ [(a, g h)] := by
    rw [params_snoc, List.zip_append (by simp)]
    simp
  have hw := walkQ_append facQ N t (h.zip (params g h)) [(a, g h)] 0 1 1
  rw [List.map_fst_zip (length_params g h).ge] at hw
  simp only [List.length_zip, length_params, Nat.min_self, zero_add] at hw
  unfold Tq muAfter
  rw [hz, hw]
  simp only [walkQ]
  rw [Nat.add_comm 1]
  constructor
  · simp [lastT, List.getLast?_append]
  · simp [List.getLast?_append]

end Shangrla.NM
