/-
  Post-processing of the RAIRE frontier (raire.py L271-311): de-duplication (`same_as`), `sorted`, and the
  subsumption pass keep, for every tail that has to be ruled out, an assertion that contradicts every
  complete order ending in that tail; and every kept assertion is one of the frontier's assertions up to
  its `rules_out` field.  DESIGN.md Appendix F, "Post-processing".  Core Lean only.
-/
import Shangrla.Lemmas.RaireSpec

namespace Shangrla.Raire
open Spec

-- fixed statements of this file stand in a section with instance arguments they do not all use
set_option linter.unusedSectionVars false

variable {α : Type} [DecidableEq α] {D : Type} [DiffOrd D]

/-- assertion `x` rules out the tail `t`: it contradicts every complete elimination order that ends in `t` -/
def CoversTail (cands : List α) (x : Assertion α D) (t : List α) : Prop :=
  ∀ π, π.Perm cands → t <:+ π → contradicts x π

/-- the assertion without its `rules_out` field (the tails it was found for): all of it that the audit tests -/
def core (x : Assertion α D) : Assertion α D := { x with rulesOut := [] }

theorem core_fields {x y : Assertion α D} (h : core x = core y) :
    x.kind = y.kind ∧ x.winner = y.winner ∧ x.loser = y.loser ∧ x.eliminated = y.eliminated ∧
    x.votesW = y.votesW ∧ x.votesL = y.votesL ∧ x.difficulty = y.difficulty :=
  ⟨(congrArg Assertion.kind h : _), (congrArg Assertion.winner h : _), (congrArg Assertion.loser h : _),
   (congrArg Assertion.eliminated h : _), (congrArg Assertion.votesW h : _), (congrArg Assertion.votesL h : _),
   (congrArg Assertion.difficulty h : _)⟩

theorem contradicts_of_core {x y : Assertion α D} (h : core x = core y) (π : List α) :
    contradicts x π ↔ contradicts y π := by
  obtain ⟨h1, h2, h3, h4, _⟩ := core_fields h
  unfold contradicts; rw [h1, h2, h3, h4]

theorem coversTail_of_core {cands : List α} {x y : Assertion α D} (h : core x = core y) (t : List α) :
    CoversTail cands x t ↔ CoversTail cands y t :=
  forall_congr' fun π => imp_congr_right fun _ => imp_congr_right fun _ => contradicts_of_core h π

theorem coversTail_suffix {cands : List α} {x : Assertion α D} {r t : List α} (h : CoversTail cands x r)
    (hs : r <:+ t) : CoversTail cands x t :=
  fun π h1 h2 => h π h1 (hs.trans h2)

/-- membership facts every assertion of the family satisfies -/
def Good (cands : List α) (x : Assertion α D) : Prop :=
  x.winner ∈ cands ∧ x.loser ∈ cands ∧ x.winner ≠ x.loser

theorem good_of_core {cands : List α} {x y : Assertion α D} (h : core x = core y) (hy : Good cands y) :
    Good cands x := by
  obtain ⟨_, h2, h3, _⟩ := core_fields h
  unfold Good; rw [h2, h3]; exact hy

theorem sameAs_spec {a x : Assertion α D} (h : sameAs a x = true) :
    a.kind = x.kind ∧ ∀ π, contradicts a π ↔ contradicts x π := by
  unfold sameAs at h
  unfold contradicts
  cases hk : a.kind with
  | neb =>
    rw [hk] at h
    simp only [Bool.and_eq_true, beq_iff_eq] at h
    rw [h.1.1, h.1.2, h.2]
    exact ⟨rfl, fun _ => Iff.rfl⟩
  | nen =>
    rw [hk] at h
    simp only [Bool.and_eq_true, beq_iff_eq] at h
    rw [h.1.1.1, h.1.1.2, h.1.2, h.2]
    exact ⟨rfl, fun _ => Iff.rfl⟩

theorem mem_unionRO (x y : List (List α)) (t : List α) : t ∈ unionRO x y ↔ t ∈ x ∨ t ∈ y := by
  unfold unionRO
  induction y generalizing x with
  | nil => simp
  | cons a y ih =>
    have step : t ∈ (if x.contains a then x else x ++ [a]) ↔ t ∈ x ∨ t = a := by
      split
      · rename_i h
        exact ⟨Or.inl, fun h1 => h1.elim id fun h1 => h1 ▸ List.contains_iff_mem.1 h⟩
      · rw [List.mem_append, List.mem_singleton]
    rw [List.foldl_cons, ih, step, List.mem_cons, or_assoc]

/-! ### the invariant of the post-processing passes -/

/-- `T` = the tails that must be ruled out (the frontier's tails). Every listed assertion is well
formed, contradicts every order ending in one of its own `rules_out` tails, and every required tail has a
listed assertion contradicting all orders ending in it (recorded in `rules_out` if that assertion is NEN). -/
structure PostInv (cands : List α) (L : List (Assertion α D)) (T : List α → Prop) : Prop where
  good : ∀ x ∈ L, Good cands x
  ro : ∀ x ∈ L, ∀ r ∈ x.rulesOut, CoversTail cands x r
  need : ∀ t, T t → ∃ x ∈ L, CoversTail cands x t ∧ (x.kind = .nen → t ∈ x.rulesOut)

theorem PostInv.of_mem_iff {cands : List α} {L L' : List (Assertion α D)} {T : List α → Prop}
    (h : PostInv cands L T) (hm : ∀ x, x ∈ L' ↔ x ∈ L) : PostInv cands L' T :=
  ⟨fun x hx => h.good x ((hm x).1 hx), fun x hx => h.ro x ((hm x).1 hx),
   fun t ht => by obtain ⟨x, hx, h1⟩ := h.need t ht; exact ⟨x, (hm x).2 hx, h1⟩⟩

theorem PostInv.snoc {cands : List α} {L : List (Assertion α D)} {T : List α → Prop}
    (h : PostInv cands L T) {a : Assertion α D} {t : List α} (hg : Good cands a)
    (hro : ∀ r ∈ a.rulesOut, CoversTail cands a r) (hcov : CoversTail cands a t)
    (hnen : a.kind = .nen → t ∈ a.rulesOut) : PostInv cands (L ++ [a]) (fun u => T u ∨ u = t) := by
  have hmem : ∀ y ∈ L ++ [a], y ∈ L ∨ y = a := fun y hy => (List.mem_append.1 hy).imp id List.mem_singleton.1
  refine ⟨fun y hy => ?_, fun y hy => ?_, ?_⟩
  · rcases hmem y hy with hy | rfl
    · exact h.good y hy
    · exact hg
  · rcases hmem y hy with hy | rfl
    · exact h.ro y hy
    · exact hro
  · rintro u (hu | rfl)
    · obtain ⟨y, hy, h2⟩ := h.need u hu
      exact ⟨y, List.mem_append_left _ hy, h2⟩
    · exact ⟨a, List.mem_append_right _ (List.mem_singleton_self a), hcov, hnen⟩

/-! ### the loop shared by de-duplication (raire.py L278-286) and subsumption (L299-308) -/

/-- the first listed assertion satisfying `p` takes over the `rules_out` of `a`; `none` if there is none -/
def mergeFirst (p : Assertion α D → Bool) (a : Assertion α D) :
    List (Assertion α D) → Option (List (Assertion α D))
  | [] => none
  | x :: xs =>
    if p x then some ({ x with rulesOut := unionRO x.rulesOut a.rulesOut } :: xs)
    else (mergeFirst p a xs).map (x :: ·)

theorem dedupeInsert_eq (a : Assertion α D) (L : List (Assertion α D)) :
    dedupeInsert a L = (mergeFirst (sameAs a) a L).getD (L ++ [a]) := by
  induction L with
  | nil => rfl
  | cons x xs ih =>
    rw [dedupeInsert, mergeFirst]
    split
    · rfl
    · rw [ih]; cases mergeFirst (sameAs a) a xs <;> rfl

theorem absorb_eq (a : Assertion α D) (L : List (Assertion α D)) :
    absorb a L = mergeFirst (fun f => subsumes f a) a L := by
  induction L with
  | nil => rfl
  | cons x xs ih => rw [absorb, mergeFirst, ih]

theorem mergeFirst_some {p : Assertion α D → Bool} {a : Assertion α D} {L : List (Assertion α D)} :
    ∀ {L' : List (Assertion α D)}, mergeFirst p a L = some L' →
      ∃ x x', x ∈ L ∧ p x = true ∧ x' = { x with rulesOut := unionRO x.rulesOut a.rulesOut } ∧ x' ∈ L' ∧
        (∀ y ∈ L', y = x' ∨ y ∈ L) ∧ ∀ y ∈ L, y = x ∨ y ∈ L' := by
  induction L with
  | nil => exact fun h => nomatch h
  | cons x xs ih =>
    intro L' h
    by_cases hp : p x = true
    · rw [mergeFirst, if_pos hp] at h
      cases h
      exact ⟨x, _, List.mem_cons_self, hp, rfl, List.mem_cons_self,
        fun y hy => (List.mem_cons.1 hy).imp id (List.mem_cons_of_mem _),
        fun y hy => (List.mem_cons.1 hy).imp id (List.mem_cons_of_mem _)⟩
    · rw [mergeFirst, if_neg hp, Option.map_eq_some_iff] at h
      obtain ⟨M, hm, rfl⟩ := h
      obtain ⟨z, z', hz, hpz, hz', hzM, h1, h2⟩ := ih hm
      have lift : ∀ {A B : List (Assertion α D)} {u : Assertion α D}, (∀ y ∈ A, y = u ∨ y ∈ B) →
          ∀ y ∈ x :: A, y = u ∨ y ∈ x :: B := fun hAB y hy =>
        (List.mem_cons.1 hy).elim (fun e => Or.inr (e ▸ List.mem_cons_self)) fun hy =>
          (hAB y hy).imp id (List.mem_cons_of_mem _)
      exact ⟨z, z', List.mem_cons_of_mem _ hz, hpz, hz', List.mem_cons_of_mem _ hzM, lift h1, lift h2⟩

/-- one pass of either loop, with `rest` = the assertions not yet looked at: `a` is merged into a listed assertion
that stands for `a` wherever `a` was needed, or is listed itself. `hp` asks of a NEN `x` only that the tail is in
`a.rulesOut`: the merged assertion gets the union of the `rules_out` of `x` and of `a`. -/
theorem PostInv.mergeFirst {cands : List α} {p : Assertion α D → Bool} {fin rest : List (Assertion α D)}
    {a : Assertion α D} {T : List α → Prop} (h : PostInv cands (fin ++ a :: rest) T)
    (hp : ∀ x ∈ fin, p x = true → ∀ t, CoversTail cands a t → (a.kind = .nen → t ∈ a.rulesOut) →
      CoversTail cands x t ∧ (x.kind = .nen → t ∈ a.rulesOut)) :
    PostInv cands ((Raire.mergeFirst p a fin).getD (fin ++ [a]) ++ rest) T := by
  cases hm : Raire.mergeFirst p a fin with
  | none => rw [Option.getD_none, List.append_assoc]; exact h
  | some fin' =>
    obtain ⟨x, x', hx, hpx, hx', hxfin', hsub, hsup⟩ := mergeFirst_some hm
    have hfin : ∀ y ∈ fin, y ∈ fin ++ a :: rest := fun y hy => List.mem_append_left _ hy
    have hrest : ∀ y ∈ rest, y ∈ fin ++ a :: rest := fun y hy =>
      List.mem_append_right _ (List.mem_cons_of_mem _ hy)
    have ha : a ∈ fin ++ a :: rest := List.mem_append_right _ List.mem_cons_self
    have hxa := hp x hx hpx
    have hc : core x' = core x := by rw [hx']; rfl
    have hro : ∀ r, r ∈ x'.rulesOut ↔ r ∈ x.rulesOut ∨ r ∈ a.rulesOut := by rw [hx']; exact mem_unionRO _ _
    have hmem : ∀ y ∈ fin' ++ rest, y = x' ∨ y ∈ fin ++ a :: rest := fun y hy =>
      (List.mem_append.1 hy).elim (fun hy => (hsub y hy).imp id (hfin y)) fun hy => Or.inr (hrest y hy)
    -- `x'` stands wherever `x` stood, with tails of `a` in its `rules_out` where needed
    have viaX : ∀ t, CoversTail cands x t → (x.kind = .nen → t ∈ x.rulesOut ∨ t ∈ a.rulesOut) →
        ∃ y ∈ fin' ++ rest, CoversTail cands y t ∧ (y.kind = .nen → t ∈ y.rulesOut) := fun t c1 c2 =>
      ⟨x', List.mem_append_left _ hxfin', (coversTail_of_core hc t).2 c1,
        fun hk => (hro t).2 (c2 ((core_fields hc).1 ▸ hk))⟩
    rw [Option.getD_some]
    refine ⟨fun y hy => ?_, fun y hy r hr => ?_, fun t ht => ?_⟩
    · rcases hmem y hy with rfl | hy
      · exact good_of_core hc (h.good x (hfin x hx))
      · exact h.good y hy
    · rcases hmem y hy with rfl | hy
      · refine (coversTail_of_core hc r).2 (((hro r).1 hr).elim (h.ro x (hfin x hx) r) fun hr => ?_)
        exact (hxa r (h.ro a ha r hr) fun _ => hr).1
      · exact h.ro y hy r hr
    · obtain ⟨y, hy, c1, c2⟩ := h.need t ht
      rcases List.mem_append.1 hy with hy | hy
      · rcases hsup y hy with rfl | hy
        · exact viaX t c1 fun hk => Or.inl (c2 hk)
        · exact ⟨y, List.mem_append_left _ hy, c1, c2⟩
      · rcases List.mem_cons.1 hy with rfl | hy
        · obtain ⟨d1, d2⟩ := hxa t c1 c2
          exact viaX t d1 fun hk => Or.inr (d2 hk)
        · exact ⟨y, List.mem_append_right _ hy, c1, c2⟩

theorem mergeFirst_core (p : Assertion α D → Bool) (a : Assertion α D) (L rest : List (Assertion α D)) :
    ∀ y ∈ (mergeFirst p a L).getD (L ++ [a]) ++ rest, ∃ z ∈ L ++ a :: rest, core y = core z := by
  intro y hy
  cases hm : mergeFirst p a L with
  | none => rw [hm, Option.getD_none, List.append_assoc] at hy; exact ⟨y, hy, rfl⟩
  | some L' =>
    rw [hm, Option.getD_some] at hy
    obtain ⟨x, x', hx, _, rfl, _, hsub, _⟩ := mergeFirst_some hm
    rcases List.mem_append.1 hy with hy | hy
    · rcases hsub y hy with rfl | hy
      · exact ⟨x, List.mem_append_left _ hx, rfl⟩
      · exact ⟨y, List.mem_append_left _ hy, rfl⟩
    · exact ⟨y, List.mem_append_right _ (List.mem_cons_of_mem _ hy), rfl⟩

/-! ### de-duplication (raire.py L275-286) -/

/-- one step of the de-duplication loop: the node with tail `t` and assertion `a` is accounted for -/
theorem PostInv.dedupeInsert {cands : List α} {L : List (Assertion α D)} {T : List α → Prop}
    (h : PostInv cands L T) (a : Assertion α D) (t : List α) (hg : Good cands a)
    (hro : ∀ r ∈ a.rulesOut, CoversTail cands a r) (hcov : CoversTail cands a t)
    (hnen : a.kind = .nen → t ∈ a.rulesOut) :
    PostInv cands (dedupeInsert a L) (fun u => T u ∨ u = t) := by
  rw [dedupeInsert_eq, ← List.append_nil (Option.getD _ _)]
  refine (h.snoc hg hro hcov hnen).mergeFirst fun x _ hx u c1 c2 => ?_
  obtain ⟨hk, hc⟩ := sameAs_spec hx
  exact ⟨fun π p1 p2 => (hc π).1 (c1 π p1 p2), fun hxk => c2 (hk.trans hxk)⟩

theorem dedupeInsert_core (a : Assertion α D) (L : List (Assertion α D)) :
    ∀ y ∈ dedupeInsert a L, core y = core a ∨ ∃ z ∈ L, core y = core z := by
  intro y hy
  rw [dedupeInsert_eq, ← List.append_nil (Option.getD _ _)] at hy
  obtain ⟨z, hz, hc⟩ := mergeFirst_core _ a L [] y hy
  rcases List.mem_append.1 hz with hz | hz
  · exact Or.inr ⟨z, hz, hc⟩
  · exact Or.inl (List.mem_singleton.1 hz ▸ hc)

/-! ### `sorted` (raire.py L290) -/

theorem insertByKey_perm (x : Assertion α D) (l : List (Assertion α D)) : (insertByKey x l).Perm (x :: l) := by
  induction l with
  | nil => exact List.Perm.refl _
  | cons y l ih =>
    unfold insertByKey
    split
    · exact List.Perm.refl _
    · exact (List.Perm.cons y ih).trans (List.Perm.swap x y l)

theorem sortAssertions_perm (l : List (Assertion α D)) : (sortAssertions l).Perm l := by
  unfold sortAssertions
  suffices h : ∀ acc : List (Assertion α D), (l.foldl (fun acc x => insertByKey x acc) acc).Perm (acc ++ l) by
    simpa using h []
  induction l with
  | nil => intro acc; simp
  | cons x l ih =>
    intro acc
    rw [List.foldl_cons]
    refine (ih _).trans ?_
    refine (List.Perm.append_right l (insertByKey_perm x acc)).trans ?_
    simp only [List.cons_append]
    exact List.perm_middle.symm

/-! ### subsumption (raire.py L293-311) -/

theorem isSuffix_iff (a b : List α) : isSuffix a b = true ↔ a <:+ b := by
  unfold isSuffix
  split
  · rename_i h
    exact ⟨fun hf => (nomatch hf), fun hs => absurd hs.length_le (Nat.not_le.2 h)⟩
  · rw [beq_iff_eq, List.suffix_iff_eq_drop, eq_comm]

/-- the filter loop of NENAssertion.subsumes leaves nothing only if every tail extends one of `fro` -/
theorem suffix_of_foldl_filter_nil (fro : List (List α)) : ∀ oro : List (List α),
    fro.foldl (fun oro ro => oro.filter fun t => !isSuffix ro t) oro = [] → ∀ t ∈ oro, ∃ ro ∈ fro, ro <:+ t := by
  induction fro with
  | nil => intro oro h t ht; cases h; cases ht
  | cons r fro ih =>
    intro oro h t ht
    cases hs : isSuffix r t with
    | true => exact ⟨r, List.mem_cons_self, (isSuffix_iff r t).1 hs⟩
    | false =>
      obtain ⟨ro, hro, hsuf⟩ := ih _ h t (List.mem_filter.2 ⟨ht, by rw [hs]; rfl⟩)
      exact ⟨ro, List.mem_cons_of_mem _ hro, hsuf⟩

theorem kind_nen_of_ne {k : Kind} (h : k ≠ .neb) : k = .nen := by
  cases k
  · exact absurd rfl h
  · rfl

/-- NENAssertion.subsumes is sound: every tail of `o` extends a tail `f` rules out -/
theorem nenSubsumes_sound {cands : List α} {f o : Assertion α D}
    (hfro : ∀ r ∈ f.rulesOut, CoversTail cands f r) (h : nenSubsumes f o = true) :
    o.kind = .nen ∧ ∀ t ∈ o.rulesOut, CoversTail cands f t := by
  unfold nenSubsumes at h
  split at h
  · cases h
  · rename_i hk
    refine ⟨kind_nen_of_ne fun e => hk (by rw [e]; rfl), fun t ht => ?_⟩
    obtain ⟨ro, hro, hs⟩ := suffix_of_foldl_filter_nil _ _ (List.isEmpty_iff.1 h) t ht
    exact coversTail_suffix (hfro ro hro) hs

theorem contra_neb_append {w l : α} (E : List α) {p q : List α} (hw : w ∈ p) (hl : l ∈ q) :
    contra .neb w l E (p ++ q) := by
  obtain ⟨p1, p2, rfl⟩ := List.append_of_mem hw
  exact ⟨p1, p2 ++ q, List.append_assoc _ _ _, List.mem_append_right _ hl⟩

/-- NEBAssertion.subsumes (raire_utils.py L370-405) as a proposition: its four tests in order, the last one on
every tail `o` rules out (`idxOrNeg` is -1 for a candidate the tail lacks) -/
theorem nebSubsumes_iff {f o : Assertion α D} : nebSubsumes f o = true ↔
    o.kind ≠ .neb ∧ (f.winner = o.winner ∧ f.loser = o.loser ∨ f.winner = o.winner ∧ f.loser ∉ o.eliminated ∨
      f.winner ∈ o.eliminated ∧ f.loser ∉ o.eliminated ∨
      ∀ ro ∈ o.rulesOut, idxOrNeg f.winner ro < idxOrNeg f.loser ro) := by
  have hlt : ∀ a b : Int, (a == b || decide (b < a)) = false ↔ a < b := fun a b => by
    rw [Bool.or_eq_false_iff, beq_eq_false_iff_ne, decide_eq_false_iff_not]; omega
  unfold nebSubsumes
  simp only [Bool.if_true_left, Bool.if_false_left, Bool.and_eq_true, Bool.or_eq_true, Bool.not_eq_true', beq_iff_eq,
    List.contains_eq_mem, decide_eq_true_eq, decide_eq_false_iff_not, List.all_eq_true, hlt, ne_eq]

theorem split_of_idxOrNeg {w l : α} {ro : List α} (hlt : idxOrNeg w ro < idxOrNeg l ro) :
    l ∈ ro ∧ (w ∈ ro → ∃ s t, ro = s ++ w :: t ∧ l ∈ t) := by
  unfold idxOrNeg at hlt
  simp only [List.contains_iff_mem] at hlt
  have hl : l ∈ ro := by
    apply Classical.byContradiction
    intro hl
    rw [if_neg hl] at hlt
    split at hlt <;> omega
  refine ⟨hl, fun hw => ?_⟩
  rw [if_pos hw, if_pos hl, Int.ofNat_lt] at hlt
  obtain ⟨s, t, rfl, hws⟩ := List.eq_append_cons_of_mem hw
  refine ⟨s, t, rfl, ?_⟩
  rw [List.idxOf_append, List.idxOf_append, if_neg hws, List.idxOf_cons_self] at hlt
  split at hlt
  · rename_i hls
    have := List.idxOf_lt_length_of_mem hls
    omega
  · rename_i hls
    rcases List.mem_append.1 hl with hl | hl
    · exact absurd hl hls
    · rcases List.mem_cons.1 hl with rfl | hl
      · rw [List.idxOf_cons_self] at hlt; omega
      · exact hl

theorem nebSubsumes_sound {cands : List α} {f o : Assertion α D} (hk : f.kind = .neb)
    (hg : Good cands f) (horo : ∀ r ∈ o.rulesOut, CoversTail cands o r) (h : nebSubsumes f o = true) :
    o.kind = .nen ∧ ∀ t ∈ o.rulesOut, CoversTail cands f t := by
  obtain ⟨hwc, hlc, hne⟩ := hg
  obtain ⟨hok, h⟩ := nebSubsumes_iff.1 h
  have hon := kind_nen_of_ne hok
  refine ⟨hon, fun t ht π hπ hsuf => ?_⟩
  unfold contradicts
  rw [hk]
  -- every branch splits `π` into a front part containing `f.winner` and a rest containing `f.loser`
  have hlπ : f.loser ∈ π := hπ.mem_iff.2 hlc
  have ho := horo t ht π hπ hsuf
  unfold contradicts at ho
  rw [hon] at ho
  obtain ⟨pre, post, hπeq, hE, hol⟩ := ho
  have hmid : o.winner ∈ pre ++ [o.winner] := List.mem_append_right _ (List.mem_singleton_self _)
  rw [hπeq] at hlπ
  rcases h with ⟨hw, hl⟩ | ⟨hw, hl⟩ | ⟨hw, hl⟩ | h4
  · -- same winner and loser
    rw [hπeq, List.append_cons, hw, hl]
    exact contra_neb_append _ hmid hol
  · -- same winner, `f.loser` not eliminated in `o`'s context: it is still standing when the winner goes
    rw [hπeq, List.append_cons, hw]
    refine contra_neb_append _ hmid ?_
    rcases List.mem_append.1 hlπ with h1 | h1
    · exact absurd ((hE _).2 h1) hl
    · rcases List.mem_cons.1 h1 with h1 | h1
      · exact absurd (hw.trans h1.symm) hne
      · exact h1
  · -- `f.winner` eliminated in `o`'s context, `f.loser` not
    rw [hπeq]
    refine contra_neb_append _ ((hE _).1 hw) ?_
    exact (List.mem_append.1 hlπ).elim (fun h1 => absurd ((hE _).2 h1) hl) id
  · -- the tail itself has `f.loser`, after `f.winner` if it has `f.winner`
    obtain ⟨hlt, hwt⟩ := split_of_idxOrNeg (h4 t ht)
    obtain ⟨front, rfl⟩ := hsuf
    by_cases hw : f.winner ∈ t
    · obtain ⟨s, u, rfl, hlu⟩ := hwt hw
      exact ⟨front ++ s, u, (List.append_assoc _ _ _).symm, hlu⟩
    · refine contra_neb_append _ ?_ hlt
      exact (List.mem_append.1 (hπ.mem_iff.2 hwc)).elim id fun h => absurd h hw

/-- `subsumes`, NEB or NEN, is sound: only a NEN `o` is subsumed, and `f` then contradicts every order ending in a
tail `o` rules out, so `o` can be dropped -/
theorem subsumes_sound {cands : List α} {f o : Assertion α D} (hg : Good cands f)
    (hfro : ∀ r ∈ f.rulesOut, CoversTail cands f r) (horo : ∀ r ∈ o.rulesOut, CoversTail cands o r)
    (h : subsumes f o = true) : o.kind = .nen ∧ ∀ t ∈ o.rulesOut, CoversTail cands f t := by
  unfold subsumes at h
  cases hk : f.kind with
  | neb => rw [hk] at h; exact nebSubsumes_sound hk hg horo h
  | nen => rw [hk] at h; exact nenSubsumes_sound hfro h

/-- a property passes through the subsumption pass if every step of its loop keeps it, `rest` being the
assertions not yet looked at -/
theorem subsumePass_induct {Q : List (Assertion α D) → Prop}
    (step : ∀ fin a rest, Q (fin ++ a :: rest) →
      Q ((mergeFirst (fun f => subsumes f a) a fin).getD (fin ++ [a]) ++ rest))
    {L : List (Assertion α D)} (h : Q L) : Q (subsumePass L) := by
  cases L with
  | nil => exact h
  | cons x xs =>
    unfold subsumePass
    suffices hs : ∀ (rest fin : List (Assertion α D)), Q (fin ++ rest) →
        Q (rest.foldl (fun fin a => match absorb a fin with
          | some fin' => fin'
          | none => fin ++ [a]) fin) from hs xs [x] h
    intro rest
    induction rest with
    | nil => intro fin hf; rwa [List.append_nil] at hf
    | cons a rest ih =>
      intro fin hf
      rw [List.foldl_cons]
      refine ih _ ?_
      have := step fin a rest hf
      rw [← absorb_eq] at this
      revert this
      cases absorb a fin <;> exact id

/-- the subsumption pass (raire.py L293-311) keeps `PostInv`: a subsumed assertion leaves the list, its `rules_out`
going to the first listed assertion that subsumes it, which covers all of them (`subsumes_sound`) -/
theorem PostInv.subsumePass {cands : List α} {L : List (Assertion α D)} {T : List α → Prop}
    (h : PostInv cands L T) : PostInv cands (subsumePass L) T := by
  refine subsumePass_induct (Q := fun M => PostInv cands M T)
    (fun fin a rest hf => hf.mergeFirst fun f hfin hfa t c1 c2 => ?_) h
  have ha : a ∈ fin ++ a :: rest := List.mem_append_right _ List.mem_cons_self
  have hf' := List.mem_append_left (a :: rest) hfin
  -- `a` is NEN, so what it was needed for is in its `rules_out`, all of which `f` covers
  obtain ⟨hak, hcov⟩ := subsumes_sound (hf.good f hf') (hf.ro f hf') (hf.ro a ha) hfa
  exact ⟨hcov t (c2 hak), fun _ => c2 hak⟩

theorem subsumePass_core (L : List (Assertion α D)) :
    ∀ y ∈ subsumePass L, ∃ z ∈ L, core y = core z := by
  refine subsumePass_induct (Q := fun M => ∀ y ∈ M, ∃ z ∈ L, core y = core z)
    (fun fin a rest hq y hy => ?_) (fun y hy => ⟨y, hy, rfl⟩)
  obtain ⟨z, hz, hc⟩ := mergeFirst_core _ a fin rest y hy
  obtain ⟨z', hz', hc'⟩ := hq z hz
  exact ⟨z', hz', hc.trans hc'⟩

end Shangrla.Raire
