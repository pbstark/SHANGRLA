/-
  From non-anticipation to *predictable form*: an estimator / bet that is strictly causal, returns one
  finite value per observation and does not raise on valid samples is of the form
  `x ↦ [g [], g [x₁], g [x₁,x₂], …]` for an explicit `g : history → ℚ`.
  This is the bridge from the C05 / C13 theorems about the shipped estimators to the hypotheses of the
  C01 theorems.
-/
import Shangrla.Props.C05
import Shangrla.Lemmas.NMProcess

namespace Shangrla.NM
open Shangrla XR Shangrla.C05

/-- the rational an estimator / bet returned; `0` stands in for `nan` and `±inf` -/
def XR.toQ : XR → ℚ
  | .fin q => q
  | _ => 0

/-- the parameter applied after history `h`, read off the call on `h ++ [0]` -/
def gOf (f : List ℚ → Except Err (List XR)) (valid : List ℚ → Prop) [DecidablePred valid] (h : List ℚ) : ℚ :=
  if valid (h ++ [0]) then
    match f (h ++ [0]) with
    | .ok L => XR.toQ (L.getD h.length .nan)
    | .error _ => 0
  else 0

theorem gOf_eq {f : List ℚ → Except Err (List XR)} {valid : List ℚ → Prop} [DecidablePred valid]
    {h : List ℚ} {L : List XR} (hv : valid (h ++ [0])) (hL : f (h ++ [0]) = .ok L) :
    gOf f valid h = XR.toQ (L.getD h.length .nan) := by
  rw [gOf, if_pos hv, hL]

theorem gOf_of_not_valid {f : List ℚ → Except Err (List XR)} {valid : List ℚ → Prop}
    [DecidablePred valid] {h : List ℚ} (hv : ¬ valid (h ++ [0])) : gOf f valid h = 0 :=
  if_neg hv

theorem predictable_of_causal (f : List ℚ → Except Err (List XR)) (valid : List ℚ → Prop)
    [DecidablePred valid]
    (hsc : StrictlyCausalE f) (hlp : LenPresE f)
    (hok : ∀ x, valid x → ∃ L, f x = .ok L ∧ ∀ e ∈ L, ∃ q : ℚ, e = .fin q)
    (hpre : ∀ (x : List ℚ) (i : Nat), valid x → i < x.length → valid (x.take i ++ [0]))
    (x : List ℚ) (hx : valid x) :
    f x = .ok ((params (gOf f valid) x).map XR.fin) := by
  obtain ⟨L, hL, hfin⟩ := hok x hx
  rw [hL]
  congr 1
  have hlen : L.length = x.length := hlp x L hL
  refine List.ext_getElem (by simp [hlen]) fun i h1 _ => ?_
  have hi : i < x.length := hlen ▸ h1
  simp only [List.getElem_map, params, List.getElem_range]
  -- compare with the call on `x.take i ++ [0]`: the two results agree up to index `i`
  have hv := hpre x i hx hi
  obtain ⟨L2, hL2, _⟩ := hok _ hv
  have hlt : (x.take i).length = i := List.length_take_of_le hi.le
  have htake := hsc (x.take i) (x.drop i) [0] L L2
    (fun h => by have := List.drop_eq_nil_iff.1 h; omega) (List.cons_ne_nil _ _)
    (by rw [List.take_append_drop]; exact hL) hL2
  rw [hlt] at htake
  have hLi : L2[i]? = some L[i] := by
    rw [← List.getElem?_take_of_lt (Nat.lt_succ_self i), ← htake,
      List.getElem?_take_of_lt (Nat.lt_succ_self i), List.getElem?_eq_getElem h1]
  obtain ⟨q, hq⟩ := hfin L[i] (List.getElem_mem h1)
  rw [gOf_eq hv hL2]
  simp only [hlt, List.getD_eq_getElem?_getD, hLi, Option.getD_some, hq, XR.toQ]

end Shangrla.NM
