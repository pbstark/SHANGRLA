/- generated by tools/gen_all.sh: every property and lemma module imported together -/
import Shangrla.Lemmas.Except
import Shangrla.Lemmas.NMCausal
import Shangrla.Lemmas.NMKaplan
import Shangrla.Lemmas.NMMart
import Shangrla.Lemmas.NMPredictable
import Shangrla.Lemmas.NMProcess
import Shangrla.Lemmas.NMRange
import Shangrla.Lemmas.NMTests
import Shangrla.Lemmas.NMVille
import Shangrla.Lemmas.Overstatement
import Shangrla.Lemmas.PHist
import Shangrla.Lemmas.Phantoms
import Shangrla.Lemmas.RaireChain
import Shangrla.Lemmas.RaireFBA
import Shangrla.Lemmas.RaireLoop
import Shangrla.Lemmas.RaireMain
import Shangrla.Lemmas.RaireNode
import Shangrla.Lemmas.RairePost
import Shangrla.Lemmas.RaireSocial
import Shangrla.Lemmas.RaireSpec
import Shangrla.Lemmas.RaireStore
import Shangrla.Lemmas.Sampling
import Shangrla.Lemmas.SimpSpec
import Shangrla.Lemmas.Status
import Shangrla.Lemmas.Ville
import Shangrla.Lemmas.VilleIID
import Shangrla.Lemmas.VilleIIDK
import Shangrla.Lemmas.XRBasic
import Shangrla.Props.C01
import Shangrla.Props.C01Any
import Shangrla.Props.C01IID
import Shangrla.Props.C01IIDReal
import Shangrla.Props.C01Kaplan
import Shangrla.Props.C01NonVac
import Shangrla.Props.C01Run
import Shangrla.Props.C01Shipped
import Shangrla.Props.C02
import Shangrla.Props.C02Pairs
import Shangrla.Props.C03
import Shangrla.Props.C04
import Shangrla.Props.C04Simp
import Shangrla.Props.C05
import Shangrla.Props.C06
import Shangrla.Props.C07
import Shangrla.Props.C08a
import Shangrla.Props.C08b
import Shangrla.Props.C09
import Shangrla.Props.C10
import Shangrla.Props.C10Risk
import Shangrla.Props.C11Kaplan
import Shangrla.Props.C11Mart
import Shangrla.Props.C11Shipped
import Shangrla.Props.C12Kaplan
import Shangrla.Props.C12Mart
import Shangrla.Props.C13
import Shangrla.Props.C14
import Shangrla.Props.C15
import Shangrla.Props.C16
import Shangrla.Props.C16Run
import Shangrla.Props.C16Total
import Shangrla.Props.C17
import Shangrla.Props.C18
import Shangrla.Props.C19
import Shangrla.Props.C20
import Shangrla.Props.RiskLimit
import Shangrla.Props.RiskLimitComparison
import Shangrla.Props.RiskLimitComparisonFull
import Shangrla.Props.RiskLimitComparisonOutcome
import Shangrla.Props.RiskLimitConsistentSampling
import Shangrla.Props.RiskLimitIID
import Shangrla.Props.RiskLimitIRV
import Shangrla.Props.RiskLimitIRVComparison
import Shangrla.Props.RiskLimitIRVComparisonFull
import Shangrla.Props.RiskLimitOutcome
import Shangrla.Props.RiskLimitPlurality
import Shangrla.Props.RiskLimitStyle
