/-
  C01, independent draws (the population is declared infinite, `N = np.inf`): for every finitely
  supported law on `[0,u]` with mean at most `t`, every horizon `n` and every `alpha` in `(0,1)`, the
  exact probability that the p-value reported by the literal model of `alpha_mart` / `betting_mart`
  after some number `<= n` of draws is at most `alpha` does not exceed `alpha`.

  The weights of the law live in an arbitrary linearly ordered field `K` (`K = ℝ`: real probabilities);
  the statements for rational weights are the instance `K = ℚ`.  Rational values lose nothing: the
  library's inputs are IEEE doubles, each a rational and finitely many in `[0,u]`.  Weights occur in one
  step only: the expectation of the next factor is at most 1 when the mean of the law is at most `t`;
  everything else is per history.  `atol < 1/2` in the statements is a documented range that no proof uses.

  NOT proved (declared partial in DESIGN.md): the statement for laws on a continuum of real values (not
  finitely supported), which needs a measure-theoretic Ville inequality and which no float input realises.
-/
import Shangrla.Props.C01
import Shangrla.Lemmas.VilleIID

namespace Shangrla.C01
open Shangrla Shangrla.NM XR Shangrla.C12 Shangrla.Ville Shangrla.C11

theorem muAfter_none (t : ℚ) (h : List ℚ) : muAfter none t h = t := rfl

theorem Tq_none_nonneg (facQ : ℚ → ℚ → ℚ → ℚ) (u t : ℚ) (g : List ℚ → ℚ)
    (hfacnn : ∀ (h : List ℚ) (a : ℚ), (∀ b ∈ h, 0 ≤ b ∧ b ≤ u) → 0 ≤ a → a ≤ u → 0 ≤ facQ t a (g h)) :
    ∀ h : List ℚ, (∀ a ∈ h, 0 ≤ a ∧ a ≤ u) → 0 ≤ Tq facQ none t g h := by
  intro h
  induction h using List.reverseRecOn with
  | nil => intro _; rw [Tq_nil]; exact zero_le_one
  | append_singleton l a ih =>
    intro hr
    rw [(Tq_snoc facQ none t g l a).1, muAfter_none]
    have hl : ∀ b ∈ l, 0 ≤ b ∧ b ≤ u := fun b hb => hr b (List.mem_append_left _ hb)
    exact mul_nonneg (ih hl) (hfacnn l a hl (hr a (by simp)).1 (hr a (by simp)).2)

/-! ### the per-history link (no weights) -/

theorem reported_implies_value_iid (cfg : Cfg) (hN : cfg.N = none) (g : List ℚ → ℚ)
    (estim : List ℚ → Except Err (List XR))
    (hest : ∀ h : List ℚ, h ≠ [] → estim h = .ok ((params g h).map XR.fin))
    (ht0 : 0 < cfg.t) (htu : cfg.t < cfg.u)
    (hat : 0 ≤ cfg.atol) (hat2 : cfg.atol < 1 / 2) (hrt : 0 ≤ cfg.rtol)
    (alpha : ℚ) (ha0 : 0 < alpha) (ha1 : alpha < 1) :
    ∀ h, (∀ b ∈ h, 0 ≤ b ∧ b ≤ cfg.u) → reportedLast cfg estim alpha h = true →
      1 / alpha ≤ Tq (alphaQ cfg.u) none cfg.t g h := by
  intro h hr hev
  cases h using List.reverseRecOn with
  | nil => rw [reportedLast_nil] at hev; cases hev
  | append_singleton l a _ =>
    have := (alpha_reported_value cfg g estim l a (hest _ (by simp)) hr
      (forall_of_none hN) (forall_of_none hN)
      (hN ▸ ht0.le) hat hrt alpha ha0 ha1 hev).2.2
    rwa [hN] at this

theorem reported_implies_value_iid_betting (cfg : Cfg) (hN : cfg.N = none) (g : List ℚ → ℚ)
    (bet : List ℚ → Except Err (List XR))
    (hest : ∀ h : List ℚ, h ≠ [] → bet h = .ok ((params g h).map XR.fin))
    (hg0 : ∀ h : List ℚ, 0 ≤ g h) (hg1 : ∀ h : List ℚ, g h * cfg.t ≤ 1)
    (ht0 : 0 < cfg.t) (hat : 0 ≤ cfg.atol) (hrt : 0 ≤ cfg.rtol)
    (alpha : ℚ) (ha0 : 0 < alpha) (ha1 : alpha < 1) :
    ∀ h, (∀ b ∈ h, 0 ≤ b ∧ b ≤ cfg.u) → reportedLastB cfg bet alpha h = true →
      1 / alpha ≤ Tq betQ none cfg.t g h := by
  intro h hr hev
  cases h using List.reverseRecOn with
  | nil => rw [reportedLastB_nil] at hev; cases hev
  | append_singleton l a _ =>
    have := (betting_reported_value cfg g bet l a (hest _ (by simp)) hg0
      (hN ▸ fun h _ _ => hg1 h) hr
      (forall_of_none hN) (forall_of_none hN)
      (hN ▸ ht0.le) hat hrt alpha ha0 ha1 hev).2.2
    rwa [hN] at this

section OrderedField

variable {K : Type} [Field K] [LinearOrder K]

/-- a finitely supported law on `[0,u]`: (rational value, weight in `K`) pairs, weights `≥ 0` summing
to 1 -/
structure IsLawK (u : ℚ) (L : List (ℚ × K)) : Prop where
  w_nonneg : ∀ p ∈ L, 0 ≤ p.2
  w_sum : (L.map Prod.snd).sum = 1
  range : ∀ p ∈ L, 0 ≤ p.1 ∧ p.1 ≤ u

/-- the mean of the law, an element of `K` -/
def lawMeanK (L : List (ℚ × K)) : K := expLK L (fun v => (v : K))

theorem IsLawK.range_step {u : ℚ} {L : List (ℚ × K)} (hL : IsLawK u L) (h : List ℚ)
    (hr : ∀ b ∈ h, 0 ≤ b ∧ b ≤ u) (p : ℚ × K) (hp : p ∈ L) : ∀ b ∈ h ++ [p.1], 0 ≤ b ∧ b ≤ u :=
  List.forall_mem_append.2 ⟨hr, List.forall_mem_singleton.2 (hL.range p hp)⟩

variable [IsStrictOrderedRing K]

/-- Ville's inequality for the test statistic under independent draws: the statistic, the factors, the
threshold and the link `hev` are rational; only the expectation of the next factor is taken in `K` -/
theorem process_ville_iid_K (facQ : ℚ → ℚ → ℚ → ℚ) (u t : ℚ) (g : List ℚ → ℚ)
    (L : List (ℚ × K)) (hL : IsLawK u L)
    (hfacnn : ∀ (h : List ℚ) (a : ℚ), (∀ b ∈ h, 0 ≤ b ∧ b ≤ u) → 0 ≤ a → a ≤ u → 0 ≤ facQ t a (g h))
    (hfacsuper : ∀ h : List ℚ, (∀ b ∈ h, 0 ≤ b ∧ b ≤ u) →
      expLK L (fun v => ((facQ t v (g h) : ℚ) : K)) ≤ 1)
    (ev : List ℚ → Bool) (c : ℚ) (hc : 0 < c)
    (hev : ∀ h, (∀ b ∈ h, 0 ≤ b ∧ b ≤ u) → ev h = true → c ≤ Tq facQ none t g h)
    (n : Nat) : hitIIDK L ev n [] ≤ 1 / (c : K) := by
  have hnn : ∀ h, (∀ b ∈ h, 0 ≤ b ∧ b ≤ u) → (0 : K) ≤ ((Tq facQ none t g h : ℚ) : K) :=
    fun h hI => Rat.cast_nonneg.2 (Tq_none_nonneg facQ u t g hfacnn h hI)
  have key := hitIIDK_le L hL.w_nonneg ev (fun h => ((Tq facQ none t g h : ℚ) : K)) (c : K)
    (Rat.cast_pos.2 hc) (fun h => ∀ b ∈ h, 0 ≤ b ∧ b ≤ u)
    (fun h hI he => Rat.cast_le.2 (hev h hI he)) hnn hL.range_step ?_ n [] nofun
  · rwa [Tq_nil, Rat.cast_one] at key
  · intro h hI
    simp only [(Tq_snoc facQ none t g h _).1, muAfter_none, Rat.cast_mul, expLK_mul_left]
    exact mul_le_of_le_one_right (hnn h hI) (hfacsuper h hI)

theorem ville_last_K (facQ : ℚ → ℚ → ℚ → ℚ) (u t : ℚ) (g : List ℚ → ℚ)
    (L : List (ℚ × K)) (hL : IsLawK u L)
    (hfacnn : ∀ (h : List ℚ) (a : ℚ), (∀ b ∈ h, 0 ≤ b ∧ b ≤ u) → 0 ≤ a → a ≤ u → 0 ≤ facQ t a (g h))
    (hfacsuper : ∀ h : List ℚ, (∀ b ∈ h, 0 ≤ b ∧ b ≤ u) →
      expLK L (fun v => ((facQ t v (g h) : ℚ) : K)) ≤ 1)
    (ev : List ℚ → Bool) (alpha : ℚ) (ha0 : 0 < alpha)
    (hev : ∀ h, (∀ b ∈ h, 0 ≤ b ∧ b ≤ u) → ev h = true → 1 / alpha ≤ Tq facQ none t g h)
    (n : Nat) : hitIIDK L ev n [] ≤ (alpha : K) := by
  have h := process_ville_iid_K facQ u t g L hL hfacnn hfacsuper ev (1 / alpha) (one_div_pos.2 ha0) hev n
  rwa [Rat.cast_div, Rat.cast_one, one_div_one_div] at h

/-! ### the expectation of each factor -/

theorem alphaQ_super_iid_K (u t q : ℚ) (ht0 : 0 < t) (htu : t < u) (L : List (ℚ × K)) (hL : IsLawK u L)
    (hmean : lawMeanK L ≤ (t : K)) : expLK L (fun v => ((alphaQ u t v q : ℚ) : K)) ≤ 1 := by
  simp only [alphaQ_affine u t _ q ht0 htu]
  exact expLK_affine_cast_le_one L hL.w_sum _ _ (lamOf_nonneg u t q ht0 htu) hmean

theorem betQ_super_iid_K (t l : ℚ) (hl0 : 0 ≤ l) (L : List (ℚ × K)) {u : ℚ} (hL : IsLawK u L)
    (hmean : lawMeanK L ≤ (t : K)) : expLK L (fun v => ((betQ t v l : ℚ) : K)) ≤ 1 :=
  expLK_affine_cast_le_one L hL.w_sum _ _ hl0 hmean

/-- **C01, ALPHA, independent draws, weights in `K`**: last history entry of every prefix -/
theorem C01_iid_alpha_K (cfg : Cfg) (hN : cfg.N = none) (g : List ℚ → ℚ)
    (estim : List ℚ → Except Err (List XR))
    (hest : ∀ h : List ℚ, h ≠ [] → estim h = .ok ((params g h).map XR.fin))
    (ht0 : 0 < cfg.t) (htu : cfg.t < cfg.u)
    (hat : 0 ≤ cfg.atol) (hat2 : cfg.atol < 1 / 2) (hrt : 0 ≤ cfg.rtol)
    (alpha : ℚ) (ha0 : 0 < alpha) (ha1 : alpha < 1)
    (L : List (ℚ × K)) (hL : IsLawK cfg.u L) (hmean : lawMeanK L ≤ (cfg.t : K)) (n : Nat) :
    hitIIDK L (reportedLast cfg estim alpha) n [] ≤ (alpha : K) :=
  ville_last_K (alphaQ cfg.u) cfg.u cfg.t g L hL
    (fun _ _ _ ha0' hau' => alphaQ_nonneg cfg.u _ _ _ ht0 htu ha0' hau')
    (fun h' _ => alphaQ_super_iid_K cfg.u cfg.t (g h') ht0 htu L hL hmean)
    (reportedLast cfg estim alpha) alpha ha0
    (reported_implies_value_iid cfg hN g estim hest ht0 htu hat hat2 hrt alpha ha0 ha1) n

/-- **C01, betting martingale, independent draws, weights in `K`**: last history entry of every prefix -/
theorem C01_iid_betting_K (cfg : Cfg) (hN : cfg.N = none) (g : List ℚ → ℚ)
    (bet : List ℚ → Except Err (List XR))
    (hest : ∀ h : List ℚ, h ≠ [] → bet h = .ok ((params g h).map XR.fin))
    (hg0 : ∀ h : List ℚ, 0 ≤ g h) (hg1 : ∀ h : List ℚ, g h * cfg.t ≤ 1)
    (ht0 : 0 < cfg.t) (htu : cfg.t < cfg.u)
    (hat : 0 ≤ cfg.atol) (hat2 : cfg.atol < 1 / 2) (hrt : 0 ≤ cfg.rtol)
    (alpha : ℚ) (ha0 : 0 < alpha) (ha1 : alpha < 1)
    (L : List (ℚ × K)) (hL : IsLawK cfg.u L) (hmean : lawMeanK L ≤ (cfg.t : K)) (n : Nat) :
    hitIIDK L (reportedLastB cfg bet alpha) n [] ≤ (alpha : K) :=
  ville_last_K betQ cfg.u cfg.t g L hL
    (fun h' _ _ ha0' _ => betQ_nonneg _ _ _ ht0 ha0' (hg0 h') (hg1 h'))
    (fun h' _ => betQ_super_iid_K cfg.t (g h') (hg0 h') L hL hmean)
    (reportedLastB cfg bet alpha) alpha ha0
    (reported_implies_value_iid_betting cfg hN g bet hest hg0 hg1 ht0 hat hrt alpha ha0 ha1) n

end OrderedField

/-! ### rational weights: the instance `K = ℚ` -/

/-- a finitely supported law on `[0,u]`: (value, weight) pairs, weights `≥ 0` summing to 1 -/
structure IsLaw (u : ℚ) (L : List (ℚ × ℚ)) : Prop where
  w_nonneg : ∀ p ∈ L, 0 ≤ p.2
  w_sum : (L.map Prod.snd).sum = 1
  range : ∀ p ∈ L, 0 ≤ p.1 ∧ p.1 ≤ u

/-- the mean of the law -/
def lawMean (L : List (ℚ × ℚ)) : ℚ := expL L (fun v => v)

theorem isLawK_rat (u : ℚ) (L : List (ℚ × ℚ)) : IsLawK (K := ℚ) u L ↔ IsLaw u L :=
  ⟨fun h => ⟨h.w_nonneg, h.w_sum, h.range⟩, fun h => ⟨h.w_nonneg, h.w_sum, h.range⟩⟩

theorem IsLaw.toK {u : ℚ} {L : List (ℚ × ℚ)} (hL : IsLaw u L) : IsLawK (K := ℚ) u L := (isLawK_rat u L).2 hL

theorem lawMeanK_rat (L : List (ℚ × ℚ)) : lawMeanK (K := ℚ) L = lawMean L := rfl

section CastLaw

variable {K : Type} [Field K] [LinearOrder K] [IsStrictOrderedRing K]

theorem isLawK_castLaw (u : ℚ) (L : List (ℚ × ℚ)) (hL : IsLaw u L) : IsLawK u (castLaw K L) := by
  refine ⟨?_, ?_, ?_⟩
  · intro q hq
    obtain ⟨p, hp, rfl⟩ := List.mem_map.1 hq
    exact Rat.cast_nonneg.2 (hL.w_nonneg p hp)
  · have := ratCast_list_sum (K := K) (L.map Prod.snd)
    rw [hL.w_sum, Rat.cast_one, List.map_map] at this
    rw [castLaw, List.map_map]
    exact this.symm
  · intro q hq
    obtain ⟨p, hp, rfl⟩ := List.mem_map.1 hq
    exact hL.range p hp

theorem lawMeanK_castLaw (L : List (ℚ × ℚ)) : lawMeanK (castLaw K L) = ((lawMean L : ℚ) : K) :=
  expLK_cast L (fun v => v)

end CastLaw

theorem process_ville_iid (facQ : ℚ → ℚ → ℚ → ℚ) (u t : ℚ) (g : List ℚ → ℚ)
    (L : List (ℚ × ℚ)) (hL : IsLaw u L)
    (hfacnn : ∀ (h : List ℚ) (a : ℚ), (∀ b ∈ h, 0 ≤ b ∧ b ≤ u) → 0 ≤ a → a ≤ u → 0 ≤ facQ t a (g h))
    (hfacsuper : ∀ h : List ℚ, (∀ b ∈ h, 0 ≤ b ∧ b ≤ u) → expL L (fun v => facQ t v (g h)) ≤ 1)
    (ev : List ℚ → Bool) (c : ℚ) (hc : 0 < c)
    (hev : ∀ h, (∀ b ∈ h, 0 ≤ b ∧ b ≤ u) → ev h = true → c ≤ Tq facQ none t g h)
    (n : Nat) : hitIID L ev n [] ≤ 1 / c :=
  hitIIDK_rat L ev n [] ▸ process_ville_iid_K (K := ℚ) facQ u t g L hL.toK hfacnn hfacsuper ev c hc hev n

/-- **C01, ALPHA, independent draws.**  For every finitely supported law `L` on `[0,u]` with mean at
most `t`, every horizon `n`, every `alpha` in `(0,1)` and every predictable finite estimator, the exact
probability that the p-value reported by `alpha_mart` (`N = np.inf`) after some number `<= n` of
independent draws from `L` is at most `alpha` is at most `alpha`. -/
theorem C01_iid_alpha (cfg : Cfg) (hN : cfg.N = none) (g : List ℚ → ℚ)
    (estim : List ℚ → Except Err (List XR))
    (hest : ∀ h : List ℚ, h ≠ [] → estim h = .ok ((params g h).map XR.fin))
    (ht0 : 0 < cfg.t) (htu : cfg.t < cfg.u)
    (hat : 0 ≤ cfg.atol) (hat2 : cfg.atol < 1 / 2) (hrt : 0 ≤ cfg.rtol)
    (alpha : ℚ) (ha0 : 0 < alpha) (ha1 : alpha < 1)
    (L : List (ℚ × ℚ)) (hL : IsLaw cfg.u L) (hmean : lawMean L ≤ cfg.t) (n : Nat) :
    hitIID L (reportedLast cfg estim alpha) n [] ≤ alpha :=
  hitIIDK_rat L _ n [] ▸
    C01_iid_alpha_K (K := ℚ) cfg hN g estim hest ht0 htu hat hat2 hrt alpha ha0 ha1 L hL.toK hmean n

/-- **C01, betting martingale, independent draws.**  As `C01_iid_alpha`, for every predictable bet with
`0 <= g <= 1/t` and the p-value reported by `betting_mart` (`N = np.inf`). -/
theorem C01_iid_betting (cfg : Cfg) (hN : cfg.N = none) (g : List ℚ → ℚ)
    (bet : List ℚ → Except Err (List XR))
    (hest : ∀ h : List ℚ, h ≠ [] → bet h = .ok ((params g h).map XR.fin))
    (hg0 : ∀ h : List ℚ, 0 ≤ g h) (hg1 : ∀ h : List ℚ, g h * cfg.t ≤ 1)
    (ht0 : 0 < cfg.t) (htu : cfg.t < cfg.u)
    (hat : 0 ≤ cfg.atol) (hat2 : cfg.atol < 1 / 2) (hrt : 0 ≤ cfg.rtol)
    (alpha : ℚ) (ha0 : 0 < alpha) (ha1 : alpha < 1)
    (L : List (ℚ × ℚ)) (hL : IsLaw cfg.u L) (hmean : lawMean L ≤ cfg.t) (n : Nat) :
    hitIID L (reportedLastB cfg bet alpha) n [] ≤ alpha :=
  hitIIDK_rat L _ n [] ▸
    C01_iid_betting_K (K := ℚ) cfg hN g bet hest hg0 hg1 ht0 htu hat hat2 hrt alpha ha0 ha1 L hL.toK hmean n

/-- **C01 for ALPHA with the default (fixed-alternative) estimator, independent draws** -/
theorem C01_iid_alpha_fixed (cfg : Cfg) (hN : cfg.N = none)
    (ht0 : 0 < cfg.t) (htu : cfg.t < cfg.u)
    (hat : 0 ≤ cfg.atol) (hat2 : cfg.atol < 1 / 2) (hrt : 0 ≤ cfg.rtol)
    (alpha : ℚ) (ha0 : 0 < alpha) (ha1 : alpha < 1)
    (L : List (ℚ × ℚ)) (hL : IsLaw cfg.u L) (hmean : lawMean L ≤ cfg.t) (n : Nat) :
    hitIID L (reportedLast cfg (fixedAlternativeMean cfg) alpha) n [] ≤ alpha :=
  C01_iid_alpha cfg hN (gFixedAlt cfg) (fixedAlternativeMean cfg)
    (fun h hne => fixedAlt_params cfg h hne (forall_of_none hN))
    ht0 htu hat hat2 hrt alpha ha0 ha1 L hL hmean n

/-- **ALPHA with optimal comparison, independent draws**, last history entry of every prefix -/
theorem C01_iid_alpha_optimal (cfg : Cfg) (hN : cfg.N = none) (hu1 : 2 - 2 * cfg.u ≠ 0)
    (ht0 : 0 < cfg.t) (htu : cfg.t < cfg.u)
    (hat : 0 ≤ cfg.atol) (hat2 : cfg.atol < 1 / 2) (hrt : 0 ≤ cfg.rtol)
    (alpha : ℚ) (ha0 : 0 < alpha) (ha1 : alpha < 1)
    (L : List (ℚ × ℚ)) (hL : IsLaw cfg.u L) (hmean : lawMean L ≤ cfg.t) (k : Nat) :
    hitIID L (reportedLast cfg (optimalComparison cfg) alpha) k [] ≤ alpha :=
  C01_iid_alpha cfg hN (fun _ => gOptimal cfg) (optimalComparison cfg)
    (fun h _ => optimal_predictable cfg hu1 h) ht0 htu hat hat2 hrt alpha ha0 ha1 L hL hmean k

/-- **C01 for the betting martingale with a fixed bet `0 ≤ lam ≤ 1/u`, independent draws** -/
theorem C01_iid_betting_fixed (cfg : Cfg) (hN : cfg.N = none) (lam : ℚ)
    (hlam : cfg.kw.lam = some lam) (hl0 : 0 ≤ lam) (hl1 : lam * cfg.u ≤ 1)
    (ht0 : 0 < cfg.t) (htu : cfg.t < cfg.u)
    (hat : 0 ≤ cfg.atol) (hat2 : cfg.atol < 1 / 2) (hrt : 0 ≤ cfg.rtol)
    (alpha : ℚ) (ha0 : 0 < alpha) (ha1 : alpha < 1)
    (L : List (ℚ × ℚ)) (hL : IsLaw cfg.u L) (hmean : lawMean L ≤ cfg.t) (n : Nat) :
    hitIID L (reportedLastB cfg (fixedBet cfg) alpha) n [] ≤ alpha :=
  C01_iid_betting cfg hN (fun _ => lam) (fixedBet cfg) (fun h _ => fixedBet_params cfg lam hlam h)
    (fun _ => hl0) (fun _ => (mul_le_mul_of_nonneg_left htu.le hl0).trans hl1)
    ht0 htu hat hat2 hrt alpha ha0 ha1 L hL hmean n

end Shangrla.C01
