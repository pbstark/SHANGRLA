/-
  C01 — risk limit for the Kaplan tests and the SPRT of `NonnegMean.py`: Kaplan-Kolmogorov and the
  generalised Wald SPRT under sampling without replacement from a finite population; the SPRT, Kaplan-Wald
  and Kaplan-Markov for independent draws.

  Every theorem is about the literal model (`kaplanKolmogorov cfg`, `waldSprt cfg`, `kaplanWald cfg`,
  `kaplanMarkov cfg`): the event is "the last entry of the history the model returns on the draws so
  far is `≤ alpha`", the probability is the exact rational probability over the orders of drawing
  (`hitEv`) resp. over sequences of independent draws from a finitely supported law (`hitIID`).
-/
import Shangrla.Props.C01IID
import Shangrla.Props.C12Kaplan

namespace Shangrla.C01
open Shangrla Shangrla.NM XR Shangrla.C12 Shangrla.Ville Shangrla.C11

/-! ### from "the last reported p-value is `≤ alpha`" to "the statistic is `≥ 1/alpha`" -/

/-- "the last entry of the reported history is `≤ alpha`" (`false` when the test raised) -/
def lastLe (alpha : ℚ) (r : Except Err (XR × List XR)) : Bool :=
  match r with
  | .ok r => (match r.2.getLast? with
      | some p => XR.le p (.fin alpha)
      | none => false)
  | .error _ => false

theorem reportedLast_eq_lastLe (cfg : Cfg) (estim : List ℚ → Except Err (List XR)) (alpha : ℚ)
    (h : List ℚ) : reportedLast cfg estim alpha h = lastLe alpha (alphaMart cfg estim h) := rfl

theorem cumprodFrom_getElem?_indexed (F : List XR) : ∀ (C : Nat → XR → Prop) (acc : XR), C 0 acc →
    (∀ i T f, F[i]? = some f → C i T → C (i + 1) (T * f)) →
    ∀ j, j < F.length → ∃ T, (XR.cumprodFrom acc F)[j]? = some T ∧ C (j + 1) T :=
  fun C acc hacc hstep j hj => cumprodFrom_getElem?_inv F C acc j hj hacc (fun i _ => hstep i)

/-- a last history entry `min(1, 1/V) ≤ alpha < 1`, for a value `V ≥ 0`, means `V ≥ 1/alpha` -/
theorem value_of_lastLe {alpha V : ℚ} {p : XR} {M : List XR} {f : XR → XR} {j : Nat} {T : XR}
    (hlen : M.length = j + 1) (hT : M[j]? = some T) (hf : f T = XR.fin (pOfQ V)) (hV : 0 ≤ V)
    (ha0 : 0 < alpha) (ha1 : alpha < 1) (h : lastLe alpha (.ok (p, M.map f)) = true) : 1 / alpha ≤ V := by
  have hl : (M.map f).getLast? = some (XR.fin (pOfQ V)) := by
    rw [List.getLast?_map, List.getLast?_eq_getElem?, hlen, Nat.add_sub_cancel, hT, Option.map_some, hf]
  rw [lastLe, hl, ← npmin_one_inv_fin] at h
  exact pOf_fin_le_alpha hV ha0 ha1 h

/-- a shifted ratio as a betting factor -/
theorem shift_div_eq (a g m : ℚ) (hm : m ≠ 0) : (a + g) / m = 1 + 1 / m * (a - (m - g)) := by
  rw [one_div, inv_mul_eq_div, ← div_self hm, ← add_div]
  congr 1; ring

theorem not_one_div_le_one {alpha : ℚ} (ha0 : 0 < alpha) (ha1 : alpha < 1) : ¬ 1 / alpha ≤ 1 :=
  not_le.2 ((one_lt_div ha0).2 ha1)

/-- the defining product of a test as a product over indices (bridge between `Tq` and the `Spec`s) -/
theorem Tq_eq_prodTo (facQ : ℚ → ℚ → ℚ → ℚ) (N : Option Nat) (t : ℚ) (g : List ℚ → ℚ) (x : List ℚ) :
    Tq facQ N t g x =
      prodTo (fun i => facQ (mu N t (psum x i) (i + 1)) (Spec.obs x i) (g (x.take i))) x.length := by
  induction x using List.reverseRecOn with
  | nil => rw [Tq_nil]; rfl
  | append_singleton l a ih =>
    rw [(Tq_snoc facQ N t g l a).1, ih, List.length_append, List.length_singleton, prodTo]
    congr 1
    · apply prodTo_congr
      intro i hi
      rw [psum_append_left l [a] i (le_of_lt hi), obs_append_left l [a] i hi,
        List.take_append_of_le_length (le_of_lt hi)]
    · unfold muAfter
      rw [psum_append_left l [a] l.length (le_refl _), psum_length, obs_append_length,
        List.take_left' rfl]

/-- the null invariant of the draw tree for the tests that do not use the upper bound:
`R` = items not yet drawn, `h` = draws so far -/
def InvNN (n : Nat) (t : ℚ) (R h : List ℚ) : Prop := InvP (fun a => 0 ≤ a) n t R h

/-! ## Kaplan-Kolmogorov, sampling without replacement -/

/-- the event: the p-value `kaplan_kolmogorov` reports after the draws `h` is `≤ alpha` -/
def reportedLastKK (cfg : Cfg) (alpha : ℚ) (h : List ℚ) : Bool := lastLe alpha (kaplanKolmogorov cfg h)

/-- the Kaplan-Kolmogorov factor `(x_i + g)/mu_i`, and `0` once the null mean `mu_i` (of the shifted
data `x + g` under the shifted hypothesis `t + g`) is not positive -/
def kkFacZ (n : Nat) (t g : ℚ) (x : List ℚ) (i : Nat) : ℚ :=
  if 0 < Spec.kkMu n t g x i then (Spec.obs x i + g) / Spec.kkMu n t g x i else 0

/-- the value process of Kaplan-Kolmogorov: the published product while every null mean so far was
positive, `0` afterwards -/
def kkVal (n : Nat) (t g : ℚ) (x : List ℚ) : ℚ := prodTo (kkFacZ n t g x) x.length

theorem kkMu_num (n : Nat) (t g : ℚ) (x : List ℚ) (i : Nat) (hi : i ≤ x.length) :
    Spec.kkMu n t g x i = ((n : ℚ) * t - psum x i + ((n : ℚ) - (i : ℚ)) * g) / ((n : ℚ) - (i : ℚ)) := by
  rw [Spec.kkMu, sum_map_add_const, List.length_take, min_eq_left hi]
  congr 1 <;> [(rw [psum]; ring); ring]

theorem kkMu_append_left (n : Nat) (t g : ℚ) (h r : List ℚ) (i : Nat) (hi : i ≤ h.length) :
    Spec.kkMu n t g (h ++ r) i = Spec.kkMu n t g h i := by
  unfold Spec.kkMu
  rw [List.take_append_of_le_length hi]

theorem kkFacZ_append_left (n : Nat) (t g : ℚ) (h r : List ℚ) (i : Nat) (hi : i < h.length) :
    kkFacZ n t g (h ++ r) i = kkFacZ n t g h i := by
  unfold kkFacZ
  rw [kkMu_append_left n t g h r i (le_of_lt hi), obs_append_left h r i hi]

theorem kkVal_nil (n : Nat) (t g : ℚ) : kkVal n t g [] = 1 := rfl

theorem kkVal_snoc (n : Nat) (t g : ℚ) (h : List ℚ) (a : ℚ) :
    kkVal n t g (h ++ [a]) = kkVal n t g h *
      (if 0 < Spec.kkMu n t g h h.length then (a + g) / Spec.kkMu n t g h h.length else 0) := by
  unfold kkVal
  rw [List.length_append, List.length_singleton, prodTo]
  congr 1
  · exact prodTo_congr (fun i hi => kkFacZ_append_left n t g h [a] i hi)
  · unfold kkFacZ
    rw [kkMu_append_left n t g h [a] h.length (le_refl _), obs_append_length]

theorem kkFacZ_nonneg (n : Nat) (t g : ℚ) (x : List ℚ) (hx : ∀ a ∈ x, 0 ≤ a) (hg : 0 ≤ g) (i : Nat) :
    0 ≤ kkFacZ n t g x i := by
  unfold kkFacZ
  split
  · rename_i h
    exact div_nonneg (add_nonneg (obs_nonneg hx i) hg) h.le
  · exact le_refl _

theorem kkVal_nonneg (n : Nat) (t g : ℚ) (x : List ℚ) (hx : ∀ a ∈ x, 0 ≤ a) (hg : 0 ≤ g) :
    0 ≤ kkVal n t g x := prodTo_nonneg (fun i _ => kkFacZ_nonneg n t g x hx hg i)

/-- under the null (`Σ x ≤ N t`) the null mean before every drawn item is non-negative, and is 0 only where
the shifted item `x_{i+1} + g` is 0 too: a factor of the statistic is never a positive number over 0 -/
theorem kk_null_compat (n : Nat) (t g : ℚ) (x : List ℚ) (hx : ∀ a ∈ x, 0 ≤ a) (hg : 0 ≤ g)
    (hlen : x.length ≤ n) (hsum : x.sum ≤ (n : ℚ) * t) (i : Nat) (hi : i < x.length) :
    0 ≤ Spec.kkMu n t g x i ∧ (Spec.kkMu n t g x i = 0 → Spec.obs x i + g = 0) := by
  have hin : (i : ℚ) + 1 ≤ (n : ℚ) := by exact_mod_cast lt_of_lt_of_le hi hlen
  have hone : (1 : ℚ) ≤ (n : ℚ) - (i : ℚ) := le_sub_iff_add_le'.2 hin
  have hden : (0 : ℚ) < (n : ℚ) - (i : ℚ) := lt_of_lt_of_le one_pos hone
  have hB : 0 ≤ Spec.obs x i + g := add_nonneg (obs_nonneg hx i) hg
  have hA : Spec.obs x i + g ≤ (n : ℚ) * t - psum x i + ((n : ℚ) - (i : ℚ)) * g :=
    add_le_add (le_sub_iff_add_le'.2 ((psum_add_obs_le hx i).trans hsum)) (le_mul_of_one_le_left hg hone)
  rw [kkMu_num n t g x i (le_of_lt hi)]
  refine ⟨div_nonneg (hB.trans hA) hden.le, fun hz => ?_⟩
  rcases div_eq_zero_iff.1 hz with hz | hz
  · exact le_antisymm (hz ▸ hA) hB
  · exact absurd hz hden.ne'

/-- the running product of the model is `nan` or the value process -/
theorem kk_cumprod (cfg : Cfg) (n : Nat) (x : List ℚ) (hx : ∀ a ∈ x, 0 ≤ a) (hg : 0 ≤ cfg.kw.g.getD 0)
    (hlen : x.length ≤ n) (hsum : x.sum ≤ (n : ℚ) * cfg.t) (j : Nat) (hj : j < x.length) :
    ∃ T, (XR.cumprod (kkFactors cfg n x))[j]? = some T ∧
      (T = .nan ∨ T = .fin (prodTo (kkFacZ n cfg.t (cfg.kw.g.getD 0) x) (j + 1))) := by
  refine cumprodFrom_getElem?_indexed (kkFactors cfg n x)
    (fun k T => T = .nan ∨ T = .fin (prodTo (kkFacZ n cfg.t (cfg.kw.g.getD 0) x) k)) 1
    (Or.inr rfl) ?_ j (by rwa [length_kkFactors])
  intro i T f hf hC
  have hi : i < x.length := length_kkFactors cfg n x ▸ lt_length_of_getElem? hf
  rcases hC with rfl | rfl
  · exact Or.inl (XR.nan_mul f)
  · obtain ⟨a, ha⟩ := exists_getElem? x hi
    rw [kkFactors_getElem? cfg n x i a ha, kkMu_eq] at hf
    obtain ⟨hm0, hmz⟩ := kk_null_compat n cfg.t (cfg.kw.g.getD 0) x hx hg hlen hsum i hi
    rw [← Option.some.inj hf]
    rcases hm0.eq_or_lt with hz | hpos
    · -- a vanishing null mean: the item is `0` too and the factor is `0/0`
      left
      rw [← hz, ← obs_eq ha, hmz hz.symm]
      exact XR.mul_nan _
    · right
      rw [XR.fin_div _ _ hpos.ne', XR.fin_mul, prodTo, kkFacZ, if_pos hpos, obs_eq ha]

/-- link between the literal model and the value process (no probability here): on a non-empty
sample of non-negative values with total at most `N t`, if the last p-value reported by
`kaplan_kolmogorov` is `≤ alpha < 1` then the value process is at least `1/alpha` -/
theorem kk_reported_implies_value (cfg : Cfg) (n : Nat) (hN : cfg.N = some n)
    (hg : 0 ≤ cfg.kw.g.getD 0) (x : List ℚ) (hx : ∀ a ∈ x, 0 ≤ a) (hlen : x.length ≤ n)
    (hsum : x.sum ≤ (n : ℚ) * cfg.t) (alpha : ℚ) (ha0 : 0 < alpha) (ha1 : alpha < 1)
    (hev : reportedLastKK cfg alpha x = true) :
    1 / alpha ≤ kkVal n cfg.t (cfg.kw.g.getD 0) x := by
  unfold reportedLastKK at hev
  rcases List.eq_nil_or_concat' x with rfl | ⟨l, a, rfl⟩
  · rcases Nat.eq_zero_or_pos n with rfl | hn
    · rw [kk_err_N0 cfg [] hN] at hev; cases hev
    · rw [kk_err_empty cfg n hN hn.ne'] at hev; cases hev
  · have hlen1 : (l ++ [a]).length = l.length + 1 := by rw [List.length_append]; rfl
    have hj : l.length < (l ++ [a]).length := by rw [hlen1]; exact Nat.lt_succ_self _
    obtain ⟨T, hT, hC⟩ := kk_cumprod cfg n (l ++ [a]) hx hg hlen hsum l.length hj
    have hm0 := (kk_null_compat n cfg.t (cfg.kw.g.getD 0) (l ++ [a]) hx hg hlen hsum l.length hj).1
    have hM := kkMasked_getElem? cfg n (l ++ [a]) l.length T hj hT
    rw [kkMu_eq, if_neg (not_lt.2 hm0)] at hM
    rw [kk_eq cfg n (l ++ [a]) hN (List.concat_ne_nil a l) hx hlen] at hev
    have hml : (kkMasked cfg n (l ++ [a])).length = l.length + 1 := by rw [length_kkMasked, hlen1]
    rw [kkVal, hlen1]
    rcases hC with rfl | rfl
    · -- a `nan` product is reported as `1`
      exact absurd (value_of_lastLe (f := fun T => XR.npmin ((1 : XR) / T) 1) hml hM (npmin_inv_one_fin 1)
          zero_le_one ha0 ha1 hev)
        (not_one_div_le_one ha0 ha1)
    · exact value_of_lastLe (f := fun T => XR.npmin ((1 : XR) / T) 1) hml hM (npmin_inv_one_fin _)
        (prodTo_nonneg fun i _ => kkFacZ_nonneg n cfg.t _ _ hx hg i) ha0 ha1 hev

/-- supermartingale step: the average of the next factor over the items not yet drawn is at most 1 -/
theorem kk_superstep (n : Nat) (t g : ℚ) (R h : List ℚ) (hI : InvNN n t R h) (hR : R ≠ []) (hg : 0 ≤ g) :
    avgIdx R.length (fun i => kkVal n t g (h ++ [R.getD i 0])) ≤ kkVal n t g h := by
  obtain ⟨h1, h2, h3, h4⟩ := hI
  have hRpos : 0 < R.length := List.length_pos_iff.mpr hR
  have hV := kkVal_nonneg n t g h h3 hg
  simp only [kkVal_snoc]
  rw [avgIdx_mul_left]
  refine mul_le_of_le_one_right hV ?_
  by_cases hpos : 0 < Spec.kkMu n t g h h.length
  · simp only [if_pos hpos]
    -- the factor is a betting factor against `mu − g`, and `(mu − g)|R| = N t − Σ h ≥ Σ R`
    have hfun : (fun i => (R.getD i 0 + g) / Spec.kkMu n t g h h.length) =
        (fun i => 1 + (1 / Spec.kkMu n t g h h.length) * (R.getD i 0 - (Spec.kkMu n t g h h.length - g))) :=
      funext fun i => shift_div_eq _ g _ hpos.ne'
    have hRl : (R.length : ℚ) = (n : ℚ) - (h.length : ℚ) :=
      eq_sub_of_add_eq' (by exact_mod_cast h1)
    have hRq : (0 : ℚ) < (R.length : ℚ) := by exact_mod_cast hRpos
    have hnull : R.sum ≤ (Spec.kkMu n t g h h.length - g) * (R.length : ℚ) := by
      rw [kkMu_num n t g h h.length (le_refl _), psum_length, ← hRl, sub_mul, div_mul_cancel₀ _ hRq.ne']
      linarith
    rw [hfun]
    exact superstep R hR (1 / Spec.kkMu n t g h h.length) _ (one_div_pos.2 hpos).le hnull
  · simp only [if_neg hpos]
    rw [avgIdx_const _ hRpos]
    exact zero_le_one

/-- **C01, Kaplan-Kolmogorov, sampling without replacement.**  For every population `pop` of `n`
non-negative values with total at most `n t` (mean at most `t`; no upper bound is needed), every
`g ≥ 0` and every `alpha` in `(0,1)`, the exact probability — over the `n!` equally likely orders in
which the items are drawn without replacement — that the p-value reported by `kaplan_kolmogorov`
after some number of draws is at most `alpha` is at most `alpha`. -/
theorem C01_finite_kk (cfg : Cfg) (n : Nat) (hN : cfg.N = some n) (hg : 0 ≤ cfg.kw.g.getD 0)
    (alpha : ℚ) (ha0 : 0 < alpha) (ha1 : alpha < 1)
    (pop : List ℚ) (hlen : pop.length = n) (hrange : ∀ a ∈ pop, 0 ≤ a)
    (hnull : pop.sum ≤ (n : ℚ) * cfg.t) :
    hitEv (reportedLastKK cfg alpha) pop.length pop [] ≤ alpha := by
  have key := hitEv_le (reportedLastKK cfg alpha) (kkVal n cfg.t (cfg.kw.g.getD 0)) (1 / alpha)
    (one_div_pos.2 ha0) (InvNN n cfg.t)
    (fun R h hI hev => kk_reported_implies_value cfg n hN hg h hI.2.2.1 (hI.1 ▸ Nat.le_add_right _ _)
      (hI.sum_le fun _ ha => ha) alpha ha0 ha1 hev)
    (fun R h hI => kkVal_nonneg n cfg.t _ h hI.2.2.1 hg)
    (fun R h hI i hi => hI.draw hi)
    (fun R h hI hR => kk_superstep n cfg.t _ R h hI hR hg)
    pop.length pop [] (InvP.init hlen hrange hnull) (le_refl _)
  rwa [kkVal_nil, one_div_one_div] at key

-- non-vacuity: N = 4, t = 1/2, g = 1/10, the null population 1, 0, 1/2, 0 (mean 3/8), alpha = 1/20
example : hitEv (reportedLastKK { N := some 4, u := 1, t := 1/2, randomOrder := true, kw := { g := some (1/10) } }
    (1/20)) 4 [1, 0, 1/2, 0] [] ≤ 1/20 :=
  C01_finite_kk _ 4 rfl (by decide +kernel) (1/20) (by decide +kernel) (by decide +kernel) [1, 0, 1/2, 0] rfl
    (by decide +kernel) (by decide +kernel)

/-! ## the generalised Wald SPRT -/

/-- the event: the p-value `wald_sprt` reports after the draws `h` is `≤ alpha` -/
def reportedLastSprt (cfg : Cfg) (alpha : ℚ) (h : List ℚ) : Bool := lastLe alpha (waldSprt cfg h)

/-- the alternative mean `wald_sprt` applies to the next draw, as a function of the draws so far:
`min(u, (N eta − Σ h)/(N − |h|))`, or `eta` for independent draws (the factor then clips it to
`[mu, u]`) -/
def sprtG (cfg : Cfg) (h : List ℚ) : ℚ := Spec.sprtEta cfg.N cfg.u (C11.sprtEta cfg) h h.length

theorem sprtEta_take (N : Option Nat) (u eta : ℚ) (x : List ℚ) (i : Nat) (hi : i ≤ x.length) :
    Spec.sprtEta N u eta (x.take i) (x.take i).length = Spec.sprtEta N u eta x i := by
  unfold Spec.sprtEta Spec.S
  rw [List.take_length, List.length_take, min_eq_left hi]

theorem sprtEta_le_u (N : Option Nat) (u eta : ℚ) (x : List ℚ) (i : Nat) (h : eta ≤ u) :
    Spec.sprtEta N u eta x i ≤ u := by
  unfold Spec.sprtEta
  cases N with
  | none => exact h
  | some n => exact min_le_left _ _

/-- wherever the null means do not exceed `u`, the ALPHA product with the SPRT's alternative is the
published SPRT product -/
theorem sprt_Tq_eq (cfg : Cfg) (x : List ℚ) (heu : C11.sprtEta cfg ≤ cfg.u)
    (hreg : ∀ i < x.length, Spec.sprtMu cfg.N cfg.t x i ≤ cfg.u) :
    Tq (alphaQ cfg.u) cfg.N cfg.t (sprtG cfg) x =
      Spec.sprtT cfg.N cfg.u cfg.t (C11.sprtEta cfg) x x.length := by
  rw [Tq_eq_prodTo, sprtT_eq]
  apply prodTo_congr
  intro i hi
  have hm : mu cfg.N cfg.t (psum x i) (i + 1) = Spec.sprtMu cfg.N cfg.t x i := sprtMu_eq cfg x i
  simp only [hm]
  unfold sprtG
  rw [sprtEta_take _ _ _ x i (le_of_lt hi)]
  unfold alphaQ
  rw [min_eq_right (max_le (sprtEta_le_u _ _ _ x i heu) (hreg i hi))]

theorem sprtMu_last (cfg : Cfg) (l : List ℚ) (a : ℚ) :
    C11.sprtMu cfg (l ++ [a]) l.length = muAfter cfg.N cfg.t l := by
  unfold C11.sprtMu muAfter
  rw [psum_append_left l [a] l.length (le_refl _), psum_length]

/-- link between the literal model and the defining product (no probability here): on a sample
satisfying the guard of `wald_sprt` whose last null mean is non-negative, if the last reported p-value
is `≤ alpha < 1` then that null mean is strictly inside `(0,u)` and the ALPHA product with the SPRT's
alternative is at least `1/alpha` -/
theorem sprt_reported_implies_value (cfg : Cfg) (x : List ℚ) (G : SprtGuard cfg x)
    (hm : 0 ≤ C11.sprtMu cfg x (x.length - 1))
    (alpha : ℚ) (ha0 : 0 < alpha) (ha1 : alpha < 1) (hev : reportedLastSprt cfg alpha x = true) :
    0 < C11.sprtMu cfg x (x.length - 1) ∧ C11.sprtMu cfg x (x.length - 1) < cfg.u ∧
      1 / alpha ≤ Tq (alphaQ cfg.u) cfg.N cfg.t (sprtG cfg) x := by
  have hlen : x.length = (x.length - 1) + 1 := (Nat.succ_pred_eq_of_pos (List.length_pos_iff.2 G.ne)).symm
  have hj : x.length - 1 < x.length := Nat.pred_lt_of_lt (List.length_pos_iff.2 G.ne)
  obtain ⟨T, hT⟩ := exists_getElem? (XR.cumprod (sprtFactors cfg x))
    (by rwa [length_cumprod, length_sprtFactors])
  have hM := sprtMasked_getElem? cfg x G.fits (x.length - 1) T hj hT
  have hml : (sprtMasked cfg x).length = x.length - 1 + 1 := (length_sprtMasked cfg x).trans hlen
  unfold reportedLastSprt at hev
  rw [sprt_eq cfg x G.ne G.range G.ro] at hev
  rcases maskTermX_cases cfg.u (2 * eps) (1 / 1000000) (C11.sprtMu cfg x (x.length - 1)) T
    (mul_nonneg zero_le_two eps_pos.le) (by norm_num) with ⟨hneg, _⟩ | ⟨_, h1⟩ | ⟨h0, hu, hT'⟩
  · exact absurd hneg (not_lt.2 hm)
  · -- a term masked to `1` is reported as `1`
    rw [h1] at hM
    exact absurd (value_of_lastLe (f := fun T => XR.npmin (1 : XR) ((1 : XR) / T)) hml hM (npmin_one_inv_fin 1)
      zero_le_one ha0 ha1 hev) (not_one_div_le_one ha0 ha1)
  · -- the regular zone: the term is the published product, in the terms of the specification
    have hreg : ∀ i ≤ x.length - 1,
        (0 < Spec.sprtMu cfg.N cfg.t x i ∧ Spec.sprtMu cfg.N cfg.t x i < cfg.u) ∧
        0 ≤ max (Spec.sprtEta cfg.N cfg.u (C11.sprtEta cfg) x i) (Spec.sprtMu cfg.N cfg.t x i) ∧
        max (Spec.sprtEta cfg.N cfg.u (C11.sprtEta cfg) x i) (Spec.sprtMu cfg.N cfg.t x i) ≤ cfg.u := by
      intro i hi
      have := sprt_regular_before cfg x G (x.length - 1) hj h0 hu i hi
      rw [sprtMu_eq, sprtEt_eq] at this
      exact ⟨⟨this.1, this.2.1⟩, this.2.2⟩
    rw [hT', Option.some.inj (hT.symm.trans
      (sprtTerms_regular cfg x G.fits (x.length - 1) hj fun i hi => (hreg i hi).1))] at hM
    refine ⟨h0, hu, ?_⟩
    rw [sprt_Tq_eq cfg x G.eta_le_u fun i hi => (hreg i (Nat.le_pred_of_lt hi)).1.2.le, hlen]
    refine value_of_lastLe (f := fun T => XR.npmin (1 : XR) ((1 : XR) / T)) hml hM (npmin_one_inv_fin _) ?_
      ha0 ha1 hev
    rw [sprtT_eq]
    refine prodTo_nonneg fun i hi => ?_
    obtain ⟨⟨hm0, hmu⟩, he0, heu⟩ := hreg i (Nat.le_of_lt_succ hi)
    have hax := G.range _ (obs_mem (x := x) (i := i) (hlen ▸ hi))
    exact alphaFactorQ_nonneg _ _ _ _ hm0 hmu hax.1 hax.2 he0 heu

theorem reportedLastSprt_nil (cfg : Cfg) (hro : cfg.N ≠ none → cfg.randomOrder = true) (alpha : ℚ) :
    reportedLastSprt cfg alpha [] = false := by
  unfold reportedLastSprt
  rw [sprt_err_empty cfg hro]
  rfl

/-- **C01, generalised Wald SPRT, sampling without replacement.**  For every population `pop` of `n`
values in `[0,u]` with total at most `n t`, every alternative `eta` with `t ≤ eta ≤ u` (`0 < t < u`;
`random_order = True`, otherwise `wald_sprt` refuses a finite population) and every `alpha` in `(0,1)`,
the exact probability — over the `n!` equally likely orders in which the items are drawn without
replacement — that the p-value reported by `wald_sprt` after some number of draws is at most `alpha`
is at most `alpha`. -/
theorem C01_finite_sprt (cfg : Cfg) (n : Nat) (hN : cfg.N = some n) (hro : cfg.randomOrder = true)
    (ht0 : 0 < cfg.t) (htu : cfg.t < cfg.u) (hte : cfg.t ≤ C11.sprtEta cfg) (heu : C11.sprtEta cfg ≤ cfg.u)
    (alpha : ℚ) (ha0 : 0 < alpha) (ha1 : alpha < 1)
    (pop : List ℚ) (hlen : pop.length = n) (hrange : ∀ a ∈ pop, 0 ≤ a ∧ a ≤ cfg.u)
    (hnull : pop.sum ≤ (n : ℚ) * cfg.t) :
    hitEv (reportedLastSprt cfg alpha) pop.length pop [] ≤ alpha := by
  -- Ville's inequality for the ALPHA value process with the SPRT's alternative (`process_ville`) at threshold
  -- `1/alpha`; what is left (`?_`) is the link: a last reported p-value `≤ alpha` after the draws `l ++ [a]`
  -- means the null mean before the last draw was inside `(0,u)` and the value is `≥ 1/alpha`
  have h := process_ville (alphaQ cfg.u) cfg.u n cfg.t (sprtG cfg)
    (fun h' a' _ _ hm0' hmu' ha0' hau' => alphaQ_nonneg cfg.u _ _ _ hm0' hmu' ha0' hau')
    (fun h' R' _ _ hm0' hmu' hR' hr' hs' => alphaQ_super cfg.u _ _ R' hm0' hmu' hR' hr' hs')
    (reportedLastSprt cfg alpha) (1 / alpha) (one_div_pos.2 ha0) ?_
    pop ⟨by rw [List.length_nil, Nat.zero_add, hlen], hrange, fun _ h => absurd h List.not_mem_nil,
      by rwa [List.sum_nil, sub_zero]⟩
  · rwa [one_div_one_div] at h
  · intro R h hI hev
    rcases List.eq_nil_or_concat' h with rfl | ⟨l, a, rfl⟩
    · rw [reportedLastSprt_nil cfg (fun _ => hro)] at hev; cases hev
    · have hlen1 : l.length + 1 ≤ n := by
        rw [← hI.1, List.length_append]; exact Nat.le_add_right _ _
      have G : SprtGuard cfg (l ++ [a]) :=
        { ne := List.concat_ne_nil a l
          range := hI.2.2.1
          fits := by rintro k hk; rw [hN] at hk; cases hk; rwa [List.length_append]
          t_pos := ht0, t_lt_u := htu, t_le_eta := hte, eta_le_u := heu
          ro := fun _ => hro }
      have hmu : C11.sprtMu cfg (l ++ [a]) ((l ++ [a]).length - 1) = muAfter (some n) cfg.t l := by
        rw [List.length_append, List.length_singleton, Nat.add_sub_cancel, sprtMu_last, hN]
      obtain ⟨hm0, hmu', hge⟩ := sprt_reported_implies_value cfg (l ++ [a]) G
        (by rw [hmu]; exact muAfter_nonneg cfg.u n cfg.t R l a hI) alpha ha0 ha1 hev
      rw [hmu] at hm0 hmu'
      rw [hN] at hge
      unfold valI
      rw [if_neg (List.concat_ne_nil a l), List.dropLast_concat,
        if_pos ((stateZ_iff cfg.u n cfg.t l hlen1).2 ⟨hm0, hmu'⟩)]
      exact hge

-- non-vacuity: N = 4, u = 1, t = 1/2, eta = 3/4, the null population 1, 0, 1/2, 0, alpha = 1/20
example : hitEv (reportedLastSprt { N := some 4, u := 1, t := 1/2, randomOrder := true, kw := { eta := some (3/4) } }
    (1/20)) 4 [1, 0, 1/2, 0] [] ≤ 1/20 :=
  C01_finite_sprt _ 4 rfl rfl (by decide +kernel) (by decide +kernel) (by decide +kernel)
    (by decide +kernel) (1/20) (by decide +kernel) (by decide +kernel) [1, 0, 1/2, 0] rfl
    (by decide +kernel) (by decide +kernel)

theorem sprt_reported_implies_value_iid (cfg : Cfg) (hN : cfg.N = none)
    (ht0 : 0 < cfg.t) (htu : cfg.t < cfg.u) (hte : cfg.t ≤ C11.sprtEta cfg) (heu : C11.sprtEta cfg ≤ cfg.u)
    (alpha : ℚ) (ha0 : 0 < alpha) (ha1 : alpha < 1) :
    ∀ h, (∀ b ∈ h, 0 ≤ b ∧ b ≤ cfg.u) → reportedLastSprt cfg alpha h = true →
      1 / alpha ≤ Tq (alphaQ cfg.u) none cfg.t (sprtG cfg) h := by
  intro h hr hev
  have hro : cfg.N ≠ none → cfg.randomOrder = true := fun hne => absurd hN hne
  cases h using List.reverseRecOn with
  | nil => rw [reportedLastSprt_nil cfg hro] at hev; cases hev
  | append_singleton l a _ =>
    have G : SprtGuard cfg (l ++ [a]) :=
      { ne := by simp
        range := hr
        fits := forall_of_none hN
        t_pos := ht0, t_lt_u := htu, t_le_eta := hte, eta_le_u := heu
        ro := hro }
    have hmu : C11.sprtMu cfg (l ++ [a]) ((l ++ [a]).length - 1) = cfg.t := by
      unfold C11.sprtMu; rw [hN]; rfl
    obtain ⟨_, _, hge⟩ := sprt_reported_implies_value cfg (l ++ [a]) G
      (by rw [hmu]; exact ht0.le) alpha ha0 ha1 hev
    rwa [hN] at hge

/-- **C01, generalised Wald SPRT, independent draws.**  For every finitely supported law `L` on
`[0,u]` with mean at most `t`, every alternative `eta` with `t ≤ eta ≤ u` (`0 < t < u`), every horizon
`n` and every `alpha` in `(0,1)`, the exact probability that the p-value reported by `wald_sprt`
(`N = np.inf`) after some number `≤ n` of independent draws from `L` is at most `alpha` is at most `alpha`. -/
theorem C01_iid_sprt (cfg : Cfg) (hN : cfg.N = none)
    (ht0 : 0 < cfg.t) (htu : cfg.t < cfg.u) (hte : cfg.t ≤ C11.sprtEta cfg) (heu : C11.sprtEta cfg ≤ cfg.u)
    (alpha : ℚ) (ha0 : 0 < alpha) (ha1 : alpha < 1)
    (L : List (ℚ × ℚ)) (hL : IsLaw cfg.u L) (hmean : lawMean L ≤ cfg.t) (n : Nat) :
    hitIID L (reportedLastSprt cfg alpha) n [] ≤ alpha :=
  hitIIDK_rat L _ n [] ▸ ville_last_K (K := ℚ) (alphaQ cfg.u) cfg.u cfg.t (sprtG cfg) L hL.toK
    (fun _ _ _ ha0' hau' => alphaQ_nonneg cfg.u _ _ _ ht0 htu ha0' hau')
    (fun h' _ => alphaQ_super_iid_K cfg.u cfg.t (sprtG cfg h') ht0 htu L hL.toK hmean)
    (reportedLastSprt cfg alpha) alpha ha0
    (sprt_reported_implies_value_iid cfg hN ht0 htu hte heu alpha ha0 ha1) n

-- non-vacuity: u = 1, t = 1/2, eta = 3/4, the law {0: 1/2, 1/2: 1/4, 1: 1/4} (mean 3/8), 5 draws
example : hitIID [(0, 1/2), (1/2, 1/4), (1, 1/4)]
    (reportedLastSprt { N := none, u := 1, t := 1/2, randomOrder := true, kw := { eta := some (3/4) } } (1/20))
    5 [] ≤ 1/20 :=
  C01_iid_sprt _ rfl (by decide +kernel) (by decide +kernel) (by decide +kernel) (by decide +kernel)
    (1/20) (by decide +kernel) (by decide +kernel) _
    ⟨by decide +kernel, by decide +kernel, by decide +kernel⟩ (by decide +kernel) 5

/-! ## Kaplan-Wald, independent draws -/

/-- the event: the p-value `kaplan_wald` reports after the draws `h` is `≤ alpha` -/
def reportedLastKW (cfg : Cfg) (alpha : ℚ) (h : List ℚ) : Bool := lastLe alpha (kaplanWald cfg h)

/-- the Kaplan-Wald factor `(1−g) x/t + g` is the betting factor with the constant bet `(1−g)/t` -/
theorem kw_factor_eq_bet (t g a : ℚ) (ht : t ≠ 0) : betQ t a ((1 - g) / t) = (1 - g) * a / t + g := by
  unfold betQ
  field_simp
  ring

theorem kw_reported_implies_value (cfg : Cfg) (ht : 0 < cfg.t) (hg0 : 0 ≤ cfg.kw.g.getD 0)
    (hg1 : cfg.kw.g.getD 0 ≤ 1) (x : List ℚ) (hx : ∀ a ∈ x, 0 ≤ a)
    (alpha : ℚ) (ha0 : 0 < alpha) (ha1 : alpha < 1) (hev : reportedLastKW cfg alpha x = true) :
    1 / alpha ≤ Tq betQ none cfg.t (fun _ => (1 - cfg.kw.g.getD 0) / cfg.t) x := by
  unfold reportedLastKW at hev
  rcases List.eq_nil_or_concat' x with rfl | ⟨l, a, rfl⟩
  · rw [kw_err_empty cfg hg0 hg1] at hev; cases hev
  · have hlen1 : (l ++ [a]).length = l.length + 1 := by rw [List.length_append]; rfl
    rw [kw_eq cfg _ (List.concat_ne_nil a l) hx hg0 hg1] at hev
    have hV := value_of_lastLe (f := fun p => XR.npmin ((1 : XR) / p) 1) ((length_kwTerms cfg _).trans hlen1)
      (kwTerms_getElem? cfg _ ht.ne' l.length (hlen1 ▸ Nat.lt_succ_self _)) (npmin_inv_one_fin _)
      (by
        rw [kwT_eq]
        exact prodTo_nonneg fun i _ =>
          add_nonneg (div_nonneg (mul_nonneg (sub_nonneg.2 hg1) (obs_nonneg hx i)) ht.le) hg0)
      ha0 ha1 hev
    rw [Tq_eq_prodTo, hlen1]
    exact hV.trans_eq ((kwT_eq _ _ _ _).trans
      (prodTo_congr fun i _ => (kw_factor_eq_bet cfg.t _ _ ht.ne').symm))

/-- **C01, Kaplan-Wald, independent draws.**  For every finitely supported law `L` on `[0,u]` (any
`u`) with mean at most `t`, `t > 0`, `0 ≤ g ≤ 1`, every horizon `n` and every `alpha` in `(0,1)`, the exact
probability that the p-value reported by `kaplan_wald` after some number `≤ n` of independent draws
from `L` is at most `alpha` is at most `alpha`. -/
theorem C01_iid_kw (cfg : Cfg) (ht : 0 < cfg.t) (hg0 : 0 ≤ cfg.kw.g.getD 0) (hg1 : cfg.kw.g.getD 0 ≤ 1)
    (alpha : ℚ) (ha0 : 0 < alpha) (ha1 : alpha < 1)
    {u : ℚ} (L : List (ℚ × ℚ)) (hL : IsLaw u L) (hmean : lawMean L ≤ cfg.t) (n : Nat) :
    hitIID L (reportedLastKW cfg alpha) n [] ≤ alpha := by
  have hl0 : 0 ≤ (1 - cfg.kw.g.getD 0) / cfg.t := div_nonneg (sub_nonneg.2 hg1) ht.le
  have hl1 : (1 - cfg.kw.g.getD 0) / cfg.t * cfg.t ≤ 1 := by
    rw [div_mul_cancel₀ _ ht.ne']; exact sub_le_self _ hg0
  exact hitIIDK_rat L _ n [] ▸ ville_last_K (K := ℚ) betQ u cfg.t
    (fun _ => (1 - cfg.kw.g.getD 0) / cfg.t) L hL.toK
    (fun _ _ _ ha0' _ => betQ_nonneg _ _ _ ht ha0' hl0 hl1)
    (fun _ _ => betQ_super_iid_K cfg.t _ hl0 L hL.toK hmean)
    (reportedLastKW cfg alpha) alpha ha0
    (fun h hr hev => kw_reported_implies_value cfg ht hg0 hg1 h (fun a ha => (hr a ha).1) alpha ha0 ha1 hev) n

-- non-vacuity: t = 1/2, g = 1/10, the law {0: 1/2, 1/2: 1/4, 1: 1/4} (mean 3/8), 5 draws
example : hitIID [(0, 1/2), (1/2, 1/4), (1, 1/4)]
    (reportedLastKW { N := none, u := 1, t := 1/2, randomOrder := true, kw := { g := some (1/10) } } (1/20))
    5 [] ≤ 1/20 :=
  C01_iid_kw _ (by decide +kernel) (by decide +kernel) (by decide +kernel) (1/20) (by decide +kernel)
    (by decide +kernel) (u := 1) _ ⟨by decide +kernel, by decide +kernel, by decide +kernel⟩
    (by decide +kernel) 5

/-! ## Kaplan-Markov, independent draws -/

/-- the event: the p-value `kaplan_markov` reports after the draws `h` is `≤ alpha` -/
def reportedLastKM (cfg : Cfg) (alpha : ℚ) (h : List ℚ) : Bool := lastLe alpha (kaplanMarkov cfg h)

/-- the reciprocal of the Kaplan-Markov factor: `(x + g)/(t + g)`, the betting factor on the shifted
data `x + g` under the shifted hypothesis `t + g` with the bet `1/(t + g)` -/
def kmQ (tg g : ℚ) (_m a _c : ℚ) : ℚ := (a + g) / tg

/-- multiplying the IEEE reciprocal of a value `V ≥ 0` by a Kaplan-Markov factor `(t+g)/(x+g)` gives the
IEEE reciprocal of `V · (x+g)/(t+g)`: `+inf` as soon as one of them vanishes -/
theorem inv_mul_div {V tg ag : ℚ} (hV : 0 ≤ V) (htg : 0 < tg) (hag : 0 ≤ ag) :
    ((1 : XR) / XR.fin V) * (XR.fin tg / XR.fin ag) = (1 : XR) / XR.fin (V * (ag / tg)) := by
  rcases hag.eq_or_lt with rfl | hag
  · rw [fin_div_zero_pos htg, zero_div, mul_zero]
    exact pos_mul_pinf (km_factor 1 V one_pos hV)
  · rw [XR.fin_div _ _ hag.ne']
    rcases hV.eq_or_lt with rfl | hV
    · rw [zero_mul]
      exact pinf_mul_pos (a := XR.fin (tg / ag)) (div_pos htg hag)
    · rw [one_div_fin hV.ne', XR.fin_mul, one_div_fin (mul_pos hV (div_pos hag htg)).ne', one_div_mul_eq_div,
        one_div, mul_inv, inv_div, div_eq_inv_mul]

/-- the running product of the model is the IEEE reciprocal of the value `∏ (x_i + g)/(t + g)` -/
theorem kmTerms_getElem? (cfg : Cfg) (x : List ℚ) (hx : ∀ a ∈ x, 0 ≤ a) (hg : 0 ≤ cfg.kw.g.getD 0)
    (htg : 0 < cfg.t + cfg.kw.g.getD 0) (j : Nat) (hj : j < x.length) :
    (kmTerms cfg x)[j]? = some ((1 : XR) / XR.fin
      (prodTo (fun i => (Spec.obs x i + cfg.kw.g.getD 0) / (cfg.t + cfg.kw.g.getD 0)) (j + 1))) := by
  obtain ⟨T, hT, rfl⟩ := cumprodFrom_getElem?_inv
    (x.map fun a => XR.fin (cfg.t + cfg.kw.g.getD 0) / XR.fin (a + cfg.kw.g.getD 0))
    (fun k T => T = (1 : XR) / XR.fin
      (prodTo (fun i => (Spec.obs x i + cfg.kw.g.getD 0) / (cfg.t + cfg.kw.g.getD 0)) k)) 1 j
    (by rwa [List.length_map]) (show (1 : XR) = 1 / XR.fin 1 by decide +kernel) (fun i _ T f hf hC => by
      obtain ⟨a, ha, rfl⟩ := List.getElem?_map.symm.trans hf |> Option.map_eq_some_iff.1
      rw [hC, inv_mul_div (prodTo_nonneg fun k _ =>
        div_nonneg (add_nonneg (obs_nonneg hx k) hg) htg.le) htg (add_nonneg (hx a (List.mem_of_getElem? ha)) hg),
        prodTo, obs_eq ha])
  exact hT

/-- the running product of the model is `+inf` (some `x_i + g = 0`) or the reciprocal of the value -/
theorem km_cumprod (cfg : Cfg) (x : List ℚ) (hx : ∀ a ∈ x, 0 ≤ a) (hg : 0 ≤ cfg.kw.g.getD 0)
    (htg : 0 < cfg.t + cfg.kw.g.getD 0) (j : Nat) (hj : j < x.length) :
    ∃ T, (kmTerms cfg x)[j]? = some T ∧
      (T = .pinf ∨ ∃ P : ℚ, 0 < P ∧ T = .fin P ∧
        P * prodTo (fun i => (Spec.obs x i + cfg.kw.g.getD 0) / (cfg.t + cfg.kw.g.getD 0)) (j + 1) = 1) := by
  refine ⟨_, kmTerms_getElem? cfg x hx hg htg j hj, ?_⟩
  rcases (prodTo_nonneg (f := fun i => (Spec.obs x i + cfg.kw.g.getD 0) / (cfg.t + cfg.kw.g.getD 0))
    (k := j + 1) fun k _ => div_nonneg (add_nonneg (obs_nonneg hx k) hg) htg.le).eq_or_lt with h0 | hpos
  · left; rw [← h0]; rfl
  · right
    exact ⟨_, one_div_pos.2 hpos, one_div_fin hpos.ne', one_div_mul_cancel hpos.ne'⟩

theorem km_reported_implies_value (cfg : Cfg) (hg : 0 ≤ cfg.kw.g.getD 0)
    (htg : 0 < cfg.t + cfg.kw.g.getD 0) (x : List ℚ) (hx : ∀ a ∈ x, 0 ≤ a)
    (alpha : ℚ) (ha0 : 0 < alpha) (ha1 : alpha < 1) (hev : reportedLastKM cfg alpha x = true) :
    1 / alpha ≤ Tq (kmQ (cfg.t + cfg.kw.g.getD 0) (cfg.kw.g.getD 0)) none cfg.t (fun _ => 0) x := by
  unfold reportedLastKM at hev
  rcases List.eq_nil_or_concat' x with rfl | ⟨l, a, rfl⟩
  · rw [km_err_empty cfg] at hev; cases hev
  · have hlen1 : (l ++ [a]).length = l.length + 1 := by rw [List.length_append]; rfl
    rw [km_eq cfg _ (List.concat_ne_nil a l) hx] at hev
    rw [Tq_eq_prodTo, hlen1]
    exact value_of_lastLe (f := fun p => XR.npmin p 1) ((length_kmTerms cfg _).trans hlen1)
      (kmTerms_getElem? cfg _ hx hg htg l.length (hlen1 ▸ Nat.lt_succ_self _)) (npmin_inv_one_fin _)
      (prodTo_nonneg fun k _ => div_nonneg (add_nonneg (obs_nonneg hx k) hg) htg.le) ha0 ha1 hev

section OrderedField

variable {K : Type} [Field K] [LinearOrder K] [IsStrictOrderedRing K]

theorem kmQ_super_iid_K (t g : ℚ) (htg : 0 < t + g) (L : List (ℚ × K)) {u : ℚ} (hL : IsLawK u L)
    (hmean : lawMeanK L ≤ (t : K)) : expLK L (fun v => ((kmQ (t + g) g t v 0 : ℚ) : K)) ≤ 1 := by
  have haff : ∀ v, kmQ (t + g) g t v 0 = 1 + 1 / (t + g) * (v - t) := fun v => by
    rw [kmQ, shift_div_eq _ _ _ htg.ne', add_sub_cancel_right]
  simp only [haff]
  exact expLK_affine_cast_le_one L hL.w_sum _ _ (one_div_pos.2 htg).le hmean

end OrderedField

/-- **C01, Kaplan-Markov, independent draws.**  For every finitely supported law `L` on `[0,u]` (any
`u`) with mean at most `t`, `g ≥ 0`, `t + g > 0`, every horizon `n` and every `alpha` in `(0,1)`, the exact
probability that the p-value reported by `kaplan_markov` after some number `≤ n` of independent draws
from `L` is at most `alpha` is at most `alpha`. -/
theorem C01_iid_km (cfg : Cfg) (hg : 0 ≤ cfg.kw.g.getD 0) (htg : 0 < cfg.t + cfg.kw.g.getD 0)
    (alpha : ℚ) (ha0 : 0 < alpha) (ha1 : alpha < 1)
    {u : ℚ} (L : List (ℚ × ℚ)) (hL : IsLaw u L) (hmean : lawMean L ≤ cfg.t) (n : Nat) :
    hitIID L (reportedLastKM cfg alpha) n [] ≤ alpha :=
  hitIIDK_rat L _ n [] ▸ ville_last_K (K := ℚ) (kmQ (cfg.t + cfg.kw.g.getD 0) (cfg.kw.g.getD 0)) u cfg.t
    (fun _ => 0) L hL.toK
    (fun _ _ _ ha0' _ => div_nonneg (add_nonneg ha0' hg) htg.le)
    (fun _ _ => kmQ_super_iid_K cfg.t (cfg.kw.g.getD 0) htg L hL.toK hmean)
    (reportedLastKM cfg alpha) alpha ha0
    (fun h hr hev => km_reported_implies_value cfg hg htg h (fun a ha => (hr a ha).1) alpha ha0 ha1 hev) n

-- non-vacuity: t = 1/2, g = 0 (zero observations make the product infinite), the law
-- {0: 1/2, 1/2: 1/4, 1: 1/4} (mean 3/8), 5 draws
example : hitIID [(0, 1/2), (1/2, 1/4), (1, 1/4)]
    (reportedLastKM { N := none, u := 1, t := 1/2, randomOrder := true, kw := {} } (1/20))
    5 [] ≤ 1/20 :=
  C01_iid_km _ (by decide +kernel) (by decide +kernel) (1/20) (by decide +kernel) (by decide +kernel)
    (u := 1) _ ⟨by decide +kernel, by decide +kernel, by decide +kernel⟩ (by decide +kernel) 5

end Shangrla.C01
