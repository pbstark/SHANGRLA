/-
  The contest-level (outcome-level) risk limit: the statement an election official relies on.

  The theorems about one (winner, loser) pair say "if `l` really has at least as many marks as `w`, the audit of the
  assertion `w v l` ...".  An official does not know which pair is wrong; what she relies on is

      if the reported outcome of the contest is wrong, then — whatever the other assertions, contests and tests
      are and however often the status is looked at — the audit is ever reported complete with probability at
      most the contest's risk limit.

  That needs one more step, C02's `plurality_iff` read at the audit level: the reported outcome (winners `W`, losers
  `L`) is right exactly when every pair `(w, l) ∈ W × L` has `marks l < marks w` (a tie is wrong: it cannot be
  confirmed); so a wrong outcome gives some pair with `marks w ≤ marks l`, and provided the contest's assertion list
  contains the assertion of every pair (the hypothesis `hall`: what `Assertion.make_plurality_assertions` builds,
  Audit.py L1923-1951, called by `make_all_assertions` L2186-2198 with `loser = set(candidates) − set(winner)`), the
  pair theorem applies to that pair's assertion.  The per-assertion hypotheses of the pair theorems are bundled
  existentially in `PollingAssertion` and `ComparisonAssertion`.
-/
import Shangrla.Props.RiskLimitPlurality
import Shangrla.Props.RiskLimitComparisonOutcome

namespace Shangrla.RiskLimit
open Shangrla Shangrla.Ville Shangrla.Status Shangrla.AuditLoop Shangrla.Overstatement Shangrla.Vote
open Shangrla.Assorter (plurality supermajority superUpper)

/-! ### what "the reported outcome is wrong" means -/

/-- **The reported outcome of a plurality / approval contest (`k = |W|` winners) is wrong on the ballots `B`**:
it is not the case that every reported winner has strictly more marks than every reported loser — some reported
loser has at least as many marks as some reported winner.  A tie between a winner and a loser counts as wrong (the
outcome cannot be confirmed).  This is the negation of the right-hand side of `C02.plurality_iff`. -/
def PluralityOutcomeWrong (contest : String) (W L : List String) (B : List CVR) : Prop :=
  ¬ ∀ w ∈ W, ∀ l ∈ L, C02.marks contest l B < C02.marks contest w B

/-- **The reported outcome of a super-majority contest (winner `w`, required share `f`) is wrong on `B`**: the
winner's valid votes do not exceed the share `f` of the valid votes (a card is a valid vote when it shows exactly one
mark among `cands`).  The negation of the right-hand side of `C02.supermajority_iff`. -/
def SupermajorityOutcomeWrong (contest w : String) (cands : List String) (f : ℚ) (B : List CVR) : Prop :=
  ¬ f * (C02.valid contest cands B : ℚ) < (C02.wvalid contest cands w B : ℚ)

theorem pluralityOutcomeWrong_iff_pair (contest : String) (W L : List String) (B : List CVR) :
    PluralityOutcomeWrong contest W L B ↔
      ∃ w ∈ W, ∃ l ∈ L, C02.marks contest w B ≤ C02.marks contest l B := by
  simp only [PluralityOutcomeWrong, not_forall, not_lt, exists_prop]

/-- `C02.plurality_iff` at the audit level: the outcome is wrong exactly when some assertion of the set
`make_plurality_assertions` builds is false -/
theorem pluralityOutcomeWrong_iff_means (contest : String) (W L : List String) (B : List CVR) (hB : B ≠ []) :
    PluralityOutcomeWrong contest W L B ↔
      ¬ ∀ w ∈ W, ∀ l ∈ L, C02.gtHalf (Assorter.mean false contest (plurality contest w l) B) :=
  not_congr (C02.plurality_iff contest W L B hB).symm

theorem supermajorityOutcomeWrong_iff_mean (contest w : String) (cands : List String) (f : ℚ) (hf0 : 0 < f)
    (B : List CVR) (hB : B ≠ []) :
    SupermajorityOutcomeWrong contest w cands f B ↔
      ¬ C02.gtHalf (Assorter.mean false contest (supermajority contest w cands f) B) :=
  not_congr (C02.supermajority_iff contest w cands f hf0 B hB).symm

/-! ### ballot polling -/

/-- **Contest `c` has a polling assertion with raw assorter `assort` and assorter bound `u`, set up as the library
sets it up on a population of `n` cards.**  Stands for one iteration of the loop of `make_plurality_assertions`
(Audit.py L1923-1951) resp. the body of `make_supermajority_assertion` (L2008-2041):

    _test = NonnegMean(test=test, estim=estim, bet=bet, g=contest.g, u=<u>, N=contest.cards, t=1/2,
                       random_order=True, **test_kwargs)
    assertions[wl_pair] = Assertion(contest, winner=…, loser=…, assorter=Assorter(assort=<assort>, upper_bound=<u>),
                                    test=_test)

and for what `set_p_values` does with it in a polling audit (L2328-2330 and `mvrs_to_data` L1664-1669: the data are
`assort` of each drawn card, in draw order, `test.u = upper_bound`).  In the model: some assertion `a` of the
contest's list has `data c.id a.name = assort`, and its test is `NonnegMean.test` (`NM.run`) with `N = n`, `t = 1/2`,
`u = u`, any shipped test / estimator / bet inside its documented parameter range (`C01.DocumentedFinite`).
`n = contest.cards` must be the size of the population the sample is drawn from (the theorems take `n = |B|`). -/
def PollingAssertion (data : String → String → CVR → ℚ) (T : String → String → SeqTest) (c : Contest) (n : Nat)
    (assort : CVR → ℚ) (u : ℚ) : Prop :=
  ∃ a ∈ c.assertions, data c.id a.name = assort ∧
    ∃ (sqrtF : ℚ → ℚ) (cfg : NM.Cfg) (test : NM.Test),
      cfg.N = some n ∧ cfg.t = 1 / 2 ∧ cfg.u = u ∧
      T c.id a.name = NM.run sqrtF cfg test ∧ C01.DocumentedFinite sqrtF cfg test

/-- two different (winner, loser) pairs with the same dict key `winr + " v " + losr` (L1925): with winners `a`, `a v b`
and losers `b v c`, `c` the pairs (`a`, `b v c`) and (`a v b`, `c`) are both named `a v b v c`.  A dict keyed by name
cannot hold an assertion for each of them: `make_plurality_assertions` refuses such a pair (`ValueError`, finding F30 of
DESIGN.md §12), and `hall` asks for an assertion with the right data for every pair, not for a name. -/
theorem pair_name_clash : "a" ++ " v " ++ "b v c" = "a v b" ++ " v " ++ "c" ∧ ("a", "b v c") ≠ ("a v b", "c") := by
  decide

/-- **Contest-level risk limit, ballot polling, plurality / approval with any number of winners.**

`B` — the cards cast (what a full hand count would see); `W`, `L` — the reported winners and losers of `contest`.
`hall` — the assertion list of contest `c` of the audit contains, for EVERY pair `(w, l) ∈ W × L`, an assertion whose
data are the plurality assorter "`w` v `l`" of the drawn card, tested by a shipped test in its documented range with
`N = |B|`, `t = 1/2`, `u = 1` (`PollingAssertion`).  This is what `make_plurality_assertions(contest, winner=W,
loser=L, …)` builds — one `Assertion` per iteration of `for winr in winner: for losr in loser:`, under the dict key
`winr + " v " + losr` — whenever it returns (`pair_name_clash`: it raises when two pairs get the same key).  The loops
and the dict are modelled by `Assorter.pluralityPairs`, and `C02.pluralityPairs_complete` is this
completeness for its list of (name, winner, loser) entries.  `hall` speaks of the `Status` model, which knows an
assertion by its name only, and of the data function and the tests given to that name: it is a hypothesis here.

NOT assumed: that `W` and `L` are disjoint or non-empty (if one is empty the outcome cannot be wrong; if they share a
candidate the outcome is wrong and the theorem still holds), that the candidates in `W ∪ L` are all the candidates, that
`|W|` is the contest's `n_winners`, anything about the other assertions of `c`, the other contests of `s`, their data
functions and tests, or the risk limits of the other contests.

Conclusion: if the reported outcome is wrong, the probability — over the `|B|!` orders in which the cards can be
drawn without replacement — that `summarize_status` after `set_p_values` EVER reports the audit complete, after any
number of draws, is at most the risk limit of contest `c`. -/
theorem plurality_outcome_polling_risk_limit (data : String → String → CVR → ℚ)
    (T : String → String → SeqTest) (s : State) (c : Contest) (hc : c ∈ s) (B : List CVR)
    (contest : String) (W L : List String)
    (hall : ∀ w ∈ W, ∀ l ∈ L, PollingAssertion data T c B.length (plurality contest w l) 1)
    (hr0 : 0 < c.riskLimit) (hr1 : c.riskLimit < 1)
    (hwrong : PluralityOutcomeWrong contest W L B) :
    hitG (auditComplete data T s) B.length B [] ≤ c.riskLimit := by
  obtain ⟨w, hw, l, hl, hle⟩ := (pluralityOutcomeWrong_iff_pair contest W L B).1 hwrong
  obtain ⟨a, ha, hdata, sqrtF, cfg, test, hN, ht, hu, hT, hdoc⟩ := hall w hw l hl
  exact plurality_polling_risk_limit data T s c hc a ha B contest w l hdata sqrtF cfg test hN ht hu hT hdoc hr0 hr1
    hle

/-- **Contest-level risk limit, ballot polling, super-majority** (one winner `w`, share `0 < f < 1`, valid votes
counted among `cands`; `make_all_assertions` passes `cands = losers + [winner]`, `Assorter.superCands`): the
contest's assertion list contains the super-majority assertion (`make_supermajority_assertion`, L2008-2041: assorter
bound and test bound `1/(2f)`, `N = |B|`, `t = 1/2`).  If the reported winner's valid votes do not exceed the share `f`
of the valid votes, the audit is ever reported complete with probability at most the contest's risk limit. -/
theorem supermajority_outcome_polling_risk_limit (data : String → String → CVR → ℚ)
    (T : String → String → SeqTest) (s : State) (c : Contest) (hc : c ∈ s) (B : List CVR)
    (contest w : String) (cands : List String) (f : ℚ) (hf0 : 0 < f) (hf1 : f < 1)
    (hasn : PollingAssertion data T c B.length (supermajority contest w cands f) (superUpper f))
    (hr0 : 0 < c.riskLimit) (hr1 : c.riskLimit < 1)
    (hwrong : SupermajorityOutcomeWrong contest w cands f B) :
    hitG (auditComplete data T s) B.length B [] ≤ c.riskLimit := by
  obtain ⟨a, ha, hdata, sqrtF, cfg, test, hN, ht, hu, hT, hdoc⟩ := hasn
  exact supermajority_polling_risk_limit data T s c hc a ha B contest w cands f hf0 hf1 hdata sqrtF cfg test hN ht hu
    hT hdoc hr0 hr1 (not_lt.mp hwrong)

/-! ### card-level comparison and ONEAudit, on the literal overstatement model

The population is a list `cards : List α`; a card `x` carries its manual record `ballot x : Vote.CVR` (what a full
hand count would see; `phantom` = the card could not be found) and whatever the machine reported about it.  Every
assertion of the contest reads its OWN `Cvr` off the card (`cv x`: the reported assorter value `a` differs from one
(winner, loser) pair to the next), but whether the card's CVR lists the contest — `cvr.has_contest(contest.id)`, the
style filter — is the same for all of them: `listed x`.  The cards under audit are those with `listed x` (all cards
when `useStyle` is off). -/

/-- the manual records of the cards under audit: all cards, or under style-based sampling the cards whose CVR lists
the contest -/
def auditedBallots {α : Type} (useStyle : Bool) (ballot : α → CVR) (listed : α → Bool) (cards : List α) :
    List CVR :=
  (cards.filter (fun x => !useStyle || listed x)).map ballot

/-- the found ballots of the cards under audit: the card was found (`phantom = false`) and, under style, its manual
record lists the contest — the records the overstatement scores with their own assorter value -/
def foundOf {α : Type} (useStyle : Bool) (contest : String) (ballot : α → CVR) (listed : α → Bool)
    (cards : List α) : List CVR :=
  (auditedBallots useStyle ballot listed cards).filter (fun b => !zeroed useStyle contest b)

/-- the number of cards under audit whose manual record is scored 0 (unfindable, or under style lacking the contest) -/
def lostOf {α : Type} (useStyle : Bool) (contest : String) (ballot : α → CVR) (listed : α → Bool)
    (cards : List α) : Nat :=
  (auditedBallots useStyle ballot listed cards).countP (zeroed useStyle contest)

theorem audBallots_listed {α : Type} (useStyle : Bool) (ballot : α → CVR) (cv : α → Cvr) (listed : α → Bool)
    (cards : List α) (hl : ∀ x ∈ cards, (cv x).hasContest = listed x) :
    audBallots useStyle ballot cv cards = auditedBallots useStyle ballot listed cards := by
  unfold audBallots auditedBallots
  congr 1
  apply List.filter_congr
  intro x hx
  unfold passes
  rw [hl x hx]

theorem foundBallots_listed {α : Type} (useStyle : Bool) (contest : String) (ballot : α → CVR) (cv : α → Cvr)
    (listed : α → Bool) (cards : List α) (hl : ∀ x ∈ cards, (cv x).hasContest = listed x) :
    foundBallots useStyle contest ballot cv cards = foundOf useStyle contest ballot listed cards := by
  unfold foundBallots foundOf
  rw [audBallots_listed useStyle ballot cv listed cards hl]

theorem lostCount_listed {α : Type} (useStyle : Bool) (contest : String) (ballot : α → CVR) (cv : α → Cvr)
    (listed : α → Bool) (cards : List α) (hl : ∀ x ∈ cards, (cv x).hasContest = listed x) :
    lostCount useStyle contest ballot cv cards = lostOf useStyle contest ballot listed cards := by
  unfold lostCount lostOf
  rw [audBallots_listed useStyle ballot cv listed cards hl]

/-- a manual record lacking the contest shows no mark: "wrong on the found ballots" can be read on either list -/
theorem marks_foundOf {α : Type} (useStyle : Bool) (contest x : String) (ballot : α → CVR) (listed : α → Bool)
    (cards : List α) :
    C02.marks contest x (foundOf useStyle contest ballot listed cards)
      = C02.marks contest x ((auditedBallots useStyle ballot listed cards).filter (fun b => !b.phantom)) :=
  found_congr (C02.marks_filter_hasContest contest x)

theorem valid_foundOf {α : Type} (useStyle : Bool) (contest : String) (cands : List String) (ballot : α → CVR)
    (listed : α → Bool) (cards : List α) :
    C02.valid contest cands (foundOf useStyle contest ballot listed cards)
      = C02.valid contest cands ((auditedBallots useStyle ballot listed cards).filter (fun b => !b.phantom)) :=
  found_congr (C02.valid_filter_hasContest contest cands)

theorem wvalid_foundOf {α : Type} (useStyle : Bool) (contest : String) (cands : List String) (w : String)
    (ballot : α → CVR) (listed : α → Bool) (cards : List α) :
    C02.wvalid contest cands w (foundOf useStyle contest ballot listed cards)
      = C02.wvalid contest cands w ((auditedBallots useStyle ballot listed cards).filter (fun b => !b.phantom)) :=
  found_congr (C02.wvalid_filter_hasContest contest cands w)

/-- **The outcome of a plurality contest cannot be confirmed from the found ballots `F` when `lost` records are
scored 0**: not every reported winner has more marks on `F` than every reported loser has marks on `F` plus `lost`.
The overstatement scores a record it cannot use (unfindable card; under style a record lacking the contest) as a vote
for the loser alone, whichever pair is looked at — so this, and nothing stronger, is what makes some assertion false on
the manual records (`plurality_comparison_null_iff`).  With `lost = 0` it is `PluralityOutcomeWrong`; for every `lost`
it is implied by `PluralityOutcomeWrong contest W L F` (`pluralityUnconfirmed_of_wrong`): the hypothesis of the
comparison theorem is weaker than "the outcome is wrong on the found ballots". -/
def PluralityOutcomeUnconfirmed (lost : Nat) (contest : String) (W L : List String) (F : List CVR) : Prop :=
  ¬ ∀ w ∈ W, ∀ l ∈ L, C02.marks contest l F + lost < C02.marks contest w F

/-- the super-majority counterpart: a record scored 0 counts as one more valid vote for someone else
(`supermajority_comparison_null_iff`) -/
def SupermajorityOutcomeUnconfirmed (lost : Nat) (contest w : String) (cands : List String) (f : ℚ)
    (F : List CVR) : Prop :=
  ¬ f * ((C02.valid contest cands F : ℚ) + (lost : ℚ)) < (C02.wvalid contest cands w F : ℚ)

theorem pluralityUnconfirmed_zero (contest : String) (W L : List String) (F : List CVR) :
    PluralityOutcomeUnconfirmed 0 contest W L F ↔ PluralityOutcomeWrong contest W L F :=
  Iff.rfl

theorem pluralityUnconfirmed_iff_pair (lost : Nat) (contest : String) (W L : List String) (F : List CVR) :
    PluralityOutcomeUnconfirmed lost contest W L F ↔
      ∃ w ∈ W, ∃ l ∈ L, C02.marks contest w F ≤ C02.marks contest l F + lost := by
  simp only [PluralityOutcomeUnconfirmed, not_forall, not_lt, exists_prop]

theorem pluralityUnconfirmed_of_wrong (lost : Nat) (contest : String) (W L : List String) (F : List CVR)
    (h : PluralityOutcomeWrong contest W L F) : PluralityOutcomeUnconfirmed lost contest W L F :=
  fun hall => h (fun w hw l hl => lt_of_le_of_lt (Nat.le_add_right _ _) (hall w hw l hl))

theorem supermajorityUnconfirmed_zero (contest w : String) (cands : List String) (f : ℚ) (F : List CVR) :
    SupermajorityOutcomeUnconfirmed 0 contest w cands f F ↔ SupermajorityOutcomeWrong contest w cands f F := by
  unfold SupermajorityOutcomeUnconfirmed SupermajorityOutcomeWrong
  rw [Nat.cast_zero, add_zero]

theorem supermajorityUnconfirmed_of_wrong (lost : Nat) (contest w : String) (cands : List String) (f : ℚ)
    (hf0 : 0 < f) (F : List CVR) (h : SupermajorityOutcomeWrong contest w cands f F) :
    SupermajorityOutcomeUnconfirmed lost contest w cands f F :=
  fun hlt => h (lt_of_le_of_lt
    (mul_le_mul_of_nonneg_left (le_add_of_nonneg_right (Nat.cast_nonneg _)) hf0.le) hlt)

/-- **Contest `c` has a comparison / ONEAudit assertion with raw assorter `assort` and assorter bound `u`, set up as
the library sets it up on the population `cards`.**  Stands for the same constructor lines as `PollingAssertion`
(L1923-1951 / L2008-2041) followed by `Assertion.set_all_margins_from_cvrs` / `set_margin_from_cvrs` (L1490-1529,
L2264-2284) and, for ONEAudit, `Assorter.set_tally_pool_means` (L2475-2520); the data are what `mvrs_to_data`
(L1644-1662) returns.  Existentially bundled: an assertion `a ∈ c.assertions` together with

* `cv : α → Cvr` — the CVR of each card as THIS assertion's overstatement reads it (any `Cvr`s: phantoms, pooled or
  not, any pool labels, any reported assorter value in `[0,u]`), agreeing with `listed` on `has_contest`;
* `ty ∈ {cardComparison, oneaudit}`, pool means `means` (`MeansFrom`: never set, or computed from `cards.map cv` under
  the same style flag), some card under audit, an unpooled phantom CVR under audit has `A = 1/2` (what `make_phantoms`
  produces), `(margin, U)` as `setMarginFromCvrs` returns them from the CVRs;
* `data c.id a.name` = `cardDatum` of the manual record `mvrOf assort contest (ballot x)` and `cv x`;
* the test: `NonnegMean.test` with `N` = number of cards under audit, `t = 1/2`, `u = U`, any shipped test in its
  documented range.

These are exactly the hypotheses of `plurality_comparison_risk_limit` / `supermajority_comparison_risk_limit` (i.e. of
`comparison_full_risk_limit`: C03's and C06's), nothing more. -/
def ComparisonAssertion {α : Type} (ballot : α → CVR) (cards : List α) (contest : String) (useStyle : Bool)
    (listed : α → Bool) (data : String → String → α → Option ℚ) (T : String → String → SeqTest) (c : Contest)
    (assort : CVR → ℚ) (u : ℚ) : Prop :=
  ∃ a ∈ c.assertions, ∃ (cv : α → Cvr) (ty : AuditType) (means : Option Means) (margin U : XR)
      (sqrtF : ℚ → ℚ) (cfg : NM.Cfg) (test : NM.Test),
    (∀ x ∈ cards, (cv x).hasContest = listed x) ∧
    (ty = .cardComparison ∨ ty = .oneaudit) ∧
    MeansFrom useStyle (cards.map cv) means ∧
    (∀ r ∈ cards.map cv, 0 ≤ r.a ∧ r.a ≤ u) ∧
    C03.aud useStyle (cards.map cv) ≠ [] ∧
    (∀ r ∈ C03.aud useStyle (cards.map cv), r.phantom = true → usesPool means r = false → r.a = 1 / 2) ∧
    setMarginFromCvrs 1 useStyle ty u (cards.map cv) = .ok (margin, U) ∧
    (data c.id a.name = fun x => cardDatum ty useStyle margin u means (mvrOf assort contest (ballot x), cv x)) ∧
    cfg.N = some (C03.aud useStyle (cards.map cv)).length ∧ cfg.t = 1 / 2 ∧ XR.fin cfg.u = U ∧
    T c.id a.name = NM.run sqrtF cfg test ∧ C01.DocumentedFinite sqrtF cfg test

/-- **Contest-level risk limit, card-level comparison / ONEAudit, plurality / approval with any number of winners.**

`hall` — for EVERY pair `(w, l) ∈ W × L` the contest has a comparison assertion with the plurality assorter
"`w` v `l`" (assorter bound 1), each with its own CVR view, margin, pool means and test (`ComparisonAssertion`); the
CVRs are arbitrary — the theorem holds whatever the machine reported about who won.  As for polling, this is what
`make_plurality_assertions` builds whenever it returns (it raises when two pairs get the same name, `pair_name_clash`).

`hwrong` — stated on the TRUE ballots as generously as is true: over the found ballots `F` of the cards under audit,
NOT every reported winner has more marks than every reported loser plus the number of records scored 0
(`PluralityOutcomeUnconfirmed`).  It is implied by "the reported outcome is wrong on `F`"
(`plurality_outcome_comparison_risk_limit_found`), and the marks over `F` are the marks over all the cards under audit
that could be found (`marks_foundOf`).  What the theorem cannot speak about, because the audit never looks at it: the
marks on a card that cannot be found, on a manual record that (under style) does not list the contest, and — under
style — on a card whose CVR does not list the contest.

Conclusion: the audit is EVER reported complete with probability at most `c.riskLimit`. -/
theorem plurality_outcome_comparison_risk_limit {α : Type} (ballot : α → CVR) (cards : List α)
    (contest : String) (W L : List String) (useStyle : Bool) (listed : α → Bool)
    (data : String → String → α → Option ℚ) (T : String → String → SeqTest) (s : State)
    (c : Contest) (hc : c ∈ s)
    (hall : ∀ w ∈ W, ∀ l ∈ L,
      ComparisonAssertion ballot cards contest useStyle listed data T c (plurality contest w l) 1)
    (hr0 : 0 < c.riskLimit) (hr1 : c.riskLimit < 1)
    (hwrong : PluralityOutcomeUnconfirmed (lostOf useStyle contest ballot listed cards) contest W L
      (foundOf useStyle contest ballot listed cards)) :
    hitG (auditCompleteOpt data T s) cards.length cards [] ≤ c.riskLimit := by
  obtain ⟨w, hw, l, hl, hle⟩ := (pluralityUnconfirmed_iff_pair _ contest W L _).1 hwrong
  -- the pieces of `ComparisonAssertion` for that pair, in the order of its definition and under the names of the
  -- arguments of `plurality_comparison_risk_limit`
  obtain ⟨a, ha, cv, ty, means, margin, U, sqrtF, cfg, test, hlist, hty, hm, hcv, hne, hph, hmargin, hdata, hN, ht,
    hcu, hT, hdoc⟩ := hall w hw l hl
  rw [← foundBallots_listed useStyle contest ballot cv listed cards hlist,
    ← lostCount_listed useStyle contest ballot cv listed cards hlist] at hle
  exact plurality_comparison_risk_limit ballot cv cards contest w l ty hty useStyle means hm hcv hne hph margin U
    hmargin data T s c hc a ha hdata sqrtF cfg test hN ht hcu hT hdoc hr0 hr1 hle

/-- the same with the plain hypothesis: the reported outcome is wrong on the found ballots of the cards under audit -/
theorem plurality_outcome_comparison_risk_limit_found {α : Type} (ballot : α → CVR) (cards : List α)
    (contest : String) (W L : List String) (useStyle : Bool) (listed : α → Bool)
    (data : String → String → α → Option ℚ) (T : String → String → SeqTest) (s : State)
    (c : Contest) (hc : c ∈ s)
    (hall : ∀ w ∈ W, ∀ l ∈ L,
      ComparisonAssertion ballot cards contest useStyle listed data T c (plurality contest w l) 1)
    (hr0 : 0 < c.riskLimit) (hr1 : c.riskLimit < 1)
    (hwrong : PluralityOutcomeWrong contest W L (foundOf useStyle contest ballot listed cards)) :
    hitG (auditCompleteOpt data T s) cards.length cards [] ≤ c.riskLimit :=
  plurality_outcome_comparison_risk_limit ballot cards contest W L useStyle listed data T s c hc hall hr0 hr1
    (pluralityUnconfirmed_of_wrong _ contest W L _ hwrong)

/-- **Contest-level risk limit, comparison / ONEAudit, super-majority** (`0 < f < 1`, assorter bound `1/(2f)`). -/
theorem supermajority_outcome_comparison_risk_limit {α : Type} (ballot : α → CVR) (cards : List α)
    (contest w : String) (cands : List String) (f : ℚ) (hf0 : 0 < f) (hf1 : f < 1)
    (useStyle : Bool) (listed : α → Bool)
    (data : String → String → α → Option ℚ) (T : String → String → SeqTest) (s : State)
    (c : Contest) (hc : c ∈ s)
    (hasn : ComparisonAssertion ballot cards contest useStyle listed data T c
      (supermajority contest w cands f) (superUpper f))
    (hr0 : 0 < c.riskLimit) (hr1 : c.riskLimit < 1)
    (hwrong : SupermajorityOutcomeUnconfirmed (lostOf useStyle contest ballot listed cards) contest w cands f
      (foundOf useStyle contest ballot listed cards)) :
    hitG (auditCompleteOpt data T s) cards.length cards [] ≤ c.riskLimit := by
  obtain ⟨a, ha, cv, ty, means, margin, U, sqrtF, cfg, test, hlist, hty, hm, hcv, hne, hph, hmargin, hdata, hN, ht,
    hcu, hT, hdoc⟩ := hasn
  have hle := not_lt.mp hwrong
  rw [← foundBallots_listed useStyle contest ballot cv listed cards hlist,
    ← lostCount_listed useStyle contest ballot cv listed cards hlist] at hle
  exact supermajority_comparison_risk_limit ballot cv cards contest w cands f hf0 hf1 ty hty useStyle means hm hcv hne
    hph margin U hmargin data T s c hc a ha hdata sqrtF cfg test hN ht hcu hT hdoc hr0 hr1 hle

/-- the same with the plain hypothesis `wvalid ≤ f · valid` on the found ballots -/
theorem supermajority_outcome_comparison_risk_limit_found {α : Type} (ballot : α → CVR) (cards : List α)
    (contest w : String) (cands : List String) (f : ℚ) (hf0 : 0 < f) (hf1 : f < 1)
    (useStyle : Bool) (listed : α → Bool)
    (data : String → String → α → Option ℚ) (T : String → String → SeqTest) (s : State)
    (c : Contest) (hc : c ∈ s)
    (hasn : ComparisonAssertion ballot cards contest useStyle listed data T c
      (supermajority contest w cands f) (superUpper f))
    (hr0 : 0 < c.riskLimit) (hr1 : c.riskLimit < 1)
    (hwrong : SupermajorityOutcomeWrong contest w cands f (foundOf useStyle contest ballot listed cards)) :
    hitG (auditCompleteOpt data T s) cards.length cards [] ≤ c.riskLimit :=
  supermajority_outcome_comparison_risk_limit ballot cards contest w cands f hf0 hf1 useStyle listed data T s c hc
    hasn hr0 hr1 (supermajorityUnconfirmed_of_wrong _ contest w cands f hf0 _ hwrong)

/-! ### in the words of a risk-limiting audit: several contests, any of them wrong -/

/-- what a contest of the audit is about: its social choice function with the reported outcome -/
inductive ContestKind where
  /-- plurality / approval: contest id on the cards, reported winners, reported losers -/
  | plurality (contest : String) (W L : List String)
  /-- super-majority: contest id, reported winner, the candidates among which a valid vote is counted, the share -/
  | supermajority (contest w : String) (cands : List String) (f : ℚ)

/-- the id under which the cards carry the contest's marks -/
def ContestKind.contest : ContestKind → String
  | .plurality contest _ _ => contest
  | .supermajority contest _ _ _ => contest

/-- the reported outcome of a contest of either kind is not what a full hand count of the ballots `B` gives -/
def ReportedOutcomeWrong : ContestKind → List CVR → Prop
  | .plurality contest W L, B => PluralityOutcomeWrong contest W L B
  | .supermajority contest w cands f, B => SupermajorityOutcomeWrong contest w cands f B

/-- the found ballots `F` do not confirm the reported outcome when `lost` further records are scored 0: what a
comparison audit can see of a wrong outcome -/
def ReportedOutcomeUnconfirmed (lost : Nat) : ContestKind → List CVR → Prop
  | .plurality contest W L, F => PluralityOutcomeUnconfirmed lost contest W L F
  | .supermajority contest w cands f, F => SupermajorityOutcomeUnconfirmed lost contest w cands f F

/-- contest `c` carries the polling assertions `make_all_assertions` builds for its kind (population of `n` cards) -/
def PollingAudited (data : String → String → CVR → ℚ) (T : String → String → SeqTest) (c : Contest) (n : Nat) :
    ContestKind → Prop
  | .plurality contest W L => ∀ w ∈ W, ∀ l ∈ L, PollingAssertion data T c n (plurality contest w l) 1
  | .supermajority contest w cands f =>
      0 < f ∧ f < 1 ∧ PollingAssertion data T c n (supermajority contest w cands f) (superUpper f)

/-- contest `c` carries the comparison / ONEAudit assertions of its kind -/
def ComparisonAudited {α : Type} (ballot : α → CVR) (cards : List α) (useStyle : Bool) (listed : α → Bool)
    (data : String → String → α → Option ℚ) (T : String → String → SeqTest) (c : Contest) : ContestKind → Prop
  | .plurality contest W L => ∀ w ∈ W, ∀ l ∈ L,
      ComparisonAssertion ballot cards contest useStyle listed data T c (plurality contest w l) 1
  | .supermajority contest w cands f =>
      0 < f ∧ f < 1 ∧
        ComparisonAssertion ballot cards contest useStyle listed data T c (supermajority contest w cands f)
          (superUpper f)

theorem unconfirmed_of_wrong (lost : Nat) (kind : ContestKind) (F : List CVR)
    (hf : ∀ contest w cands f, kind = .supermajority contest w cands f → 0 < f)
    (h : ReportedOutcomeWrong kind F) : ReportedOutcomeUnconfirmed lost kind F := by
  cases kind with
  | plurality contest W L => exact pluralityUnconfirmed_of_wrong lost contest W L F h
  | supermajority contest w cands f =>
    exact supermajorityUnconfirmed_of_wrong lost contest w cands f (hf contest w cands f rfl) F h

/-- **One contest of a polling audit has a wrong reported outcome** (whatever its social choice function among
plurality / approval / super-majority): the audit — of ALL the contests in `s` — is ever reported complete with
probability at most THAT contest's risk limit.  Nothing is assumed about the other contests. -/
theorem wrong_outcome_polling_risk_limit (data : String → String → CVR → ℚ)
    (T : String → String → SeqTest) (s : State) (c : Contest) (hc : c ∈ s) (B : List CVR) (kind : ContestKind)
    (haud : PollingAudited data T c B.length kind)
    (hr0 : 0 < c.riskLimit) (hr1 : c.riskLimit < 1)
    (hwrong : ReportedOutcomeWrong kind B) :
    hitG (auditComplete data T s) B.length B [] ≤ c.riskLimit := by
  cases kind with
  | plurality contest W L =>
    exact plurality_outcome_polling_risk_limit data T s c hc B contest W L haud hr0 hr1 hwrong
  | supermajority contest w cands f =>
    exact supermajority_outcome_polling_risk_limit data T s c hc B contest w cands f haud.1 haud.2.1 haud.2.2 hr0 hr1
      hwrong

/-- **One contest of a comparison / ONEAudit audit has a reported outcome that cannot be confirmed from the found
ballots of its cards under audit** (in particular: that is wrong on them). -/
theorem wrong_outcome_comparison_risk_limit {α : Type} (ballot : α → CVR) (cards : List α)
    (useStyle : Bool) (listed : α → Bool)
    (data : String → String → α → Option ℚ) (T : String → String → SeqTest) (s : State)
    (c : Contest) (hc : c ∈ s) (kind : ContestKind)
    (haud : ComparisonAudited ballot cards useStyle listed data T c kind)
    (hr0 : 0 < c.riskLimit) (hr1 : c.riskLimit < 1)
    (hwrong : ReportedOutcomeUnconfirmed (lostOf useStyle kind.contest ballot listed cards) kind
      (foundOf useStyle kind.contest ballot listed cards)) :
    hitG (auditCompleteOpt data T s) cards.length cards [] ≤ c.riskLimit := by
  cases kind with
  | plurality contest W L =>
    exact plurality_outcome_comparison_risk_limit ballot cards contest W L useStyle listed data T s c hc haud hr0 hr1
      hwrong
  | supermajority contest w cands f =>
    exact supermajority_outcome_comparison_risk_limit ballot cards contest w cands f haud.1 haud.2.1 useStyle listed
      data T s c hc haud.2.2 hr0 hr1 hwrong

/-- the largest risk limit among the contests of the audit (0 for no contest) -/
def maxRiskLimit (s : State) : ℚ := s.foldr (fun c m => max c.riskLimit m) 0

theorem riskLimit_le_max (s : State) (c : Contest) (hc : c ∈ s) : c.riskLimit ≤ maxRiskLimit s := by
  induction s with
  | nil => cases hc
  | cons d s ih =>
    unfold maxRiskLimit
    rw [List.foldr_cons]
    rcases List.mem_cons.mp hc with rfl | h
    · exact le_max_left _ _
    · exact le_trans (ih h) (le_max_right _ _)

theorem le_maxRiskLimit_of_exists {P : Contest → Prop} {x : ℚ} {s : State}
    (h : ∀ c ∈ s, P c → x ≤ c.riskLimit) (hP : ∃ c ∈ s, P c) : x ≤ maxRiskLimit s :=
  let ⟨c, hc, hw⟩ := hP; le_trans (h c hc hw) (riskLimit_le_max s c hc)

/-- **The risk limit of a ballot-polling audit of several contests.**  `kind c` describes each contest (social choice
function, reported outcome); every contest carries the assertions `make_all_assertions` builds for it and has its
risk limit in `(0,1)`.  If the reported outcome of ANY contest is wrong on the cards cast, the audit is ever reported
complete with probability at most that contest's risk limit — hence at most the largest risk limit of the audit.
(`haud` and `hr` are used for the wrong contest only: `wrong_outcome_polling_risk_limit`.) -/
theorem audit_polling_risk_limit (data : String → String → CVR → ℚ)
    (T : String → String → SeqTest) (s : State) (B : List CVR) (kind : Contest → ContestKind)
    (haud : ∀ c ∈ s, PollingAudited data T c B.length (kind c))
    (hr : ∀ c ∈ s, 0 < c.riskLimit ∧ c.riskLimit < 1)
    (hwrong : ∃ c ∈ s, ReportedOutcomeWrong (kind c) B) :
    (∀ c ∈ s, ReportedOutcomeWrong (kind c) B →
        hitG (auditComplete data T s) B.length B [] ≤ c.riskLimit) ∧
      hitG (auditComplete data T s) B.length B [] ≤ maxRiskLimit s :=
  have h := fun c hc hw =>
    wrong_outcome_polling_risk_limit data T s c hc B (kind c) (haud c hc) (hr c hc).1 (hr c hc).2 hw
  ⟨h, le_maxRiskLimit_of_exists h hwrong⟩

/-- **The risk limit of a card-level comparison / ONEAudit audit of several contests** (each contest with its own
style flag and its own "the CVR lists me"). -/
theorem audit_comparison_risk_limit {α : Type} (ballot : α → CVR) (cards : List α)
    (useStyle : Contest → Bool) (listed : Contest → α → Bool)
    (data : String → String → α → Option ℚ) (T : String → String → SeqTest) (s : State)
    (kind : Contest → ContestKind)
    (haud : ∀ c ∈ s, ComparisonAudited ballot cards (useStyle c) (listed c) data T c (kind c))
    (hr : ∀ c ∈ s, 0 < c.riskLimit ∧ c.riskLimit < 1)
    (hwrong : ∃ c ∈ s, ReportedOutcomeUnconfirmed (lostOf (useStyle c) (kind c).contest ballot (listed c) cards)
      (kind c) (foundOf (useStyle c) (kind c).contest ballot (listed c) cards)) :
    (∀ c ∈ s, ReportedOutcomeUnconfirmed (lostOf (useStyle c) (kind c).contest ballot (listed c) cards)
        (kind c) (foundOf (useStyle c) (kind c).contest ballot (listed c) cards) →
        hitG (auditCompleteOpt data T s) cards.length cards [] ≤ c.riskLimit) ∧
      hitG (auditCompleteOpt data T s) cards.length cards [] ≤ maxRiskLimit s :=
  have h := fun c hc hw =>
    wrong_outcome_comparison_risk_limit ballot cards (useStyle c) (listed c) data T s c hc (kind c) (haud c hc)
      (hr c hc).1 (hr c hc).2 hw
  ⟨h, le_maxRiskLimit_of_exists h hwrong⟩

/-! ### contests audited by different methods in one audit

`con.audit_type` is an attribute of the contest: one audit can poll some contests and compare others.  On a population
of cards of any type `α` (a card gives its manual record `ballot x`), a polling assertion uses EVERY drawn card
(`mvrs_to_data` L1664-1669: "assume style information is irrelevant") — its datum is `some (assort (ballot x))`. -/

/-- `PollingAssertion` on cards of any type, for `auditCompleteOpt` -/
def PollingAssertionCards {α : Type} (ballot : α → CVR) (data : String → String → α → Option ℚ)
    (T : String → String → SeqTest) (c : Contest) (n : Nat) (assort : CVR → ℚ) (u : ℚ) : Prop :=
  ∃ a ∈ c.assertions, (data c.id a.name = fun x => some (assort (ballot x))) ∧
    ∃ (sqrtF : ℚ → ℚ) (cfg : NM.Cfg) (test : NM.Test),
      cfg.N = some n ∧ cfg.t = 1 / 2 ∧ cfg.u = u ∧
      T c.id a.name = NM.run sqrtF cfg test ∧ C01.DocumentedFinite sqrtF cfg test

theorem PollingAssertion.cards {α : Type} {data : String → String → CVR → ℚ} {T : String → String → SeqTest}
    {c : Contest} {n : Nat} {assort : CVR → ℚ} {u : ℚ} (h : PollingAssertion data T c n assort u) (ballot : α → CVR) :
    PollingAssertionCards ballot (fun cid name x => some (data cid name (ballot x))) T c n assort u := by
  obtain ⟨a, ha, hdata, rest⟩ := h
  exact ⟨a, ha, hdata ▸ rfl, rest⟩

theorem polling_cards_risk_limit {α : Type} (ballot : α → CVR) (cards : List α)
    (data : String → String → α → Option ℚ) (T : String → String → SeqTest) (s : State)
    (c : Contest) (hc : c ∈ s) (assort : CVR → ℚ) (u : ℚ)
    (hasn : PollingAssertionCards ballot data T c cards.length assort u)
    (hr0 : 0 < c.riskLimit) (hr1 : c.riskLimit < 1)
    (hrange : ∀ b, 0 ≤ assort b ∧ assort b ≤ u)
    (hnull : ((cards.map ballot).map assort).sum ≤ ((cards.map ballot).length : ℚ) * (1 / 2)) :
    hitG (auditCompleteOpt data T s) cards.length cards [] ≤ c.riskLimit := by
  obtain ⟨a, ha, hdata, sqrtF, cfg, test, hN, ht, hu, hT, hdoc⟩ := hasn
  have hD : cards.filterMap (data c.id a.name) = (cards.map ballot).map assort := by
    rw [hdata, List.map_map]
    exact congrFun (List.filterMap_eq_map' (f := fun x => assort (ballot x))) cards
  apply audit_risk_limit_style_run data T s c hc a ha cards sqrtF cfg test _ hT hdoc hr0 hr1
  · rw [hD, hu]
    exact List.forall_mem_map.2 fun b _ => hrange b
  · rw [hD, ht, List.length_map]
    exact hnull
  · rw [hD, List.length_map, List.length_map]
    exact hN

/-- `Contest.audit_type`: how the data of the contest's assertions are read off a drawn card -/
inductive AuditMethod (α : Type) where
  /-- ballot polling: every drawn card is used -/
  | polling
  /-- card-level comparison or ONEAudit, with the contest's style flag and "the card's CVR lists the contest" -/
  | comparison (useStyle : Bool) (listed : α → Bool)

/-- contest `c` carries the assertions of its kind, set up for its audit method -/
def AuditedBy {α : Type} (ballot : α → CVR) (cards : List α) (data : String → String → α → Option ℚ)
    (T : String → String → SeqTest) (c : Contest) : AuditMethod α → ContestKind → Prop
  | .polling, .plurality contest W L => ∀ w ∈ W, ∀ l ∈ L,
      PollingAssertionCards ballot data T c cards.length (plurality contest w l) 1
  | .polling, .supermajority contest w cands f =>
      0 < f ∧ f < 1 ∧
        PollingAssertionCards ballot data T c cards.length (supermajority contest w cands f) (superUpper f)
  | .comparison useStyle listed, kind => ComparisonAudited ballot cards useStyle listed data T c kind

/-- the reported outcome is wrong, as the contest's audit method can see it: polling — on the cards cast;
comparison — cannot be confirmed from the found ballots of the cards under audit -/
def OutcomeWrongFor {α : Type} (ballot : α → CVR) (cards : List α) : AuditMethod α → ContestKind → Prop
  | .polling, kind => ReportedOutcomeWrong kind (cards.map ballot)
  | .comparison useStyle listed, kind =>
      ReportedOutcomeUnconfirmed (lostOf useStyle kind.contest ballot listed cards) kind
        (foundOf useStyle kind.contest ballot listed cards)

theorem wrong_outcome_risk_limit {α : Type} (ballot : α → CVR) (cards : List α)
    (data : String → String → α → Option ℚ) (T : String → String → SeqTest) (s : State)
    (c : Contest) (hc : c ∈ s) (method : AuditMethod α) (kind : ContestKind)
    (haud : AuditedBy ballot cards data T c method kind)
    (hr0 : 0 < c.riskLimit) (hr1 : c.riskLimit < 1)
    (hwrong : OutcomeWrongFor ballot cards method kind) :
    hitG (auditCompleteOpt data T s) cards.length cards [] ≤ c.riskLimit := by
  cases method with
  | comparison useStyle listed =>
    exact wrong_outcome_comparison_risk_limit ballot cards useStyle listed data T s c hc kind haud hr0 hr1 hwrong
  | polling =>
    cases kind with
    | plurality contest W L =>
      obtain ⟨w, hw, l, hl, hle⟩ := (pluralityOutcomeWrong_iff_pair contest W L _).1 hwrong
      refine polling_cards_risk_limit ballot cards data T s c hc (plurality contest w l) 1 (haud w hw l hl) hr0 hr1
        (plurality_range contest w l)
        (plurality_null contest w l _ hle)
    | supermajority contest w cands f =>
      obtain ⟨hf0, hf1, hasn⟩ := haud
      exact polling_cards_risk_limit ballot cards data T s c hc (supermajority contest w cands f) (superUpper f)
        hasn hr0 hr1 (C02.assort_range_super contest w cands f hf0 hf1)
        (supermajority_null contest w cands f hf0 _ (not_lt.mp hwrong))

/-- **The risk limit of an audit of several contests, each with its own social choice function (plurality / approval
/ super-majority), reported outcome, audit method (polling / comparison / ONEAudit, style or not) and risk limit.**
If the reported outcome of ANY contest is wrong — polling: on the cards cast; comparison: not confirmable from the found
ballots of its cards under audit — the probability, over the orders in which the cards are drawn, that the audit is EVER
reported complete is at most that contest's risk limit, hence at most the largest risk limit of the audit. -/
theorem audit_outcome_risk_limit {α : Type} (ballot : α → CVR) (cards : List α)
    (data : String → String → α → Option ℚ) (T : String → String → SeqTest) (s : State)
    (method : Contest → AuditMethod α) (kind : Contest → ContestKind)
    (haud : ∀ c ∈ s, AuditedBy ballot cards data T c (method c) (kind c))
    (hr : ∀ c ∈ s, 0 < c.riskLimit ∧ c.riskLimit < 1)
    (hwrong : ∃ c ∈ s, OutcomeWrongFor ballot cards (method c) (kind c)) :
    (∀ c ∈ s, OutcomeWrongFor ballot cards (method c) (kind c) →
        hitG (auditCompleteOpt data T s) cards.length cards [] ≤ c.riskLimit) ∧
      hitG (auditCompleteOpt data T s) cards.length cards [] ≤ maxRiskLimit s :=
  have h := fun c hc hw =>
    wrong_outcome_risk_limit ballot cards data T s c hc (method c) (kind c) (haud c hc) (hr c hc).1 (hr c hc).2 hw
  ⟨h, le_maxRiskLimit_of_exists h hwrong⟩

/-! ### non-vacuity

Contest "AvB", vote for up to two of `a, b, c`; reported winners `a, b`, reported loser `c`.  Five cards were cast:
`{a,b}`, `{a,c}`, `{a}`, `{b}`, `{c}` — `a` has 3 marks, `b` has 2 and so has `c`: the third candidate TIES the second,
the reported outcome is wrong (cannot be confirmed).  `make_plurality_assertions` builds `a v c` and `b v c`
(`Assertion.make_all_assertions` on the real `Contest`: keys `['a v c', 'b v c']`, `test.N = 5`, `t = 1/2`, `u = 1`). -/

section example_
open Shangrla.NM

def k2Ballot (id : String) (m : Marks) : CVR := { id := id, votes := [("AvB", m)] }

/-- the cards cast -/
def B2 : List CVR :=
  [k2Ballot "1" [("a", .b true), ("b", .b true)], k2Ballot "2" [("a", .b true), ("c", .b true)],
   k2Ballot "3" [("a", .b true)], k2Ballot "4" [("b", .b true)], k2Ballot "5" [("c", .b true)]]

def cfg2 : Cfg := { N := some 5, u := 1, t := 1/2, randomOrder := true, kw := { eta := some (3/4) } }
def data2 : String → String → CVR → ℚ :=
  fun _ name => if name = "a v c" then plurality "AvB" "a" "c" else plurality "AvB" "b" "c"
def T2 : String → String → SeqTest := fun _ _ => NM.run sqrtRat cfg2 (.alpha .fixedAlt)
def c2 : Contest :=
  { id := "AvB", riskLimit := 3/5, assertions := [{ name := "a v c" }, { name := "b v c" }],
    nWinners := 2, candidates := some ["a", "b", "c"], winner := some ["a", "b"] }
def s2 : State := [c2]

example : C02.marks "AvB" "a" B2 = 3 ∧ C02.marks "AvB" "b" B2 = 2 ∧ C02.marks "AvB" "c" B2 = 2 := by decide +kernel

/-- the reported outcome `{a, b}` is wrong: `c` has as many marks as `b` -/
theorem example_k2_wrong : PluralityOutcomeWrong "AvB" ["a", "b"] ["c"] B2 :=
  (pluralityOutcomeWrong_iff_pair _ _ _ _).2 ⟨"b", by simp, "c", by simp, by decide +kernel⟩

/-- the losers are what `make_all_assertions` computes (L2186), and the assertion names are the dict keys -/
example : Assorter.losers ["a", "b", "c"] ["a", "b"] = ["c"] ∧
    c2.assertions.map (·.name) = ["a" ++ " v " ++ "c", "b" ++ " v " ++ "c"] := by decide

/-- `hall`: both pairs have their assertion, tested by ALPHA (`fixed_alternative_mean`, `eta = 3/4`) with `N = 5` -/
theorem example_k2_hall : ∀ w ∈ ["a", "b"], ∀ l ∈ ["c"],
    PollingAssertion data2 T2 c2 B2.length (plurality "AvB" w l) 1 := by
  have hdoc : C01.DocumentedFinite sqrtRat cfg2 (.alpha .fixedAlt) :=
    documentedFinite_alpha_fixed (by decide +kernel) rfl rfl
  intro w hw l hl
  simp only [List.mem_cons, List.not_mem_nil, or_false] at hw hl
  subst hl
  rcases hw with rfl | rfl
  · exact ⟨{ name := "a v c" }, by decide +kernel, rfl, sqrtRat, cfg2, _, rfl, rfl, rfl, rfl, hdoc⟩
  · exact ⟨{ name := "b v c" }, by decide +kernel, rfl, sqrtRat, cfg2, _, rfl, rfl, rfl, rfl, hdoc⟩

/-- every hypothesis of `plurality_outcome_polling_risk_limit` is satisfied -/
example : hitG (auditComplete data2 T2 s2) 5 B2 [] ≤ 3/5 :=
  plurality_outcome_polling_risk_limit data2 T2 s2 c2 (List.mem_singleton.2 rfl) B2 "AvB" ["a", "b"] ["c"]
    example_k2_hall (by decide +kernel) (by decide +kernel) example_k2_wrong

/-- every hypothesis of `audit_polling_risk_limit` is satisfied -/
example : hitG (auditComplete data2 T2 s2) 5 B2 [] ≤ maxRiskLimit s2 :=
  (audit_polling_risk_limit data2 T2 s2 B2 (fun _ => .plurality "AvB" ["a", "b"] ["c"])
    (by intro c hc; rw [List.mem_singleton.1 hc]; exact example_k2_hall)
    (by intro c hc; rw [List.mem_singleton.1 hc]; decide +kernel)
    ⟨c2, List.mem_singleton.2 rfl, example_k2_wrong⟩).2

/-- the bounded event really happens: although `c` tied `b`, over the 120 orders of the five cards the audit is
reported complete (BOTH assertions' p-values at most 3/5 at the same look) with probability 3/10 — below 3/5 -/
theorem example_outcome_polling_exact : hitG (auditComplete data2 T2 s2) 5 B2 [] = 3/10 := by
  -- the assertion that is seldom confirmed first: `&&` then skips the other test at most nodes of the tree
  have hev : auditComplete data2 T2 s2 = fun h => pLe (T2 "AvB" "b v c") (3/5) (h.map (data2 "AvB" "b v c"))
      && pLe (T2 "AvB" "a v c") (3/5) (h.map (data2 "AvB" "a v c")) := by
    funext h
    rw [auditComplete_eq]
    simp only [s2, c2, List.all_cons, List.all_nil, Bool.and_true]
    rw [decide_eq_true (by decide +kernel : (0 : ℚ) ≤ 3/5), Bool.true_and, Bool.and_comm]
  rw [hev]
  decide +kernel

/-! the same contest under a card-level comparison audit (no style, no pools).  The machine misread card 5 as `{b}`:
the CVRs say `a` 3, `b` 3, `c` 1 — both reported margins are 2/5, test bound 5/4.  The manual records are `B2`.  Each
assertion reads its own `Cvr` off the card (`cvAC`, `cvBC`: the reported assorter values differ). -/

/-- what the machine reported -/
def R2 : List CVR :=
  [k2Ballot "1" [("a", .b true), ("b", .b true)], k2Ballot "2" [("a", .b true), ("c", .b true)],
   k2Ballot "3" [("a", .b true)], k2Ballot "4" [("b", .b true)], k2Ballot "5" [("b", .b true)]]

/-- a card: its true ballot and the machine's record of it -/
def cards2 : List (CVR × CVR) := B2.zip R2
def cvAC (x : CVR × CVR) : Cvr := cvrOf (plurality "AvB" "a" "c") "AvB" false none 0 x.2
def cvBC (x : CVR × CVR) : Cvr := cvrOf (plurality "AvB" "b" "c") "AvB" false none 0 x.2
def cfgC2 : Cfg := { N := some 5, u := 5/4, t := 1/2, randomOrder := true, kw := { eta := some 1 } }
def dataC2 : String → String → CVR × CVR → Option ℚ :=
  fun _ name x => if name = "a v c"
    then cardDatum .cardComparison false (XR.fin (2/5)) 1 none (mvrOf (plurality "AvB" "a" "c") "AvB" x.1, cvAC x)
    else cardDatum .cardComparison false (XR.fin (2/5)) 1 none (mvrOf (plurality "AvB" "b" "c") "AvB" x.1, cvBC x)
def TC2 : String → String → SeqTest := fun _ _ => NM.run sqrtRat cfgC2 (.alpha .fixedAlt)

example : C02.marks "AvB" "a" R2 = 3 ∧ C02.marks "AvB" "b" R2 = 3 ∧ C02.marks "AvB" "c" R2 = 1 ∧
    cards2.map (dataC2 "AvB" "a v c") = [some (5/8), some (5/8), some (5/8), some (5/8), some (5/16)] ∧
    cards2.map (dataC2 "AvB" "b v c") = [some (5/8), some (5/8), some (5/8), some (5/8), some 0] := by
  decide +kernel

/-- all five cards are under audit and were found: the found ballots are the cards cast -/
theorem example_k2_found : foundOf false "AvB" Prod.fst (fun _ => true) cards2 = B2 := rfl

example : lostOf false "AvB" Prod.fst (fun _ => true) cards2 = 0 := by decide +kernel

theorem example_k2_hall_comparison : ∀ w ∈ ["a", "b"], ∀ l ∈ ["c"],
    ComparisonAssertion Prod.fst cards2 "AvB" false (fun _ => true) dataC2 TC2 c2 (plurality "AvB" w l) 1 := by
  have hdoc : C01.DocumentedFinite sqrtRat cfgC2 (.alpha .fixedAlt) :=
    documentedFinite_alpha_fixed (by decide +kernel) rfl rfl
  intro w hw l hl
  simp only [List.mem_cons, List.not_mem_nil, or_false] at hw hl
  subst hl
  rcases hw with rfl | rfl
  · exact ⟨{ name := "a v c" }, by decide +kernel, cvAC, .cardComparison, none, XR.fin (2/5), XR.fin (5/4),
      sqrtRat, cfgC2, _, by decide +kernel, Or.inl rfl, MeansFrom.unset, by decide +kernel, by decide +kernel,
      by decide +kernel, by decide +kernel, rfl, by decide +kernel, rfl, rfl, rfl, hdoc⟩
  · exact ⟨{ name := "b v c" }, by decide +kernel, cvBC, .cardComparison, none, XR.fin (2/5), XR.fin (5/4),
      sqrtRat, cfgC2, _, by decide +kernel, Or.inl rfl, MeansFrom.unset, by decide +kernel, by decide +kernel,
      by decide +kernel, by decide +kernel, rfl, by decide +kernel, rfl, rfl, rfl, hdoc⟩

/-- every hypothesis of `plurality_outcome_comparison_risk_limit_found` is satisfied -/
example : hitG (auditCompleteOpt dataC2 TC2 s2) 5 cards2 [] ≤ 3/5 :=
  plurality_outcome_comparison_risk_limit_found Prod.fst cards2 "AvB" ["a", "b"] ["c"] false (fun _ => true)
    dataC2 TC2 s2 c2 (List.mem_singleton.2 rfl) example_k2_hall_comparison (by decide +kernel) (by decide +kernel)
    (by rw [example_k2_found]; exact example_k2_wrong)

/-- the comparison audit is reported complete with probability exactly 2/5 over the 120 orders -/
theorem example_outcome_comparison_exact : hitG (auditCompleteOpt dataC2 TC2 s2) 5 cards2 [] = 2/5 := by
  -- the view of a card: its data for the two assertions, computed once
  have hd : cards2.filterMap (fun x => some (dataC2 "AvB" "a v c" x, dataC2 "AvB" "b v c" x))
      = [(some (5/8), some (5/8)), (some (5/8), some (5/8)), (some (5/8), some (5/8)), (some (5/8), some (5/8)),
         (some (5/16), some 0)] := by decide +kernel
  refine (hitG_auditCompleteOpt_bind (fun x => some (dataC2 "AvB" "a v c" x, dataC2 "AvB" "b v c" x))
    (fun _ n p => if n = "a v c" then p.1 else p.2) TC2 s2 cards2).trans ?_
  rw [hd]
  decide +kernel

/-! `audit_outcome_risk_limit` on the same five cards: once with the contest compared, once with it polled (the polling
data on a card `(ballot, CVR)` being `some` of the assorter of the ballot) -/

example : hitG (auditCompleteOpt dataC2 TC2 s2) 5 cards2 [] ≤ maxRiskLimit s2 :=
  (audit_outcome_risk_limit Prod.fst cards2 dataC2 TC2 s2 (fun _ => .comparison false (fun _ => true))
    (fun _ => .plurality "AvB" ["a", "b"] ["c"])
    (by intro c hc; rw [List.mem_singleton.1 hc]; exact example_k2_hall_comparison)
    (by intro c hc; rw [List.mem_singleton.1 hc]; decide +kernel)
    ⟨c2, List.mem_singleton.2 rfl, pluralityUnconfirmed_of_wrong _ "AvB" ["a", "b"] ["c"]
      (foundOf false "AvB" Prod.fst (fun _ => true) cards2) (by rw [example_k2_found]; exact example_k2_wrong)⟩).2

def dataP2 : String → String → CVR × CVR → Option ℚ := fun cid name x => some (data2 cid name x.1)

example : hitG (auditCompleteOpt dataP2 T2 s2) 5 cards2 [] ≤ maxRiskLimit s2 :=
  (audit_outcome_risk_limit Prod.fst cards2 dataP2 T2 s2 (fun _ => .polling)
    (fun _ => .plurality "AvB" ["a", "b"] ["c"])
    (by intro c hc; rw [List.mem_singleton.1 hc]; exact fun w hw l hl => (example_k2_hall w hw l hl).cards Prod.fst)
    (by intro c hc; rw [List.mem_singleton.1 hc]; decide +kernel)
    ⟨c2, List.mem_singleton.2 rfl,
      (show PluralityOutcomeWrong "AvB" ["a", "b"] ["c"] (cards2.map Prod.fst) from example_k2_wrong)⟩).2

end example_

end Shangrla.RiskLimit
