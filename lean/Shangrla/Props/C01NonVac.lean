/-
C01 — non-vacuity: the event bounded by the C01 theorems actually happens.

For a concrete boundary-null population (mean exactly `t`) and a concrete null law, the exact probability
that some reported p-value is at most `alpha = 3/5` is computed by the kernel (`decide +kernel`, no axioms).
The values stated (`5/12`, `1/12`, `1/2`, `21/64`) are positive (the theorems do not bound an impossible
event) and at most `alpha` (as they say).
These are tests of the definitions, not instances of the general claim.
-/
import Shangrla.Props.C01Any

namespace Shangrla.C01.NonVac
open Shangrla Shangrla.NM Shangrla.C01 Shangrla.Ville

def cfgA : Cfg := { N := some 4, u := 1, t := 1/2, randomOrder := true, kw := { eta := some (3/4) } }
def cfgB : Cfg := { N := some 4, u := 1, t := 1/2, randomOrder := true, kw := { lam := some (3/4) } }
def cfgK : Cfg := { N := some 4, u := 1, t := 1/2, randomOrder := true, kw := { g := some (1/10) } }
def cfgI : Cfg := { N := none, u := 1, t := 1/2, randomOrder := true, kw := {} }

theorem alpha_risk_exact :
    hitEv (reportedAny cfgA (fixedAlternativeMean cfgA) (3/5)) 4 [1, 0, 1/2, 1/2] [] = 5/12 := by decide +kernel

theorem betting_risk_exact :
    hitEv (reportedAnyB cfgB (fixedBet cfgB) (3/5)) 4 [1, 0, 1/2, 1/2] [] = 1/12 := by decide +kernel

theorem kk_risk_exact :
    hitEv (reportedAnyKK cfgK (3/5)) 4 [1, 0, 1/2, 1/2] [] = 1/2 := by decide +kernel

theorem sprt_risk_exact :
    hitEv (reportedAnySprt cfgA (3/5)) 4 [1, 0, 1/2, 1/2] [] = 5/12 := by decide +kernel

theorem km_risk_exact :
    hitIID [(0, 1/2), (1/2, 1/4), (1, 1/4)] (reportedAnyKM cfgI (3/5)) 3 [] = 21/64 := by decide +kernel

theorem kw_risk_exact :
    hitIID [(0, 1/2), (1/2, 1/4), (1, 1/4)] (reportedAnyKW cfgI (3/5)) 3 [] = 21/64 := by decide +kernel

end Shangrla.C01.NonVac
