/-
  C18 — merging records for one card loses nothing and keeps its flags meaningful.

  Theorems are about `Shangrla.Merge.mergeCvrs` and `Shangrla.Merge.fromRaire`, the literal models of
  `CVR.merge_cvrs` and `CVR.from_raire` (shangrla/core/Audit.py) that the driver executes: what the merged record of a
  card holds (identifiers, contests and votes, `phantom`, `pool`, `tally_pool`), when merging raises, and which records
  `from_raire` builds from the rows and merges.  All statements
  hold for arbitrary input lists (any length, any repetition of identifiers, any overlap of contests, any
  flags); the only hypothesis anywhere is, in `merge_votes`, that the input vote dicts are dicts (an association
  list with distinct keys) — a representation invariant, not a restriction of the inputs.

  The group of a card, `group l i`, is the records of `l` with identifier `i`, in list order.  Its last vote in a
  contest, `lastVote`, is the whole vote dict of the last record of the group that lists the contest: a later record
  replaces a contest's votes wholesale, nothing is merged candidate by candidate.

  Trap: `merge_cvrs` and `from_raire` have a second, independent model in Model/IrvBallot.lean, the one C14 is
  about; nothing proved here transfers to it.

  Core Lean only (no Mathlib).
-/
import Shangrla.Model.Merge
import Shangrla.Lemmas.Except

namespace Shangrla.C18
open Shangrla.Merge

/-! ### first-appearance order -/

section FA
variable {α : Type} [DecidableEq α]

/-- the distinct elements of a list in order of first appearance -/
def firstAppear : List α → List α
  | [] => []
  | x :: xs => x :: (firstAppear xs).filter (fun y => y != x)

/-- what the loop of `merge_cvrs` does to the key list of its `OrderedDict` at a record with id `x`
(`keys_dset`); folding it over the ids gives `firstAppear` -/
def addKey (acc : List α) (x : α) : List α := if x ∈ acc then acc else acc ++ [x]

theorem foldl_addKey (xs acc : List α) :
    xs.foldl addKey acc = acc ++ (firstAppear xs).filter (fun y => !acc.contains y) := by
  induction xs generalizing acc with
  | nil => simp [firstAppear]
  | cons x xs ih =>
    rw [List.foldl_cons, ih, firstAppear, List.filter_cons, List.filter_filter, addKey]
    by_cases hx : x ∈ acc
    · simp only [hx, if_true, List.contains_eq_mem, decide_true, Bool.not_true, Bool.false_eq_true, if_false]
      congr 1
      apply List.filter_congr
      intro y _
      by_cases hy : y ∈ acc
      · simp [hy]
      · simp [hy, show y ≠ x from fun e => hy (e ▸ hx)]
    · simp [hx, Bool.and_comm, bne]; rfl

theorem mem_firstAppear (xs : List α) (y : α) : y ∈ firstAppear xs ↔ y ∈ xs := by
  induction xs with
  | nil => simp [firstAppear]
  | cons x xs ih =>
    simp only [firstAppear, List.mem_cons, List.mem_filter, ih]
    by_cases h : y = x <;> simp [h]

theorem firstAppear_sublist (xs : List α) : (firstAppear xs).Sublist xs := by
  induction xs with
  | nil => exact List.Sublist.slnil
  | cons x xs ih => exact (List.filter_sublist.trans ih).cons_cons x

theorem firstAppear_nodup (xs : List α) : (firstAppear xs).Nodup := by
  induction xs with
  | nil => simp [firstAppear]
  | cons x xs ih =>
    simp only [firstAppear, List.nodup_cons, List.mem_filter]
    refine ⟨by simp, ih.sublist List.filter_sublist⟩

end FA

/-! ### association-list dictionaries: `dget`, `dset`, `keys`, `dictMerge` -/

section Dict
variable {κ β : Type} [DecidableEq κ]

theorem dget_dset (d : List (κ × β)) (k : κ) (v : β) (k' : κ) :
    dget (dset d k v) k' = if k = k' then some v else dget d k' := by
  induction d with
  | nil => simp [dset, dget]
  | cons a d ih =>
    obtain ⟨k0, v0⟩ := a
    by_cases h : k0 = k
    · subst h; by_cases h' : k0 = k' <;> simp [dset, dget, h']
    · by_cases h' : k0 = k'
      · subst h'
        simp [dset, dget, h, Ne.symm h]
      · simp [dset, dget, h, h', ih]

theorem keys_dset (d : List (κ × β)) (k : κ) (v : β) :
    keys (dset d k v) = if k ∈ keys d then keys d else keys d ++ [k] := by
  induction d with
  | nil => simp [dset, keys]
  | cons a d ih =>
    obtain ⟨k0, v0⟩ := a
    simp only [keys] at ih
    by_cases h : k0 = k
    · simp [dset, keys, h]
    · by_cases hm : k ∈ List.map Prod.fst d <;> simp [dset, keys, h, Ne.symm h, hm, ih]

theorem nodup_keys_dset (d : List (κ × β)) (k : κ) (v : β) (h : (keys d).Nodup) : (keys (dset d k v)).Nodup := by
  rw [keys_dset]
  split
  · exact h
  · next hk =>
    exact List.nodup_append.2 ⟨h, List.pairwise_singleton _ k,
      fun a ha b hb e => hk (List.mem_singleton.1 hb ▸ e ▸ ha)⟩

theorem dget_eq_none_iff (d : List (κ × β)) (k : κ) : dget d k = none ↔ k ∉ keys d := by
  induction d with
  | nil => simp [dget, keys]
  | cons a d ih =>
    rw [dget, keys, List.map_cons, List.mem_cons, not_or, ← keys, ← ih]
    split
    · next h => simp [h]
    · next h => simp [Ne.symm h]

theorem dget_of_mem (d : List (κ × β)) (hnd : (keys d).Nodup) (k : κ) (v : β) (h : (k, v) ∈ d) :
    dget d k = some v := by
  induction d with
  | nil => simp at h
  | cons a d ih =>
    obtain ⟨k0, v0⟩ := a
    simp only [keys, List.map_cons, List.nodup_cons] at hnd
    rcases List.mem_cons.1 h with h | h
    · cases h; simp [dget]
    · have : k0 ≠ k := by
        intro e; subst e
        exact hnd.1 (List.mem_map.2 ⟨(k0, v), h, rfl⟩)
      simp only [dget, this, if_false]
      exact ih hnd.2 h

theorem mem_of_dget (d : List (κ × β)) (k : κ) (v : β) (h : dget d k = some v) : (k, v) ∈ d := by
  induction d with
  | nil => simp [dget] at h
  | cons a d ih =>
    obtain ⟨k0, v0⟩ := a
    by_cases e : k0 = k
    · subst e; simp [dget] at h; simp [h]
    · simp only [dget, e, if_false] at h
      exact List.mem_cons_of_mem _ (ih h)

/-- `{**a, **b}[k]` is `b[k]` when `b` has `k`, else `a[k]` (`b` a dict: distinct keys) -/
theorem dget_dictMerge (a b : List (κ × β)) (hb : (keys b).Nodup) (k : κ) :
    dget (dictMerge a b) k = (dget b k).or (dget a k) := by
  unfold dictMerge
  induction b generalizing a with
  | nil => simp [dget]
  | cons x b ih =>
    obtain ⟨k0, v0⟩ := x
    simp only [keys, List.map_cons, List.nodup_cons] at hb
    simp only [List.foldl_cons]
    rw [ih _ hb.2, dget_dset]
    by_cases e : k0 = k
    · subst e
      have : dget b k0 = none := (dget_eq_none_iff b k0).2 hb.1
      simp [dget, this]
    · simp [dget, e]

theorem nodup_keys_dictMerge (a b : List (κ × β)) (ha : (keys a).Nodup) : (keys (dictMerge a b)).Nodup :=
  List.foldlRecOn (motive := fun d => (keys d).Nodup) b _ ha fun d h kv _ => nodup_keys_dset d kv.1 kv.2 h

end Dict

variable {ν : Type}

/-! ### `mergeInto`: the kept record of a card absorbs a later one -/

/-- The four cases are `(o.tally_pool, c.tally_pool)` = (None, None), (None, `t`), (`s`, None), (`s`, `t`);
after `simp` the hypothesis says which record the branch of L470-478 taken there returns. -/
theorem mergeInto_ok {o c r : Rec ν} (h : mergeInto o c = .ok r) :
    r.id = o.id ∧ r.votes = dictMerge o.votes c.votes ∧ r.phantom = (c.phantom && o.phantom) ∧
    r.pool = (c.pool || o.pool) ∧ ∀ t, r.tallyPool = some t ↔ o.tallyPool = some t ∨ c.tallyPool = some t := by
  obtain ⟨oid, ov, oph, opl, otp⟩ := o
  obtain ⟨cid, cv, cph, cpl, ctp⟩ := c
  cases otp <;> cases ctp <;> simp [mergeInto] at h
  case none.none => subst h; simp  -- L470: `pass`
  case none.some => subst h; simp  -- L475-476: the pool of `c` is adopted
  case some.none => subst h; simp  -- L471: `pass`
  case some.some s t =>
    by_cases e : s = t
    · simp [e] at h; subst h; simp [e]  -- L472: `pass`
    · simp [e] at h  -- L478 raises

theorem mergeInto_err {o c : Rec ν} {e : Err} (h : mergeInto o c = .error e) :
    e = .ValueError ∧ ∃ s t, o.tallyPool = some s ∧ c.tallyPool = some t ∧ s ≠ t := by
  obtain ⟨oid, ov, oph, opl, otp⟩ := o
  obtain ⟨cid, cv, cph, cpl, ctp⟩ := c
  -- L470, L471 and L475 (a tally pool is `None`) return: only both present is left
  cases otp <;> cases ctp <;> simp [mergeInto] at h
  case some.some s t =>
  by_cases e' : s = t
  · simp [e'] at h  -- L472: `pass`
  · simp [e'] at h  -- L478
    exact ⟨h.symm, s, t, rfl, rfl, e'⟩

/-! ### the records of one card -/

/-- the records of `l` that carry identifier `i`, in list order -/
def group (l : List (Rec ν)) (i : String) : List (Rec ν) := l.filter (fun a => a.id == i)

/-- the vote dict of the last record of `G` that lists contest `k` (`none`: no record lists it) -/
def lastVote (G : List (Rec ν)) (k : String) : Option (List (String × ν)) :=
  G.foldl (fun acc a => (dget a.votes k).or acc) none

theorem mem_group {l : List (Rec ν)} {i : String} {a : Rec ν} : a ∈ group l i ↔ a ∈ l ∧ a.id = i := by
  unfold group; simp

theorem group_cons (c : Rec ν) (l : List (Rec ν)) (i : String) :
    group (c :: l) i = if c.id = i then c :: group l i else group l i := by
  simp [group, List.filter_cons]

theorem group_append (l₁ l₂ : List (Rec ν)) (i : String) : group (l₁ ++ l₂) i = group l₁ i ++ group l₂ i := by
  unfold group; exact List.filter_append ..

theorem tallyPool_lift {o c o' : Rec ν} (hm : mergeInto o c = .ok o') (rest : List (Rec ν)) :
    ∀ x ∈ o' :: rest, ∀ u, x.tallyPool = some u → ∃ y ∈ o :: c :: rest, y.tallyPool = some u := by
  intro x hx u hu
  rcases List.mem_cons.1 hx with rfl | hx
  · rcases ((mergeInto_ok hm).2.2.2.2 u).1 hu with h | h
    · exact ⟨o, by simp, h⟩
    · exact ⟨c, by simp, h⟩
  · exact ⟨x, by simp [hx], hu⟩

/-- `r` is the merge of the records `G` of one card -/
structure Merged (G : List (Rec ν)) (r : Rec ν) : Prop where
  phantom : r.phantom = G.all (·.phantom)
  pool : r.pool = G.any (·.pool)
  tallyPool_of_mem : ∀ a ∈ G, ∀ t, a.tallyPool = some t → r.tallyPool = some t
  tallyPool_some : ∀ t, r.tallyPool = some t → ∃ a ∈ G, a.tallyPool = some t
  votes : (∀ a ∈ G, (keys a.votes).Nodup) → (∀ k, dget r.votes k = lastVote G k) ∧ (keys r.votes).Nodup

/-- the merge of one card's records (`none`: no record) -/
def foldGroup : List (Rec ν) → Except Err (Option (Rec ν))
  | [] => .ok none
  | f :: rest => (rest.foldlM mergeInto f) >>= fun r => .ok (some r)

theorem foldGroup_eq {G : List (Rec ν)} {x : Except Err (Option (Rec ν))} (h : foldGroup G = x) :
    match x with
    | .ok none => G = []
    | .ok (some r) => ∃ f rest, G = f :: rest ∧ rest.foldlM mergeInto f = .ok r
    | .error e => ∃ f rest, G = f :: rest ∧ rest.foldlM mergeInto f = .error e := by
  cases G with
  | nil => cases h; rfl
  | cons f rest =>
    rw [foldGroup] at h
    cases hf : rest.foldlM mergeInto f <;> (rw [hf] at h; cases h; exact ⟨f, rest, rfl, hf⟩)

/-- Induction on `rest` with the kept record `o` general: merging `c` into `o` gives `o'`, of which `mergeInto_ok`
says field by field how it is made of `o` and `c`; by induction `r` is the merge of `o' :: rest`, and each field of
`Merged (o :: c :: rest) r` is that field of `Merged (o' :: rest) r` with `o'` taken apart. -/
theorem foldGroup_ok (rest : List (Rec ν)) : ∀ (o r : Rec ν), rest.foldlM mergeInto o = .ok r →
    r.id = o.id ∧ Merged (o :: rest) r := by
  induction rest with
  | nil =>
    intro o r h
    cases h
    exact ⟨rfl, by simp, by simp, by simp, fun t ht => ⟨o, by simp, ht⟩,
      fun hwf => ⟨fun k => by simp [lastVote], hwf o (by simp)⟩⟩
  | cons c rest ih =>
    intro o r h
    rw [List.foldlM_cons] at h
    obtain ⟨o', hm, h⟩ := bind_eq_ok h
    obtain ⟨hid, m⟩ := ih o' r h
    obtain ⟨mid, mv, mph, mpl, mtp⟩ := mergeInto_ok hm
    have ho' := m.tallyPool_of_mem o' (by simp)
    refine ⟨hid.trans mid, ?_, ?_, ?_, ?_, ?_⟩
    · rw [m.phantom, List.all_cons, List.all_cons, List.all_cons, mph, Bool.and_comm c.phantom, Bool.and_assoc]
    · rw [m.pool, List.any_cons, List.any_cons, List.any_cons, mpl, Bool.or_comm c.pool, Bool.or_assoc]
    · intro a ha t ht
      rcases List.mem_cons.1 ha with rfl | ha
      · exact ho' t ((mtp t).2 (.inl ht))
      rcases List.mem_cons.1 ha with rfl | ha
      · exact ho' t ((mtp t).2 (.inr ht))
      · exact m.tallyPool_of_mem a (by simp [ha]) t ht
    · intro t ht
      obtain ⟨a, ha, hat⟩ := m.tallyPool_some t ht
      exact tallyPool_lift hm rest a ha t hat
    · intro hwf
      obtain ⟨hv, hnd⟩ := m.votes (by
        intro a ha
        rcases List.mem_cons.1 ha with rfl | ha
        · exact mv ▸ nodup_keys_dictMerge _ _ (hwf o (by simp))
        · exact hwf a (by simp [ha]))
      refine ⟨fun k => ?_, hnd⟩
      rw [hv k, lastVote, lastVote, List.foldl_cons, List.foldl_cons, List.foldl_cons, mv,
        dget_dictMerge _ _ (hwf c (by simp)), Option.or_none, Option.or_none]

theorem foldGroup_err (rest : List (Rec ν)) : ∀ (o : Rec ν) (e : Err), rest.foldlM mergeInto o = .error e →
    e = .ValueError ∧ ∃ a ∈ o :: rest, ∃ b ∈ o :: rest, ∃ s t,
      a.tallyPool = some s ∧ b.tallyPool = some t ∧ s ≠ t := by
  induction rest with
  | nil => intro o e h; cases h
  | cons c rest ih =>
    intro o e h
    rw [List.foldlM_cons] at h
    cases hm : mergeInto o c with
    | error e' =>
      rw [hm] at h; cases h
      obtain ⟨he, s, t, hs, ht, hne⟩ := mergeInto_err hm
      exact ⟨he, o, by simp, c, by simp, s, t, hs, ht, hne⟩
    | ok o' =>
      rw [hm] at h
      obtain ⟨he, a, ha, b, hb, s, t, hs, ht, hne⟩ := ih o' e h
      obtain ⟨a', ha', hs'⟩ := tallyPool_lift hm rest a ha s hs
      obtain ⟨b', hb', ht'⟩ := tallyPool_lift hm rest b hb t ht
      exact ⟨he, a', ha', b', hb', s, t, hs', ht', hne⟩

/-! ### the loop of `merge_cvrs`, seen from one card -/

/-- one iteration seen from the entry of one card: `none` = no record of the card so far -/
def stepRec : Option (Rec ν) → Rec ν → Except Err (Rec ν)
  | none, c => .ok c
  | some o, c => mergeInto o c

theorem step_eq (od : List (String × Rec ν)) (c : Rec ν) :
    step od c = stepRec (dget od c.id) c >>= fun r => .ok (dset od c.id r) := by
  unfold step
  cases dget od c.id <;> rfl

theorem foldGroup_cons (o : Option (Rec ν)) (c : Rec ν) (g : List (Rec ν)) :
    foldGroup (o.toList ++ c :: g) = stepRec o c >>= fun r => foldGroup (r :: g) := by
  cases o with
  | none => rfl
  | some o =>
    simp only [Option.toList, List.cons_append, List.nil_append, foldGroup, List.foldlM_cons, stepRec]
    cases mergeInto o c <;> rfl

/-- Invariant of the loop, with the `OrderedDict` `od` at any stage as a variable: running the loop over
`l` leaves under every id the merge of the entry `od` had (if any) with the records of `l` of that id;
it raises exactly when one of these merges does. -/
theorem foldlM_step (l : List (Rec ν)) : ∀ od : List (String × Rec ν),
    (∀ od', l.foldlM step od = .ok od' →
      ∀ i, foldGroup ((dget od i).toList ++ group l i) = .ok (dget od' i)) ∧
    (∀ e, l.foldlM step od = .error e → ∃ i, foldGroup ((dget od i).toList ++ group l i) = .error e) := by
  induction l with
  | nil =>
    intro od
    refine ⟨fun od' h i => ?_, fun e h => nomatch h⟩
    cases h
    cases dget od i <;> rfl
  | cons c l ih =>
    intro od
    rw [List.foldlM_cons, step_eq]
    cases hr : stepRec (dget od c.id) c with
    | error e =>
      refine ⟨fun od' h => (nomatch h), fun e' h => ⟨c.id, ?_⟩⟩
      cases h
      rw [group_cons, if_pos rfl, foldGroup_cons, hr]; rfl
    | ok r =>
      have key : ∀ i, foldGroup ((dget od i).toList ++ group (c :: l) i) =
          foldGroup ((dget (dset od c.id r) i).toList ++ group l i) := by
        intro i
        rw [group_cons, dget_dset]
        split
        · next h => subst h; rw [foldGroup_cons, hr]; rfl
        · rfl
      simp only [key]
      exact ih _

theorem keys_foldlM_step (l : List (Rec ν)) : ∀ (od od' : List (String × Rec ν)), l.foldlM step od = .ok od' →
    keys od' = (l.map (·.id)).foldl addKey (keys od) := by
  induction l with
  | nil => intro od od' h; cases h; rfl
  | cons c l ih =>
    intro od od' h
    rw [List.foldlM_cons, step_eq] at h
    obtain ⟨od₁, hr, h⟩ := bind_eq_ok h
    obtain ⟨r, -, ⟨⟩⟩ := bind_eq_ok hr
    rw [ih _ od' h, keys_dset]
    rfl

/-- two records of one card with different (non-`None`) tally pools -/
def Conflict (l : List (Rec ν)) : Prop :=
  ∃ a ∈ l, ∃ b ∈ l, a.id = b.id ∧ ∃ s t, a.tallyPool = some s ∧ b.tallyPool = some t ∧ s ≠ t

/-! ### what `mergeCvrs` returns -/

theorem mergeCvrs_ok {l rs : List (Rec ν)} (h : mergeCvrs l = .ok rs) :
    rs.map (·.id) = firstAppear (l.map (·.id)) ∧ ∀ r ∈ rs, Merged (group l r.id) r := by
  obtain ⟨od, hf, ⟨⟩⟩ := bind_eq_ok h
  have hk : keys od = firstAppear (l.map (·.id)) := by
    rw [keys_foldlM_step l [] od hf, foldl_addKey]; simp [keys]
  have hrec : ∀ x ∈ od, x.2.id = x.1 ∧ Merged (group l x.1) x.2 := by
    intro x hx
    have hg : foldGroup (group l x.1) = _ := (foldlM_step l []).1 od hf x.1
    rw [dget_of_mem od (hk ▸ firstAppear_nodup _) x.1 x.2 hx] at hg
    obtain ⟨f, rest, hG, hfold⟩ := foldGroup_eq hg
    obtain ⟨hid, m⟩ := foldGroup_ok rest f x.2 hfold
    exact ⟨hid.trans (mem_group.1 (hG ▸ List.mem_cons_self : f ∈ group l x.1)).2, hG ▸ m⟩
  refine ⟨?_, ?_⟩
  · rw [← hk, keys, List.map_map]
    exact List.map_congr_left fun x hx => (hrec x hx).1
  · intro r hr
    obtain ⟨x, hx, rfl⟩ := List.mem_map.1 hr
    obtain ⟨hid, m⟩ := hrec x hx
    rwa [hid]

theorem mergeCvrs_error {l : List (Rec ν)} {e : Err} (h : mergeCvrs l = .error e) :
    e = .ValueError ∧ Conflict l := by
  unfold mergeCvrs at h
  cases hf : l.foldlM step [] with
  | ok od => rw [hf] at h; cases h
  | error e' =>
    rw [hf] at h; cases h
    obtain ⟨i, hi⟩ := (foldlM_step l []).2 e hf
    obtain ⟨f, rest, hG, hfold⟩ := foldGroup_eq hi
    obtain ⟨he, a, ha, b, hb, r⟩ := foldGroup_err rest f e hfold
    change group l i = _ at hG
    rw [← hG, mem_group] at ha hb
    exact ⟨he, a, ha.1, b, hb.1, ha.2.trans hb.2.symm, r⟩

/-- **C18, identifiers.** The merged list carries exactly the distinct identifiers of the input, each once,
in order of first appearance (`firstAppear` is the textbook definition). -/
theorem merge_ids {l rs : List (Rec ν)} (h : mergeCvrs l = .ok rs) :
    rs.map (·.id) = firstAppear (l.map (·.id)) ∧ (rs.map (·.id)).Nodup ∧
    ∀ i, i ∈ rs.map (·.id) ↔ ∃ a ∈ l, a.id = i := by
  have h1 := (mergeCvrs_ok h).1
  refine ⟨h1, h1 ▸ firstAppear_nodup _, ?_⟩
  intro i; rw [h1, mem_firstAppear]; simp

theorem foldl_or_none {α β : Type} (g : α → Option β) (G : List α) (init : Option β)
    (h : ∀ b ∈ G, g b = none) : G.foldl (fun acc a => (g a).or acc) init = init := by
  induction G generalizing init with
  | nil => rfl
  | cons a G ih =>
    rw [List.foldl_cons, h a (by simp), Option.none_or]
    exact ih init (fun b hb => h b (by simp [hb]))

theorem foldl_or_eq_none {α β : Type} (g : α → Option β) (G : List α) (init : Option β) :
    G.foldl (fun acc a => (g a).or acc) init = none ↔ init = none ∧ ∀ b ∈ G, g b = none := by
  induction G generalizing init with
  | nil => simp
  | cons a G ih =>
    rw [List.foldl_cons, ih]
    cases hg : g a <;> simp [hg]

/-- **C18, votes.** For every merged record `r` and contest `k` (input vote dicts being dicts, i.e. with
distinct keys): `r` lists `k` iff some input record of that card does, and then the vote dict stored under `k`
is — wholesale — that of the LAST input record of the card that lists `k`. The contests of `r` are again distinct. -/
theorem merge_votes {l rs : List (Rec ν)} (hwf : ∀ a ∈ l, (keys a.votes).Nodup)
    (h : mergeCvrs l = .ok rs) {r : Rec ν} (hr : r ∈ rs) (k : String) :
    dget r.votes k = lastVote (group l r.id) k ∧
    (dget r.votes k = none ↔ ∀ a ∈ l, a.id = r.id → dget a.votes k = none) ∧
    (∀ pre a post, l = pre ++ a :: post → a.id = r.id → dget a.votes k ≠ none →
       (∀ b ∈ post, b.id = r.id → dget b.votes k = none) → dget r.votes k = dget a.votes k) ∧
    (keys r.votes).Nodup := by
  obtain ⟨hlast, hnd⟩ := ((mergeCvrs_ok h).2 r hr).votes fun a ha => hwf a (mem_group.1 ha).1
  refine ⟨hlast k, ?_, ?_, hnd⟩
  · rw [hlast, lastVote, foldl_or_eq_none]
    simp only [true_and, mem_group, and_imp]
  · intro pre a post hl hid hne hpost
    rw [hlast, hl, group_append, group_cons, if_pos hid, lastVote, List.foldl_append, List.foldl_cons]
    cases hd : dget a.votes k with
    | none => exact absurd hd hne
    | some v =>
      rw [Option.some_or]
      exact foldl_or_none _ _ _ fun b hb => hpost b (mem_group.1 hb).1 (mem_group.1 hb).2

/-- **C18, phantom flag.** The merged card is a phantom iff every record of the card was. -/
theorem merge_phantom_all {l rs : List (Rec ν)} (h : mergeCvrs l = .ok rs) {r : Rec ν} (hr : r ∈ rs) :
    r.phantom = (group l r.id).all (·.phantom) ∧
    (r.phantom = true ↔ ∀ a ∈ l, a.id = r.id → a.phantom = true) := by
  have h1 := ((mergeCvrs_ok h).2 r hr).phantom
  refine ⟨h1, ?_⟩
  rw [h1, List.all_eq_true]
  simp only [mem_group, and_imp]

/-- **C18, pool flag.** The merged card's `pool` is a Boolean (it has type `Bool` in the model, and
the correspondence requires `type(c.pool) is bool` of the code) and is true iff some record of the card was pooled. -/
theorem merge_pool_any {l rs : List (Rec ν)} (h : mergeCvrs l = .ok rs) {r : Rec ν} (hr : r ∈ rs) :
    r.pool = (group l r.id).any (·.pool) ∧
    (r.pool = true ↔ ∃ a ∈ l, a.id = r.id ∧ a.pool = true) := by
  have h1 := ((mergeCvrs_ok h).2 r hr).pool
  refine ⟨h1, ?_⟩
  rw [h1, List.any_eq_true]
  simp only [mem_group, and_assoc]

/-- **C18, tally pools.** `merge_cvrs` raises — and then it is `ValueError` — exactly when two records
of one card carry different non-`None` tally pools, wherever they stand in the list and whatever lies between
them (`[A, None, B]` raises like `[A, B]`; a `None` never conflicts). Otherwise every record of a card that
has a tally pool has the merged card's tally pool, and the merged card has none iff none of its records had. -/
theorem merge_tally_pool (l : List (Rec ν)) :
    (∀ e, mergeCvrs l = .error e → e = .ValueError) ∧
    (mergeCvrs l = .error .ValueError ↔ Conflict l) ∧
    (∀ rs, mergeCvrs l = .ok rs → ∀ r ∈ rs,
      (∀ a ∈ l, a.id = r.id → ∀ t, a.tallyPool = some t → r.tallyPool = some t) ∧
      (∀ t, r.tallyPool = some t → ∃ a ∈ l, a.id = r.id ∧ a.tallyPool = some t) ∧
      (r.tallyPool = none ↔ ∀ a ∈ l, a.id = r.id → a.tallyPool = none)) := by
  refine ⟨fun e h => (mergeCvrs_error h).1, ⟨fun h => (mergeCvrs_error h).2, ?_⟩, ?_⟩
  · rintro ⟨a, ha, b, hb, hid, s, t, hs, ht, hne⟩
    cases hm : mergeCvrs l with
    | error e => rw [(mergeCvrs_error hm).1]
    | ok rs =>
      -- the merged card of `a` and `b` would carry both tally pools
      obtain ⟨r, hr, hrid⟩ := List.mem_map.1 (((merge_ids hm).2.2 a.id).2 ⟨a, ha, rfl⟩)
      have h1 := ((mergeCvrs_ok hm).2 r hr).tallyPool_of_mem
      have e1 := h1 a (mem_group.2 ⟨ha, hrid.symm⟩) s hs
      have e2 := h1 b (mem_group.2 ⟨hb, hid ▸ hrid.symm⟩) t ht
      exact absurd (Option.some.inj (e1.symm.trans e2)) hne
  · intro rs h r hr
    have m := (mergeCvrs_ok h).2 r hr
    have h1 : ∀ a ∈ l, a.id = r.id → ∀ t, a.tallyPool = some t → r.tallyPool = some t :=
      fun a ha hid => m.tallyPool_of_mem a (mem_group.2 ⟨ha, hid⟩)
    have h2 : ∀ t, r.tallyPool = some t → ∃ a ∈ l, a.id = r.id ∧ a.tallyPool = some t := by
      intro t ht
      obtain ⟨a, ha, hat⟩ := m.tallyPool_some t ht
      exact ⟨a, (mem_group.1 ha).1, (mem_group.1 ha).2, hat⟩
    refine ⟨h1, h2, ?_, ?_⟩
    · intro hn a ha hid
      cases hat : a.tallyPool with
      | none => rfl
      | some t => rw [h1 a ha hid t hat] at hn; cases hn
    · intro hh
      cases hrt : r.tallyPool with
      | none => rfl
      | some t =>
        obtain ⟨a, ha, hid, hat⟩ := h2 t hrt
        rw [hh a ha hid] at hat; cases hat


/-! ### RAIRE format -/

theorem dget_rankVotes_not_mem (cands : List String) : ∀ (d : List (String × Nat)) (k : Nat) (x : String),
    x ∉ cands → dget (rankVotes d k cands) x = dget d x := by
  induction cands with
  | nil => intro d k x _; rfl
  | cons c cs ih =>
    intro d k x hx
    simp only [List.mem_cons, not_or] at hx
    rw [rankVotes, ih _ _ _ hx.2, dget_dset]
    simp [Ne.symm hx.1]

theorem dget_rankVotes (pre : List String) : ∀ (d : List (String × Nat)) (k : Nat) (x : String) (post : List String),
    x ∉ post → dget (rankVotes d k (pre ++ x :: post)) x = some (k + pre.length) := by
  induction pre with
  | nil =>
    intro d k x post hx
    simp only [List.nil_append, rankVotes]
    rw [dget_rankVotes_not_mem post _ _ _ hx, dget_dset]; simp
  | cons p pre ih =>
    intro d k x post hx
    simp only [List.cons_append, rankVotes]
    rw [ih _ _ _ _ hx]; simp only [List.length_cons]; congr 1; omega

/-- the record `from_vote` builds for a well-formed row (total version of `rowToRec`) -/
def rowRec (ph : Bool) : List String → Rec Nat
  | contest :: id :: cands =>
      { id := id, votes := [(contest, rankVotes [] 1 cands)], phantom := ph, pool := false, tallyPool := none }
  | _ => { id := "", votes := [], phantom := ph, pool := false, tallyPool := none }

theorem rowToRec_ok {ph : Bool} {row : List String} {r : Rec Nat} (h : rowToRec ph row = .ok r) :
    (∃ contest id cands, row = contest :: id :: cands) ∧ r = rowRec ph row := by
  match row, h with
  | contest :: id :: cands, h => cases h; exact ⟨⟨_, _, _, rfl⟩, rfl⟩

theorem mapM_rowToRec (ph : Bool) (rows : List (List String)) : ∀ recs, rows.mapM (rowToRec ph) = .ok recs →
    (∀ row ∈ rows, ∃ contest id cands, row = contest :: id :: cands) ∧ recs = rows.map (rowRec ph) := by
  induction rows with
  | nil => intro recs h; cases h; simp
  | cons row rows ih =>
    intro recs h
    rw [List.mapM_cons] at h
    obtain ⟨r, hr, h⟩ := bind_eq_ok h
    obtain ⟨recs', hm, ⟨⟩⟩ := bind_eq_ok h
    obtain ⟨h1, rfl⟩ := ih recs' hm
    obtain ⟨hf, rfl⟩ := rowToRec_ok hr
    exact ⟨List.forall_mem_cons.2 ⟨hf, h1⟩, rfl⟩

theorem dget_rowRec_none (ph : Bool) (rows : List (List String)) (contest id : String)
    (hform : ∀ row ∈ rows, ∃ c i cs, row = c :: i :: cs) (h : ∀ cs, (contest :: id :: cs) ∉ rows) :
    ∀ b ∈ rows.map (rowRec ph), b.id = id → dget b.votes contest = none := by
  intro b hb hid
  obtain ⟨row, hrow, rfl⟩ := List.mem_map.1 hb
  obtain ⟨c, i, cs, rfl⟩ := hform row hrow
  simp only [rowRec] at hid ⊢
  subst hid
  by_cases hc : c = contest
  · subst hc; exact absurd hrow (h cs)
  · simp [dget, hc]

theorem fromRaire_ok {raire : List (List String)} {ph : Bool} {rs : List (Rec Nat)} {n : Int}
    (h : fromRaire raire ph = .ok (rs, n)) :
    ∃ cell tl rest skip, raire = (cell :: tl) :: rest ∧ parseNat cell = some skip ∧
      n = (raire.length : Int) - (skip : Int) ∧
      (∀ row ∈ raire.drop (skip + 1), ∃ contest id cands, row = contest :: id :: cands) ∧
      mergeCvrs ((raire.drop (skip + 1)).map (rowRec ph)) = .ok rs := by
  match raire, h with
  | (cell :: tl) :: rest, h =>
    simp only [fromRaire] at h
    cases hp : parseNat cell with
    | none => rw [hp] at h; cases h
    | some skip =>
      rw [hp] at h; simp only at h
      obtain ⟨recs, hm, h⟩ := bind_eq_ok h
      obtain ⟨merged, hmg, ⟨⟩⟩ := bind_eq_ok h
      obtain ⟨hform, rfl⟩ := mapM_rowToRec ph _ recs hm
      exact ⟨cell, tl, rest, skip, rfl, hp, rfl, hform, hmg⟩

/-- **C18, RAIRE rows.** If `from_raire` returns `(rs, n)` then the first cell is a number `skip`,
the rows read are exactly those after the first `skip + 1` lines (the count line and the `skip` declared
contest lines), each of the form `contest, ballot id, ranking…`, and
* the cards are the distinct ballot ids of those rows in first-appearance order (one record per card: merged),
* a card lists a contest iff some row of that card is for that contest,
* under that contest it holds the ranking of the LAST such row, the candidate listed `m`-th
  (`cpre.length + 1 = m`, not listed again later in that row) having rank `m`, unlisted candidates absent,
* flags: `phantom` as passed, `pool = False`, `tally_pool = None`;
and `n = len(raire) - skip`. -/
theorem from_raire_ranks {raire : List (List String)} {ph : Bool} {rs : List (Rec Nat)} {n : Int}
    (h : fromRaire raire ph = .ok (rs, n)) :
    ∃ cell tl rest skip, raire = (cell :: tl) :: rest ∧ parseNat cell = some skip ∧
      n = (raire.length : Int) - (skip : Int) ∧
      (∀ row ∈ raire.drop (skip + 1), ∃ contest id cands, row = contest :: id :: cands) ∧
      rs.map (·.id) = firstAppear ((raire.drop (skip + 1)).map (fun row => (rowRec ph row).id)) ∧
      ∀ r ∈ rs, r.phantom = ph ∧ r.pool = false ∧ r.tallyPool = none ∧
        ∀ contest,
          (dget r.votes contest = none ↔ ∀ cands, (contest :: r.id :: cands) ∉ raire.drop (skip + 1)) ∧
          ∀ pre cands post, raire.drop (skip + 1) = pre ++ (contest :: r.id :: cands) :: post →
            (∀ cs, (contest :: r.id :: cs) ∉ post) →
            ∃ d, dget r.votes contest = some d ∧
              (∀ x, x ∉ cands → dget d x = none) ∧
              (∀ cpre x cpost, cands = cpre ++ x :: cpost → x ∉ cpost → dget d x = some (cpre.length + 1)) := by
  -- `from_raire` is `merge_cvrs` on one single-contest record per row (`fromRaire_ok`, `rowRec`): every clause is the
  -- matching `merge_*` theorem read on such records, and the ranks are those `rankVotes` wrote into the last row's dict
  obtain ⟨cell, tl, rest, skip, hraire, hp, hn, hform, hmg⟩ := fromRaire_ok h
  refine ⟨cell, tl, rest, skip, hraire, hp, hn, hform, ?_⟩
  generalize raire.drop (skip + 1) = rows at hform hmg ⊢
  refine ⟨?_, ?_⟩
  · rw [(merge_ids hmg).1, List.map_map]; rfl
  · intro r hr
    have hfl : ∀ a ∈ rows.map (rowRec ph), a.phantom = ph ∧ a.pool = false ∧ a.tallyPool = none := by
      intro a ha
      obtain ⟨row, _, rfl⟩ := List.mem_map.1 ha
      unfold rowRec; split <;> simp
    have hwf : ∀ a ∈ rows.map (rowRec ph), (keys a.votes).Nodup := by
      intro a ha
      obtain ⟨row, hrow, rfl⟩ := List.mem_map.1 ha
      obtain ⟨c, i, cs, rfl⟩ := hform row hrow
      simp [rowRec, keys]
    refine ⟨?_, ?_, ?_, ?_⟩
    · obtain ⟨a, ha, hid⟩ := ((merge_ids hmg).2.2 r.id).1 (List.mem_map_of_mem hr)
      rw [Bool.eq_iff_iff, (merge_phantom_all hmg hr).2]
      exact ⟨fun hh => (hfl a ha).1 ▸ hh a ha hid, fun hp a ha _ => (hfl a ha).1.trans hp⟩
    · rw [Bool.eq_false_iff]
      intro hp
      obtain ⟨a, ha, _, hpa⟩ := (merge_pool_any hmg hr).2.1 hp
      rw [(hfl a ha).2.1] at hpa; cases hpa
    · obtain ⟨-, -, hnone⟩ := (merge_tally_pool _).2.2 _ hmg r hr
      exact hnone.2 fun a ha _ => (hfl a ha).2.2
    · intro contest
      obtain ⟨_, hnone, hlast, _⟩ := merge_votes hwf hmg hr contest
      refine ⟨?_, ?_⟩
      · rw [hnone]
        constructor
        · intro hh cands hmem
          have := hh (rowRec ph (contest :: r.id :: cands)) (List.mem_map.2 ⟨_, hmem, rfl⟩) rfl
          simp [rowRec, dget] at this
        · exact dget_rowRec_none ph rows contest r.id hform
      · intro pre cands post hsplit hpost
        refine ⟨rankVotes [] 1 cands, ?_, ?_, ?_⟩
        · rw [hlast (pre.map (rowRec ph)) (rowRec ph (contest :: r.id :: cands)) (post.map (rowRec ph))
            (by rw [hsplit]; simp) rfl (by simp [rowRec, dget])
            (dget_rowRec_none ph post contest r.id
              (fun row hrow => hform row (by rw [hsplit]; simp [hrow])) hpost)]
          simp [rowRec, dget]
        · intro x hx
          rw [dget_rankVotes_not_mem cands [] 1 x hx]; rfl
        · intro cpre x cpost hc hx
          rw [hc, dget_rankVotes cpre [] 1 x cpost hx, Nat.add_comm]


/-! ### Non-vacuity -/

def rA : Rec Nat := { id := "b", votes := [("AvB", [("Alice", 1), ("Bob", 2)])], phantom := true, pool := false, tallyPool := none }
def rB : Rec Nat := { id := "a", votes := [("AvB", [("Bob", 1)])], phantom := true, pool := true, tallyPool := some "X" }
def rC : Rec Nat := { id := "b", votes := [("CvD", [("C", 1)]), ("AvB", [("Bob", 1)])], phantom := false, pool := true, tallyPool := some "Y" }

-- ids in first-appearance order (b before a), contest AvB replaced wholesale by the later record (Alice is gone),
-- phantom = all, pool = any, tally pool filled in from the later record
example : (mergeCvrs [rA, rB, rC]).toOption.map (fun rs => rs.map (fun r => (r.id, r.votes, r.phantom, r.pool, r.tallyPool)))
    = some [("b", [("AvB", [("Bob", 1)]), ("CvD", [("C", 1)])], false, true, some "Y"),
            ("a", [("AvB", [("Bob", 1)])], true, true, some "X")] := by rfl

def tp (i : String) (t : Option String) : Rec Nat := { id := i, votes := [], phantom := false, pool := false, tallyPool := t }

-- tally pools [A, None, B] of one card: error;  [None, A, None, A]: ok;  conflict on another card: error
example : (mergeCvrs [tp "1" (some "A"), tp "1" none, tp "1" (some "B")]).toOption.isNone = true := by decide +kernel
example : Conflict [tp "1" (some "A"), tp "1" none, tp "1" (some "B")] :=
  ⟨tp "1" (some "A"), by simp, tp "1" (some "B"), by simp, rfl, "A", "B", rfl, rfl, by decide⟩
example : ((mergeCvrs [tp "1" none, tp "1" (some "A"), tp "1" none, tp "1" (some "A")]).toOption.map
    (fun rs => rs.map (·.tallyPool))) = some [some "A"] := by decide +kernel
example : (mergeCvrs [tp "2" none, tp "1" (some "A"), tp "2" none, tp "1" (some "B")]).toOption.isNone = true := by decide +kernel

-- the input of tests/core/test_CVR.py::test_cvr_from_raire
example : (fromRaire [["1"], ["Contest", "339", "5", "15", "16", "17", "18", "45"], ["339", "99813_1_1", "17"],
      ["339", "99813_1_3", "16"], ["339", "99813_1_6", "18", "17", "15", "16"], ["3", "99813_1_6", "2"]] false).toOption.map
      (fun p => (p.1.map (fun r => (r.id, r.votes)), p.2))
    = some ([("99813_1_1", [("339", [("17", 1)])]), ("99813_1_3", [("339", [("16", 1)])]),
             ("99813_1_6", [("339", [("18", 1), ("17", 2), ("15", 3), ("16", 4)]), ("3", [("2", 1)])])], 5) := by rfl

example : firstAppear ["b", "a", "b", "c", "a"] = ["b", "a", "c"] := by decide +kernel


end Shangrla.C18
