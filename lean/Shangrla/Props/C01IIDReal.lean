/-
  C01, independent draws (`N = np.inf`), for laws with REAL probabilities: every shipped test, overall
  p-value or any history entry.

  Every probability law on the library's input space is finitely supported on rational values (the inputs
  are IEEE doubles); what a rational-weight statement leaves out is only IRRATIONAL probabilities.
  Here the capstone `C01_iid_run_K` is read at `K = ℝ`, also for a real probability mass function on a
  finite list / `Finset` of rational values; the non-vacuity example has the irrational weights `2 - √2`,
  `√2 - 1`.
-/
import Shangrla.Props.C01Run
import Mathlib.Data.Real.Basic
import Mathlib.Analysis.Real.Sqrt
import Mathlib.NumberTheory.Real.Irrational
import Mathlib.Algebra.BigOperators.Group.Finset.Defs

namespace Shangrla.C01
open Shangrla Shangrla.NM XR Shangrla.C12 Shangrla.Ville Shangrla.C11 Shangrla.C05

/-- the statement of `C01_iid_run_K` at `K = ℚ` written with `IsLaw`, `lawMean`, `hitIID`; it coincides with
that of `C01_iid_run` -/
theorem C01_iid_run_of_K (sqrtF : ℚ → ℚ) (cfg : Cfg) (hN : cfg.N = none) (test : Test)
    (hdoc : DocumentedIID sqrtF cfg test)
    (alpha : ℚ) (ha0 : 0 < alpha) (ha1 : alpha < 1)
    (L : List (ℚ × ℚ)) (hL : IsLaw cfg.u L) (hmean : lawMean L ≤ cfg.t) (k : Nat) :
    hitIID L (reportedAnyRun sqrtF cfg test alpha) k [] ≤ alpha :=
  C01_iid_run sqrtF cfg hN test hdoc alpha ha0 ha1 L hL hmean k

/-- **C01 for `NonnegMean.test`, independent draws (`N = np.inf`), REAL probabilities**: `C01_iid_run_K`
at `K = ℝ`.  `L` is a law on finitely many rational values in `[0,u]` whose probabilities are arbitrary
non-negative REAL numbers summing to 1, with mean at most `t`; every probability law on the library's
input space is such an `L`. -/
theorem C01_iid_run_real (sqrtF : ℚ → ℚ) (cfg : Cfg) (hN : cfg.N = none) (test : Test)
    (hdoc : DocumentedIID sqrtF cfg test)
    (alpha : ℚ) (ha0 : 0 < alpha) (ha1 : alpha < 1)
    (L : List (ℚ × ℝ)) (hL : IsLawK cfg.u L) (hmean : lawMeanK L ≤ (cfg.t : ℝ)) (k : Nat) :
    hitIIDK L (reportedAnyRun sqrtF cfg test alpha) k [] ≤ (alpha : ℝ) :=
  C01_iid_run_K sqrtF cfg hN test hdoc alpha ha0 ha1 L hL hmean k

section Pmf

variable {K : Type}

/-- the law that puts the mass `p v` on each entry `v` of `vals` (if `vals` has no duplicates, `p v` is
the probability of `v`; with duplicates the masses add up) -/
def pmfLaw (vals : List ℚ) (p : ℚ → K) : List (ℚ × K) := vals.map (fun v => (v, p v))

variable [Field K]

theorem pmfLaw_mean (vals : List ℚ) (p : ℚ → K) :
    lawMeanK (pmfLaw vals p) = (vals.map (fun v => p v * (v : K))).sum := by
  unfold lawMeanK expLK pmfLaw
  rw [List.map_map]
  rfl

variable [LinearOrder K]

theorem pmfLaw_isLaw (u : ℚ) (vals : List ℚ) (p : ℚ → K) (hrange : ∀ v ∈ vals, 0 ≤ v ∧ v ≤ u)
    (hp0 : ∀ v ∈ vals, 0 ≤ p v) (hp1 : (vals.map p).sum = 1) : IsLawK u (pmfLaw vals p) := by
  refine ⟨?_, ?_, ?_⟩
  · intro q hq
    obtain ⟨v, hv, rfl⟩ := List.mem_map.1 hq
    exact hp0 v hv
  · unfold pmfLaw
    rw [List.map_map]
    exact hp1
  · intro q hq
    obtain ⟨v, hv, rfl⟩ := List.mem_map.1 hq
    exact hrange v hv

end Pmf

/-- **C01, every real probability mass function on a finite list of rational values.**  `vals` lists
finitely many rational values in `[0,u]` (for instance: all IEEE doubles in `[0,u]`), `p v ≥ 0` is the
real probability of `v`. -/
theorem C01_iid_run_real_pmf (sqrtF : ℚ → ℚ) (cfg : Cfg) (hN : cfg.N = none) (test : Test)
    (hdoc : DocumentedIID sqrtF cfg test)
    (alpha : ℚ) (ha0 : 0 < alpha) (ha1 : alpha < 1)
    (vals : List ℚ) (p : ℚ → ℝ) (hrange : ∀ v ∈ vals, 0 ≤ v ∧ v ≤ cfg.u)
    (hp0 : ∀ v ∈ vals, 0 ≤ p v) (hp1 : (vals.map p).sum = 1)
    (hmean : (vals.map (fun v => p v * (v : ℝ))).sum ≤ (cfg.t : ℝ)) (k : Nat) :
    hitIIDK (pmfLaw vals p) (reportedAnyRun sqrtF cfg test alpha) k [] ≤ (alpha : ℝ) :=
  C01_iid_run_real sqrtF cfg hN test hdoc alpha ha0 ha1 (pmfLaw vals p)
    (pmfLaw_isLaw cfg.u vals p hrange hp0 hp1) (by rw [pmfLaw_mean]; exact hmean) k

/-- `C01_iid_run_real_pmf` for a `Finset` of values, in the usual `∑ v ∈ S` notation -/
theorem C01_iid_run_real_finset (sqrtF : ℚ → ℚ) (cfg : Cfg) (hN : cfg.N = none) (test : Test)
    (hdoc : DocumentedIID sqrtF cfg test)
    (alpha : ℚ) (ha0 : 0 < alpha) (ha1 : alpha < 1)
    (S : Finset ℚ) (p : ℚ → ℝ) (hrange : ∀ v ∈ S, 0 ≤ v ∧ v ≤ cfg.u)
    (hp0 : ∀ v ∈ S, 0 ≤ p v) (hp1 : ∑ v ∈ S, p v = 1)
    (hmean : ∑ v ∈ S, p v * (v : ℝ) ≤ (cfg.t : ℝ)) (k : Nat) :
    hitIIDK (pmfLaw S.toList p) (reportedAnyRun sqrtF cfg test alpha) k [] ≤ (alpha : ℝ) :=
  C01_iid_run_real_pmf sqrtF cfg hN test hdoc alpha ha0 ha1 S.toList p
    (fun v hv => hrange v (Finset.mem_toList.1 hv)) (fun v hv => hp0 v (Finset.mem_toList.1 hv))
    (by rw [Finset.sum_map_toList]; exact hp1) (by rw [Finset.sum_map_toList]; exact hmean) k

/-! ### non-vacuity: a law with irrational probabilities -/

section NonVacuity

/-- `P(0) = 2 - √2 ≈ 0.586`, `P(1) = √2 - 1 ≈ 0.414`: mean `√2 - 1 < 1/2` -/
noncomputable def lawSqrt2 : List (ℚ × ℝ) := [(0, 2 - Real.sqrt 2), (1, Real.sqrt 2 - 1)]

private theorem sqrt2_bounds : 1 ≤ Real.sqrt 2 ∧ Real.sqrt 2 ≤ 3 / 2 :=
  ⟨Real.one_le_sqrt.2 one_le_two, Real.sqrt_le_iff.2 ⟨by norm_num, by norm_num⟩⟩

theorem lawSqrt2_isLaw : IsLawK 1 lawSqrt2 := by
  obtain ⟨h1, h2⟩ := sqrt2_bounds
  refine ⟨?_, ?_, ?_⟩
  · intro p hp
    rcases List.mem_pair.1 hp with rfl | rfl
    · exact sub_nonneg.2 (h2.trans (by norm_num))
    · exact sub_nonneg.2 h1
  · show 2 - Real.sqrt 2 + (Real.sqrt 2 - 1 + 0) = 1
    ring
  · intro p hp
    rcases List.mem_pair.1 hp with rfl | rfl
    · exact ⟨le_refl _, zero_le_one⟩
    · exact ⟨zero_le_one, le_refl _⟩

theorem lawSqrt2_mean : lawMeanK lawSqrt2 ≤ ((1 / 2 : ℚ) : ℝ) := by
  show (2 - Real.sqrt 2) * ((0 : ℚ) : ℝ) + ((Real.sqrt 2 - 1) * ((1 : ℚ) : ℝ) + 0) ≤ ((1 / 2 : ℚ) : ℝ)
  rw [Rat.cast_zero, Rat.cast_one, mul_zero, mul_one, zero_add, add_zero, sub_le_iff_le_add]
  exact sqrt2_bounds.2.trans (by norm_num)

theorem lawSqrt2_weight_irrational : Irrational (Real.sqrt 2 - 1) := by
  have := irrational_sqrt_two.sub_ratCast (q := 1)
  simpa using this

/-- `lawSqrt2` is not (the cast of) any law with rational weights: the rational-weight theorem
`C01_iid_run` says nothing about it -/
theorem lawSqrt2_not_rational : ¬ ∃ L : List (ℚ × ℚ), castLaw ℝ L = lawSqrt2 := by
  rintro ⟨L, hL⟩
  have hmem : ((1 : ℚ), Real.sqrt 2 - 1) ∈ castLaw ℝ L := by rw [hL]; simp [lawSqrt2]
  obtain ⟨q, _, hq⟩ := List.mem_map.1 hmem
  have h2 : ((q.2 : ℚ) : ℝ) = Real.sqrt 2 - 1 := congrArg Prod.snd hq
  exact lawSqrt2_weight_irrational.ne_rat q.2 h2.symm

private theorem tol_default' (N : Option Nat) (u t : ℚ) (ro : Bool) (kw : Kw) :
    TolOK { N := N, u := u, t := t, randomOrder := ro, kw := kw } :=
  ⟨by show (0 : ℚ) ≤ 2 * eps; decide +kernel, by show 2 * eps < (1 : ℚ) / 2; decide +kernel,
    by show (0 : ℚ) ≤ 1 / 1000000; decide +kernel⟩

example : hitIIDK lawSqrt2
    (reportedAnyRun sqrtRat { N := none, u := 1, t := 1/2, randomOrder := true, kw := { f := some (1/10) } }
      (.alpha .shrinkTrunc) (1/20)) 5 [] ≤ ((1/20 : ℚ) : ℝ) :=
  C01_iid_run_real sqrtRat _ rfl (.alpha .shrinkTrunc)
    ⟨by decide +kernel, by decide +kernel, tol_default' _ _ _ _ _,
      ⟨C13.sqrtRat_ok.pos, by decide +kernel, by decide +kernel, by decide +kernel⟩⟩
    (1/20) (by decide +kernel) (by decide +kernel) _ lawSqrt2_isLaw lawSqrt2_mean 5

example : hitIIDK lawSqrt2
    (reportedAnyRun sqrtRat { N := none, u := 1, t := 1/2, randomOrder := true, kw := {} }
      (.betting .agrapa) (1/20)) 5 [] ≤ ((1/20 : ℚ) : ℝ) :=
  C01_iid_run_real sqrtRat _ rfl (.betting .agrapa)
    ⟨by decide +kernel, by decide +kernel, tol_default' _ _ _ _ _,
      ⟨C13.sqrtRat_ok, by decide +kernel, by decide +kernel, by decide +kernel, by decide +kernel⟩⟩
    (1/20) (by decide +kernel) (by decide +kernel) _ lawSqrt2_isLaw lawSqrt2_mean 5

example : hitIIDK lawSqrt2
    (reportedAnyRun sqrtRat { N := none, u := 1, t := 1/2, randomOrder := false, kw := {} } .sprt (1/20)) 5 []
      ≤ ((1/20 : ℚ) : ℝ) :=
  C01_iid_run_real sqrtRat _ rfl .sprt
    ⟨by decide +kernel, by decide +kernel, by decide +kernel, by decide +kernel⟩
    (1/20) (by decide +kernel) (by decide +kernel) _ lawSqrt2_isLaw lawSqrt2_mean 5

example : hitIIDK lawSqrt2
    (reportedAnyRun sqrtRat { N := none, u := 1, t := 1/2, randomOrder := true, kw := {} } .km (1/20)) 5 []
      ≤ ((1/20 : ℚ) : ℝ) :=
  C01_iid_run_real sqrtRat _ rfl .km ⟨by decide +kernel, by decide +kernel⟩
    (1/20) (by decide +kernel) (by decide +kernel) _ lawSqrt2_isLaw lawSqrt2_mean 5

example : hitIIDK lawSqrt2
    (reportedAnyRun sqrtRat { N := none, u := 1, t := 1/2, randomOrder := false, kw := { g := some (1/10) } }
      .kw (1/20)) 5 [] ≤ ((1/20 : ℚ) : ℝ) :=
  C01_iid_run_real sqrtRat _ rfl .kw ⟨by decide +kernel, by decide +kernel, by decide +kernel⟩
    (1/20) (by decide +kernel) (by decide +kernel) _ lawSqrt2_isLaw lawSqrt2_mean 5

example : hitIIDK (pmfLaw ({0, 1} : Finset ℚ).toList (fun v => if v = 0 then 2 - Real.sqrt 2 else Real.sqrt 2 - 1))
    (reportedAnyRun sqrtRat { N := none, u := 1, t := 1/2, randomOrder := true, kw := {} } .km (1/20)) 5 []
      ≤ ((1/20 : ℚ) : ℝ) := by
  obtain ⟨h1, h2⟩ := sqrt2_bounds
  refine C01_iid_run_real_finset sqrtRat _ rfl .km ⟨by decide +kernel, by decide +kernel⟩
    (1/20) (by decide +kernel) (by decide +kernel) {0, 1}
    (fun v => if v = 0 then 2 - Real.sqrt 2 else Real.sqrt 2 - 1) (by decide +kernel) ?_ ?_ ?_ 5
  · intro v hv
    rcases Finset.mem_insert.1 hv with rfl | hv
    · rw [if_pos rfl]; exact sub_nonneg.2 (h2.trans (by norm_num))
    · rw [Finset.mem_singleton.1 hv, if_neg one_ne_zero]; exact sub_nonneg.2 h1
  · rw [Finset.sum_pair zero_ne_one, if_pos rfl, if_neg one_ne_zero]
    ring
  · rw [Finset.sum_pair zero_ne_one, if_pos rfl, if_neg one_ne_zero, Rat.cast_zero, Rat.cast_one, mul_zero,
      mul_one, zero_add, sub_le_iff_le_add]
    exact h2.trans (by norm_num)

end NonVacuity

end Shangrla.C01
