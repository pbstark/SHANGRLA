/-
  C07 — consistent sampling gives every contest the first cards of its own random order.

  Theorems are about the literal models `Shangrla.Sampling.consistentSampling`, `Rounds.dataCards`
  (= `dataIndices`, the filter of `Assertion.mvrs_to_data`, read back as card indices) and
  `assignSampleNums` that the driver executes.  The statements are in terms of `sortedPairs cards` (the
  `(card, index)` pairs in sample-number order; `(cd, i)` occurs iff `cards[i] = cd`) and of `cCards`, `firstCards`,
  `inUnion`, `thrSpec` (Lemmas/Sampling.lean); all executable.

  **Votes are irrelevant** is a type-level fact: a `Card` is (which contests it lists, sample number, phantom
  flag); no function of the model has a vote argument.  The correspondence enforces it on the Python side by
  running every case with two different random vote contents.
-/
import Shangrla.Lemmas.Sampling

namespace Shangrla.C07
open Shangrla.Sampling

/-- the quantifier of C07: distinct sample numbers, one contest per id (the contests are a `dict` keyed by id),
and `0 ≤ n_c ≤ #cards listing c` -/
structure Wf (cards : List Card) (contests : List Contest) : Prop where
  nums : DistinctNums cards
  ids : (contests.map (·.id)).Nodup
  sizes : ∀ con ∈ contests, con.sampleSize ≤ (cards.filter (fun cd => cd.has con.id)).length

theorem Wf.sizes' {cards : List Card} {contests : List Contest} (h : Wf cards contests) :
    ∀ con ∈ contests, con.sampleSize ≤ (cCards (sortedPairs cards) con.id).length := by
  intro con hm; rw [cCards_length]; exact h.sizes con hm

/-- the contest as `consistent_sampling` leaves it: only the threshold may have changed -/
def outContest (cards : List Card) (con : Contest) : Contest :=
  { con with sampleThreshold := thrSpec (sortedPairs cards) con.id con.sampleSize con.sampleThreshold }

/-- the union of the per-contest prefixes, in sample-number order -/
def unionSorted (cards : List Card) (contests : List Contest) : List (Card × Nat) :=
  (sortedPairs cards).filter (inUnion (sortedPairs cards) contests)

theorem selSpec_nil (cards : List Card) (contests : List Contest) :
    selSpec cards contests [] = (unionSorted cards contests).map (·.2) :=
  congrArg (List.map (fun p : Card × Nat => p.2))
    (List.filter_congr fun p _ => Bool.or_false (inUnion (sortedPairs cards) contests p))

theorem scratch_eq {cards : List Card} {contests : List Contest} (h : Wf cards contests) :
    consistentSampling cards contests none =
      .ok ((unionSorted cards contests).map (·.2), contests.map (outContest cards),
           (List.range cards.length).map (fun i => ((unionSorted cards contests).map (·.2)).contains i)) := by
  rw [← selSpec_nil]
  exact consistentSampling_spec cards contests none h.nums h.ids h.sizes' List.nodup_nil (fun _ hi => nomatch hi)

/-- **C07, selection.** For distinct sample numbers and `0 ≤ n_c ≤ #cards listing c`, the indices returned by a
draw from scratch are the cards of `⋃_c firstCards c n_c`, listed in sample-number order: the list is the
sorted card list filtered by membership in the union, its sample numbers are strictly increasing (so no card
is repeated), and a card is selected iff it is among the first `n_c` cards of some contest `c`. -/
theorem sample_eq_union {cards : List Card} {contests : List Contest} (h : Wf cards contests) :
    ∃ out flags,
      consistentSampling cards contests none = .ok ((unionSorted cards contests).map (·.2), out, flags) ∧
      (unionSorted cards contests).Pairwise (fun a b => a.1.sampleNum < b.1.sampleNum) ∧
      (∀ i, i ∈ (unionSorted cards contests).map (·.2) ↔
        ∃ cd, cards[i]? = some cd ∧
          ∃ con ∈ contests, (cd, i) ∈ firstCards (sortedPairs cards) con.id con.sampleSize) ∧
      flags = (List.range cards.length).map (fun i => ((unionSorted cards contests).map (·.2)).contains i) := by
  refine ⟨_, _, scratch_eq h, (sortedPairs_strict h.nums).sublist List.filter_sublist, fun i => ?_, rfl⟩
  unfold unionSorted
  rw [List.mem_map]
  constructor
  · rintro ⟨⟨cd, j⟩, hp, rfl⟩
    rw [List.mem_filter, inUnion_iff] at hp
    exact ⟨cd, mem_sortedPairs.1 hp.1, hp.2⟩
  · rintro ⟨cd, hcd, hu⟩
    exact ⟨(cd, i), List.mem_filter.2 ⟨mem_sortedPairs.2 hcd, inUnion_iff.2 hu⟩, rfl⟩

/-- **C07, thresholds.** The contests come back in the same order with only the thresholds changed: for
`n_c ≥ 1` the threshold is the sample number of the `n_c`-th card listing `c` (in sample-number order), for
`n_c = 0` it is left untouched. -/
theorem threshold_eq {cards : List Card} {contests : List Contest} (h : Wf cards contests) :
    ∃ sel flags,
      consistentSampling cards contests none = .ok (sel, contests.map (outContest cards), flags) ∧
      ∀ con ∈ contests,
        (outContest cards con).id = con.id ∧ (outContest cards con).sampleSize = con.sampleSize ∧
        (1 ≤ con.sampleSize → ∃ p, (cCards (sortedPairs cards) con.id)[con.sampleSize - 1]? = some p ∧
            (outContest cards con).sampleThreshold = some p.1.sampleNum) ∧
        (con.sampleSize = 0 → (outContest cards con).sampleThreshold = con.sampleThreshold) := by
  refine ⟨_, _, scratch_eq h, fun con hm => ⟨rfl, rfl, fun h1 => ?_, fun h0 => ?_⟩⟩
  · obtain ⟨p, hp, _, ht⟩ := thrSpec_eq h1 (h.sizes' con hm) con.sampleThreshold
    exact ⟨p, hp, ht⟩
  · show thrSpec _ _ con.sampleSize _ = _
    rw [h0, thrSpec_zero]

theorem dataCards_of_union {cards : List Card} {contests : List Contest} (h : Wf cards contests)
    (Q : Card × Nat → Bool) (hQ : ∀ p, inUnion (sortedPairs cards) contests p = true → Q p = true)
    {con : Contest} (hm : con ∈ contests) (h1 : 1 ≤ con.sampleSize) :
    Rounds.dataCards true cards (outContest cards con) (((sortedPairs cards).filter Q).map (·.2)) =
      .ok ((firstCards (sortedPairs cards) con.id con.sampleSize).map (·.2)) :=
  dataCards_filter h.nums Q con h1 (h.sizes' con hm) (fun p hp => hQ p (inUnion_iff.2 ⟨con, hm, hp⟩))
    con.sampleThreshold

/-- **C07, data.** With style information, for every contest with `n_c ≥ 1` the cards of the returned sample
that pass `mvrs_to_data`'s filter (`cvr.has_contest(c) and cvr.sample_num <= sample_threshold`) are exactly the
contest's first `n_c` cards, in sample-number order — whatever else was selected for other contests. -/
theorem contest_data_eq {cards : List Card} {contests : List Contest} (h : Wf cards contests) :
    ∃ sel out flags,
      consistentSampling cards contests none = .ok (sel, out, flags) ∧ out = contests.map (outContest cards) ∧
      ∀ con ∈ contests, 1 ≤ con.sampleSize →
        Rounds.dataCards true cards (outContest cards con) sel =
          .ok ((firstCards (sortedPairs cards) con.id con.sampleSize).map (·.2)) :=
  ⟨_, _, _, scratch_eq h, rfl, fun _ hm h1 => dataCards_of_union h _ (fun _ hp => hp) hm h1⟩

theorem assignSampleNums_map {β : Type} (π : Card → β) (hπ : ∀ (cd : Card) (n : Nat), π { cd with sampleNum := n } = π cd)
    (prng : Nat → Nat) (cards : List Card) : (assignSampleNums prng cards).map π = cards.map π :=
  (List.map_map ..).trans <| (List.map_congr_left fun p _ => hπ p.1 (prng p.2)).trans <|
    (List.map_map (f := Prod.fst) (g := π)).symm.trans (congrArg (List.map π) (List.zipIdx_map_fst ..))

/-- **C07, sample numbers.** `assign_sample_nums` gives the `k`-th card of the list the `k`-th output of the
generator and changes nothing else: the numbers are a function of the generator (the seed) and the position
only — not of ids, votes, styles or phantom flags. -/
theorem sample_nums_function_of_seed_and_position (prng : Nat → Nat) (cards : List Card) :
    (assignSampleNums prng cards).map (·.sampleNum) = (List.range cards.length).map prng ∧
    (assignSampleNums prng cards).map (·.styles) = cards.map (·.styles) ∧
    (assignSampleNums prng cards).map (·.phantom) = cards.map (·.phantom) := by
  refine ⟨?_, assignSampleNums_map (·.styles) (fun _ _ => rfl) prng cards,
    assignSampleNums_map (·.phantom) (fun _ _ => rfl) prng cards⟩
  exact (List.map_map ..).trans <| (List.map_map (f := Prod.snd) (g := prng)).symm.trans <| by
    rw [List.zipIdx_map_snd, List.range_eq_range']

/-- two generators that agree on the first `#cards` outputs (same seed) give the same numbers to any two card
lists of the same length -/
theorem sample_nums_deterministic (prng prng' : Nat → Nat) (cards cards' : List Card)
    (hlen : cards.length = cards'.length) (hp : ∀ k < cards.length, prng k = prng' k) :
    (assignSampleNums prng cards).map (·.sampleNum) = (assignSampleNums prng' cards').map (·.sampleNum) := by
  rw [(sample_nums_function_of_seed_and_position prng cards).1,
      (sample_nums_function_of_seed_and_position prng' cards').1, ← hlen]
  apply List.map_congr_left
  intro k hk
  exact hp k (List.mem_range.1 hk)

/-! ### Non-vacuity -/

/-- the six cards and two contests of the suite's `test_consistent_sampling`, sample numbers permuted -/
def exCards : List Card :=
  [⟨["city_council", "measure_1"], 40, false⟩, ⟨["city_council", "measure_1"], 10, false⟩,
   ⟨["city_council", "measure_1"], 30, false⟩, ⟨["city_council"], 0, false⟩, ⟨["city_council"], 50, true⟩,
   ⟨["measure_1"], 20, false⟩]

def exContests : List Contest := [⟨"city_council", 3, none, none, 0⟩, ⟨"measure_1", 4, some 7, some 5, 0⟩]

example : Wf exCards exContests := ⟨by decide +kernel, by decide +kernel, by decide +kernel⟩
-- a size vector with a zero and the maximum
example : Wf exCards [⟨"city_council", 0, some 3, none, 0⟩, ⟨"measure_1", 4, none, none, 0⟩] :=
  ⟨by decide +kernel, by decide +kernel, by decide +kernel⟩

end Shangrla.C07
