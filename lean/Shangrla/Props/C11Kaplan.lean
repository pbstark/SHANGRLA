/-
  C11 (Kaplan tests and the SPRT) — reported p-values are well-formed and the overall value matches
  the history.

  Theorems are about `Shangrla.NM.kaplanKolmogorov`, `kaplanMarkov`, `kaplanWald`, `waldSprt`: the
  literal models of `NonnegMean.kaplan_kolmogorov / kaplan_markov / kaplan_wald / wald_sprt` that the
  driver executes.  For each test, under an explicit guard, the call returns `.ok (p, hist)` with
  `|hist| = |x|`, every entry and `p` rationals in `[0,1]` (`XR.IsP`: in particular never NaN); and
  (C11, overall value: the four `overall_is_min_or_last_*`) `p = np.min(hist)` when `random_order`,
  `p = hist[-1]` otherwise.  Outside the guard the call raises; which error on which input is stated
  per test.
-/
import Shangrla.Lemmas.NMKaplan
import Shangrla.Lemmas.NMTests
import Shangrla.Lemmas.NMMart

namespace Shangrla.C11
open Shangrla.XR Shangrla.NM

/-- what "`p` equals the smallest history entry" means: for a non-empty history of p-values,
`XR.minList hist` (`np.min`) is a p-value, is one of the entries, and is `≤` every entry -/
theorem minList_is_smallest {hist : List XR} (hne : hist ≠ []) (hP : ∀ h ∈ hist, IsP h) :
    IsP (XR.minList hist) ∧ XR.minList hist ∈ hist ∧ ∀ h ∈ hist, XR.le (XR.minList hist) h = true :=
  XR.minList_isP hne hP

theorem any_neg_false {x : List Rat} (hx : ∀ a ∈ x, 0 ≤ a) : x.any (· < 0) = false :=
  List.any_eq_false.2 (fun a ha => by rw [decide_eq_true_eq, not_lt]; exact hx a ha)

theorem any_neg_true {x : List Rat} (h : ∃ a ∈ x, a < 0) : x.any (· < 0) = true := by
  obtain ⟨a, ha, h⟩ := h
  exact List.any_eq_true.2 ⟨a, ha, decide_eq_true h⟩

/-! ## `kaplan_wald` -/

theorem kw_g_ok {g : Rat} (hg0 : 0 ≤ g) (hg1 : g ≤ 1) : (decide (g < 0) || decide (1 < g)) = false := by
  rw [decide_eq_false (not_lt.2 hg0), decide_eq_false (not_lt.2 hg1)]; rfl

theorem kw_eq (cfg : Cfg) (x : List Rat) (hne : x ≠ []) (hx : ∀ a ∈ x, 0 ≤ a)
    (hg0 : 0 ≤ cfg.kw.g.getD 0) (hg1 : cfg.kw.g.getD 0 ≤ 1) :
    kaplanWald cfg x = .ok
      (XR.npmin 1 ((1 : XR) / (if cfg.randomOrder = true then XR.maxList (kwTerms cfg x) else lastD (kwTerms cfg x))),
       (kwTerms cfg x).map (fun p => XR.npmin ((1 : XR) / p) 1)) := by
  rw [kaplanWald_eq, if_neg (ne_true_of_eq_false (kw_g_ok hg0 hg1)),
    if_neg (ne_true_of_eq_false (any_neg_false hx)), if_neg hne]

theorem kw_factor (t g a : Rat) (ht : 0 < t) (hg0 : 0 ≤ g) (hg1 : g ≤ 1) (ha : 0 ≤ a) :
    FinNN ((XR.fin ((1 - g) * a)) / (XR.fin t) + (XR.fin g)) := by
  rw [fin_div _ _ ht.ne', fin_add]
  exact ⟨_, add_nonneg (div_nonneg (mul_nonneg (sub_nonneg.2 hg1) ha) ht.le) hg0, rfl⟩

theorem kwTerms_good (cfg : Cfg) (x : List Rat) (hx : ∀ a ∈ x, 0 ≤ a) (ht : 0 < cfg.t)
    (hg0 : 0 ≤ cfg.kw.g.getD 0) (hg1 : cfg.kw.g.getD 0 ≤ 1) : ∀ T ∈ kwTerms cfg x, Good T :=
  fun T hT => (cumprodFrom_all FinNN (fun _ _ => finNN_mul) _ 1 finNN_one
    (List.forall_mem_map.2 fun a ha => kw_factor _ _ _ ht hg0 hg1 (hx a ha)) T hT).good

theorem kw_wf (cfg : Cfg) (x : List Rat) (hne : x ≠ []) (hx : ∀ a ∈ x, 0 ≤ a) (ht : 0 < cfg.t)
    (hg0 : 0 ≤ cfg.kw.g.getD 0) (hg1 : cfg.kw.g.getD 0 ≤ 1) :
    ∃ p hist, kaplanWald cfg x = .ok (p, hist) ∧ WellFormed x.length cfg.randomOrder p hist :=
  ⟨_, _, kw_eq cfg x hne hx hg0 hg1,
    finish_stat (fun _ => npmin_one_inv) (fun _ => npmin_inv_one) (length_kwTerms cfg x)
      (List.length_pos_iff.2 hne) (kwTerms_good cfg x hx ht hg0 hg1) cfg.randomOrder⟩

/-- **C11, `kaplan_wald`, range/length/NaN.**  Guard: non-empty sample of non-negative values, `t > 0`,
`0 ≤ g ≤ 1`. -/
theorem wellformed_kw (cfg : Cfg) (x : List Rat) (hne : x ≠ []) (hx : ∀ a ∈ x, 0 ≤ a) (ht : 0 < cfg.t)
    (hg0 : 0 ≤ cfg.kw.g.getD 0) (hg1 : cfg.kw.g.getD 0 ≤ 1) :
    ∃ p hist, kaplanWald cfg x = .ok (p, hist) ∧ hist.length = x.length ∧
      (∀ h ∈ hist, IsP h) ∧ IsP p :=
  wf_parts (kw_wf cfg x hne hx ht hg0 hg1)

theorem overall_is_min_or_last_kw (cfg : Cfg) (x : List Rat) (hne : x ≠ []) (hx : ∀ a ∈ x, 0 ≤ a)
    (ht : 0 < cfg.t) (hg0 : 0 ≤ cfg.kw.g.getD 0) (hg1 : cfg.kw.g.getD 0 ≤ 1)
    (p : XR) (hist : List XR) (hrun : kaplanWald cfg x = .ok (p, hist)) :
    (cfg.randomOrder = true → p = XR.minList hist) ∧
    (cfg.randomOrder = false → hist.getLast? = some p) :=
  wf_overall (kw_wf cfg x hne hx ht hg0 hg1) hrun

theorem kw_err_g (cfg : Cfg) (x : List Rat) (hg : cfg.kw.g.getD 0 < 0 ∨ 1 < cfg.kw.g.getD 0) :
    kaplanWald cfg x = .error .value := by
  rw [kaplanWald_eq, if_pos (by rw [Bool.or_eq_true, decide_eq_true_eq, decide_eq_true_eq]; exact hg)]

theorem kw_err_empty (cfg : Cfg) (hg0 : 0 ≤ cfg.kw.g.getD 0) (hg1 : cfg.kw.g.getD 0 ≤ 1) :
    kaplanWald cfg [] = .error (if cfg.randomOrder = true then .value else .index) := by
  rw [kaplanWald_eq, if_neg (ne_true_of_eq_false (kw_g_ok hg0 hg1))]
  rfl

-- non-vacuity: t = 1/2, g = 1/10, x = [1, 0, 1/2]
example : ∃ p hist, kaplanWald { N := none, u := 1, t := 1/2, randomOrder := true, kw := { g := some (1/10) } }
    [1, 0, 1/2] = .ok (p, hist) ∧ hist.length = 3 ∧ (∀ h ∈ hist, IsP h) ∧ IsP p :=
  wellformed_kw _ _ (List.cons_ne_nil _ _) (by decide +kernel) (by decide +kernel) (by decide +kernel)
    (by decide +kernel)

/-! ## `kaplan_markov` -/

theorem km_eq (cfg : Cfg) (x : List Rat) (hne : x ≠ []) (hx : ∀ a ∈ x, 0 ≤ a) :
    kaplanMarkov cfg x = .ok
      (XR.npmin 1 (if cfg.randomOrder = true then XR.minList (kmTerms cfg x) else lastD (kmTerms cfg x)),
       (kmTerms cfg x).map (fun p => XR.npmin p 1)) := by
  rw [kaplanMarkov_eq, if_neg (ne_true_of_eq_false (any_neg_false hx)), if_neg hne]

theorem km_factor (tg ag : Rat) (ht : 0 < tg) (ha : 0 ≤ ag) : Pos ((XR.fin tg) / (XR.fin ag)) := by
  rcases ha.eq_or_lt with rfl | ha
  · rw [fin_div_zero_pos ht]; trivial
  · rw [fin_div _ _ ha.ne']; exact div_pos ht ha

theorem kmTerms_good (cfg : Cfg) (x : List Rat) (hx : ∀ a ∈ x, 0 ≤ a)
    (hg : 0 ≤ cfg.kw.g.getD 0) (htg : 0 < cfg.t + cfg.kw.g.getD 0) : ∀ T ∈ kmTerms cfg x, Good T :=
  fun T hT => (cumprodFrom_all Pos (fun _ _ => pos_mul) _ 1 (show (0 : Rat) < 1 from one_pos)
    (List.forall_mem_map.2 fun a ha => km_factor _ _ htg (add_nonneg (hx a ha) hg)) T hT).good

theorem km_wf (cfg : Cfg) (x : List Rat) (hne : x ≠ []) (hx : ∀ a ∈ x, 0 ≤ a)
    (hg : 0 ≤ cfg.kw.g.getD 0) (htg : 0 < cfg.t + cfg.kw.g.getD 0) :
    ∃ p hist, kaplanMarkov cfg x = .ok (p, hist) ∧ WellFormed x.length cfg.randomOrder p hist :=
  ⟨_, _, km_eq cfg x hne hx,
    finish_pval (length_kmTerms cfg x) (List.length_pos_iff.2 hne) (kmTerms_good cfg x hx hg htg)
      cfg.randomOrder⟩

/-- **C11, `kaplan_markov`, range/length/NaN.**  Guard: non-empty sample of non-negative values,
`g ≥ 0`, `t + g > 0` (with `t = g = 0` the first factor is `0/0`). -/
theorem wellformed_km (cfg : Cfg) (x : List Rat) (hne : x ≠ []) (hx : ∀ a ∈ x, 0 ≤ a)
    (hg : 0 ≤ cfg.kw.g.getD 0) (htg : 0 < cfg.t + cfg.kw.g.getD 0) :
    ∃ p hist, kaplanMarkov cfg x = .ok (p, hist) ∧ hist.length = x.length ∧
      (∀ h ∈ hist, IsP h) ∧ IsP p :=
  wf_parts (km_wf cfg x hne hx hg htg)

theorem overall_is_min_or_last_km (cfg : Cfg) (x : List Rat) (hne : x ≠ []) (hx : ∀ a ∈ x, 0 ≤ a)
    (hg : 0 ≤ cfg.kw.g.getD 0) (htg : 0 < cfg.t + cfg.kw.g.getD 0)
    (p : XR) (hist : List XR) (hrun : kaplanMarkov cfg x = .ok (p, hist)) :
    (cfg.randomOrder = true → p = XR.minList hist) ∧
    (cfg.randomOrder = false → hist.getLast? = some p) :=
  wf_overall (km_wf cfg x hne hx hg htg) hrun

theorem km_err_neg (cfg : Cfg) (x : List Rat) (h : ∃ a ∈ x, a < 0) : kaplanMarkov cfg x = .error .value := by
  rw [kaplanMarkov_eq, if_pos (any_neg_true h)]

theorem km_err_empty (cfg : Cfg) :
    kaplanMarkov cfg [] = .error (if cfg.randomOrder = true then .value else .index) :=
  kaplanMarkov_eq cfg []

-- non-vacuity: t = 1/2, g = 0, a zero observation (factor +inf) is inside the guard
example : ∃ p hist, kaplanMarkov { N := none, u := 1, t := 1/2, randomOrder := false, kw := {} }
    [1, 0, 1/2] = .ok (p, hist) ∧ hist.length = 3 ∧ (∀ h ∈ hist, IsP h) ∧ IsP p :=
  wellformed_km _ _ (List.cons_ne_nil _ _) (by decide +kernel) (by decide +kernel) (by decide +kernel)

/-! ## `kaplan_kolmogorov` -/

theorem kk_eq (cfg : Cfg) (n : Nat) (x : List Rat) (hN : cfg.N = some n) (hne : x ≠ [])
    (hx : ∀ a ∈ x, 0 ≤ a) (hlen : x.length ≤ n) :
    kaplanKolmogorov cfg x = .ok
      (XR.pymin ((1 : XR) / (if cfg.randomOrder = true then XR.maxList (kkMasked cfg n x)
          else lastD (kkMasked cfg n x))) 1,
       (kkMasked cfg n x).map (fun T => XR.npmin ((1 : XR) / T) 1)) := by
  have hn : n ≠ 0 := by
    rintro rfl
    exact hne (List.length_eq_zero_iff.1 (Nat.le_zero.1 hlen))
  rw [kaplanKolmogorov_eq, if_neg (ne_true_of_eq_false (any_neg_false hx)), hN]
  exact (if_neg (not_lt.2 hlen)).trans ((if_neg hn).trans (if_neg hne))

/-- the null mean before draw `j+1` (0-based index `j`; observations `x_1, x_2, …`):
`(N (t+g) − Σ_{k≤j} (x_k+g)) / (N − (j+1) + 1)` -/
def kkMu (cfg : Cfg) (n : Nat) (x : List Rat) (j : Nat) : Rat :=
  mu (some n) (cfg.t + cfg.kw.g.getD 0) (psum (x.map (· + cfg.kw.g.getD 0)) j) (j + 1)

theorem kkM_getElem? (cfg : Cfg) (n : Nat) (x : List Rat) (j : Nat) (hj : j < x.length) :
    (kkM cfg n x)[j]? = some (kkMu cfg n x j) := by
  rw [kkM, kkMu, nullMeansFrom_getElem? _ _ _ _ _ _ (by rwa [List.length_map]), zero_add, Nat.add_comm 1 j]

theorem kkFactors_getElem? (cfg : Cfg) (n : Nat) (x : List Rat) (j : Nat) (a : Rat) (ha : x[j]? = some a) :
    (kkFactors cfg n x)[j]? = some ((XR.fin (a + cfg.kw.g.getD 0)) / (XR.fin (kkMu cfg n x j))) :=
  getElem?_map_zip _ (by rw [List.getElem?_map, ha]; rfl)
    (kkM_getElem? cfg n x j (lt_length_of_getElem? ha))

theorem kkMasked_getElem? (cfg : Cfg) (n : Nat) (x : List Rat) (j : Nat) (T : XR) (hj : j < x.length)
    (hT : (XR.cumprod (kkFactors cfg n x))[j]? = some T) :
    (kkMasked cfg n x)[j]? =
      some (if kkMu cfg n x j < 0 then XR.pinf else if T.isNan = true then (1 : XR) else T) :=
  getElem?_map_zip _ (kkM_getElem? cfg n x j hj) (by rw [List.getElem?_map, hT]; rfl)

theorem kkMasked_good (cfg : Cfg) (n : Nat) (x : List Rat) (hx : ∀ a ∈ x, 0 ≤ a) (hlen : x.length ≤ n)
    (hg : 0 ≤ cfg.kw.g.getD 0) : ∀ T ∈ kkMasked cfg n x, Good T := by
  apply getElem?_mem_all
  intro j M hM
  have hj : j < x.length := length_kkMasked cfg n x ▸ lt_length_of_getElem? hM
  have hjF : j < (kkFactors cfg n x).length := by rwa [length_kkFactors]
  by_cases hneg : kkMu cfg n x j < 0
  · obtain ⟨T, hT⟩ := exists_getElem? (XR.cumprod (kkFactors cfg n x)) (by rwa [length_cumprod])
    rw [kkMasked_getElem? cfg n x j T hj hT, if_pos hneg] at hM
    rw [← Option.some.inj hM]; trivial
  · -- the null mean is non-negative at `j`, hence at every earlier draw: all factors are good or nan
    have hxg : ∀ a ∈ x.map (· + cfg.kw.g.getD 0), 0 ≤ a :=
      List.forall_mem_map.2 fun b hb => add_nonneg (hx b hb) hg
    have hfac : ∀ i ≤ j, ∀ f, (kkFactors cfg n x)[i]? = some f → GN f := by
      intro i hi f hf
      obtain ⟨a, ha⟩ := exists_getElem? x (lt_of_le_of_lt hi hj)
      rw [kkFactors_getElem? cfg n x i a ha] at hf
      rw [← Option.some.inj hf]
      refine gn_div (add_nonneg (hx a (List.mem_of_getElem? ha)) hg) ?_
      have := mu_nonneg_of_later (n := n) hxg (cfg.t + cfg.kw.g.getD 0) 0 hi
        (j := i + 1) (j' := j + 1) (by omega) (by omega) (by rw [zero_add]; exact not_lt.1 hneg)
      rwa [zero_add] at this
    obtain ⟨T, hT, hGN⟩ := cumprodFrom_getElem?_closed GN (fun _ _ => gn_mul) (kkFactors cfg n x) 1 j
      (Or.inr good_one) hjF hfac
    rw [kkMasked_getElem? cfg n x j T hj hT, if_neg hneg] at hM
    rw [← Option.some.inj hM]
    rcases hGN with rfl | hG
    · exact good_one
    · rw [hG.isNan]; exact hG

theorem kk_wf (cfg : Cfg) (n : Nat) (x : List Rat) (hN : cfg.N = some n) (hne : x ≠ [])
    (hx : ∀ a ∈ x, 0 ≤ a) (hlen : x.length ≤ n) (hg : 0 ≤ cfg.kw.g.getD 0) :
    ∃ p hist, kaplanKolmogorov cfg x = .ok (p, hist) ∧ WellFormed x.length cfg.randomOrder p hist :=
  ⟨_, _, kk_eq cfg n x hN hne hx hlen,
    finish_stat (fun _ => pymin_inv_one) (fun _ => npmin_inv_one) (length_kkMasked cfg n x)
      (List.length_pos_iff.2 hne) (kkMasked_good cfg n x hx hlen hg) cfg.randomOrder⟩

/-- **C11, `kaplan_kolmogorov`, range/length/NaN.**  Guard: finite `N`, `1 ≤ |x| ≤ N`, observations
`≥ 0`, `g ≥ 0`.  No condition on `t` is needed: a null mean that is `0` gives `0/0` (set to 1) or `+inf`,
a negative one gives `+inf`. -/
theorem wellformed_kk (cfg : Cfg) (n : Nat) (x : List Rat) (hN : cfg.N = some n) (hne : x ≠ [])
    (hx : ∀ a ∈ x, 0 ≤ a) (hlen : x.length ≤ n) (hg : 0 ≤ cfg.kw.g.getD 0) :
    ∃ p hist, kaplanKolmogorov cfg x = .ok (p, hist) ∧ hist.length = x.length ∧
      (∀ h ∈ hist, IsP h) ∧ IsP p :=
  wf_parts (kk_wf cfg n x hN hne hx hlen hg)

theorem overall_is_min_or_last_kk (cfg : Cfg) (n : Nat) (x : List Rat) (hN : cfg.N = some n) (hne : x ≠ [])
    (hx : ∀ a ∈ x, 0 ≤ a) (hlen : x.length ≤ n) (hg : 0 ≤ cfg.kw.g.getD 0)
    (p : XR) (hist : List XR) (hrun : kaplanKolmogorov cfg x = .ok (p, hist)) :
    (cfg.randomOrder = true → p = XR.minList hist) ∧
    (cfg.randomOrder = false → hist.getLast? = some p) :=
  wf_overall (kk_wf cfg n x hN hne hx hlen hg) hrun

/-- error clause: with `N = np.inf`, `int(N)` raises `OverflowError` (for any sample without negative values) -/
theorem kk_err_infinite (cfg : Cfg) (x : List Rat) (hN : cfg.N = none) (hx : ∀ a ∈ x, 0 ≤ a) :
    kaplanKolmogorov cfg x = .error .overflow := by
  rw [kaplanKolmogorov_eq, if_neg (ne_true_of_eq_false (any_neg_false hx)), hN]

theorem kk_err_neg (cfg : Cfg) (x : List Rat) (h : ∃ a ∈ x, a < 0) :
    kaplanKolmogorov cfg x = .error .assertion := by
  rw [kaplanKolmogorov_eq, if_pos (any_neg_true h)]

theorem kk_err_long (cfg : Cfg) (n : Nat) (x : List Rat) (hN : cfg.N = some n) (hlen : n < x.length) :
    kaplanKolmogorov cfg x = .error .assertion := by
  rw [kaplanKolmogorov_eq, hN]
  by_cases h : x.any (· < 0) = true
  · exact if_pos h
  · exact (if_neg h).trans (if_pos hlen)

/-- error clause: the empty sample (`sjm`: `j[-1]` on an empty array raises `IndexError`); `N ≥ 1` -/
theorem kk_err_empty (cfg : Cfg) (n : Nat) (hN : cfg.N = some n) (hn : n ≠ 0) :
    kaplanKolmogorov cfg [] = .error .index := by
  simp [kaplanKolmogorov_eq, hN, hn]

/-- error clause: `N = 0` raises `AssertionError` ("Population size not positive!") whatever the sample -/
theorem kk_err_N0 (cfg : Cfg) (x : List Rat) (hN : cfg.N = some 0) :
    kaplanKolmogorov cfg x = .error .assertion := by
  rw [kaplanKolmogorov_eq, hN]
  by_cases h : x.any (· < 0) = true
  · exact if_pos h
  · refine (if_neg h).trans ?_
    by_cases h0 : x.length > 0
    · exact if_pos h0
    · exact (if_neg h0).trans (if_pos rfl)

-- non-vacuity: N = 4, t = 1/2, g = 0 and a sample that drives the null mean to 0 and below
example : ∃ p hist, kaplanKolmogorov { N := some 4, u := 1, t := 1/2, randomOrder := true, kw := {} }
    [1, 1, 0, 1] = .ok (p, hist) ∧ hist.length = 4 ∧ (∀ h ∈ hist, IsP h) ∧ IsP p :=
  wellformed_kk _ 4 _ rfl (List.cons_ne_nil _ _) (by decide +kernel) (by decide +kernel) (by decide +kernel)

/-! ## `wald_sprt` -/

theorem sprt_eq (cfg : Cfg) (x : List Rat) (hne : x ≠ []) (hx : ∀ a ∈ x, 0 ≤ a ∧ a ≤ cfg.u)
    (hro : cfg.N ≠ none → cfg.randomOrder = true) :
    waldSprt cfg x = .ok (pAndHist cfg.randomOrder (sprtMasked cfg x)) := by
  have h2 : x.any (fun a => a < 0 || cfg.u < a) = false :=
    List.any_eq_false.2 fun a ha => by
      rw [Bool.or_eq_true, decide_eq_true_eq, decide_eq_true_eq, not_or, not_lt, not_lt]; exact hx a ha
  have h3 : (cfg.N.isSome && !cfg.randomOrder) = false := by
    cases hN : cfg.N with
    | none => rfl
    | some n => rw [hro (hN ▸ Option.some_ne_none n)]; rfl
  rw [waldSprt_eq, if_neg (ne_true_of_eq_false h2), if_neg (ne_true_of_eq_false h3), if_neg hne]

/-- the null mean before draw `j+1` (0-based index `j`): `(N t − Σ_{k≤j} x_k)/(N − (j+1) + 1)`, or `t` -/
def sprtMu (cfg : Cfg) (x : List Rat) (j : Nat) : Rat := mu cfg.N cfg.t (psum x j) (j + 1)

/-- the alternative mean before draw `j+1` truncated above:
`min(u, (N eta − Σ_{k≤j} x_k)/(N − (j+1) + 1))`, or `eta` -/
def sprtEt0 (cfg : Cfg) (x : List Rat) (j : Nat) : Rat :=
  match cfg.N with
  | some n => min cfg.u (mu (some n) (sprtEta cfg) (psum x j) (j + 1))
  | none => sprtEta cfg

/-- the alternative mean actually used before draw `j+1`: not below the null mean -/
def sprtEt (cfg : Cfg) (x : List Rat) (j : Nat) : Rat := max (sprtEt0 cfg x j) (sprtMu cfg x j)

/-- a sample of `len` draws is not larger than the population (no constraint when `N = np.inf`) -/
def FitsN (N : Option Nat) (len : Nat) : Prop := ∀ n, N = some n → len ≤ n

/-- entry `j` of a vector `wald_sprt` computes as `(N c − S_j)/(N − (j+1) + 1)`, within the population -/
theorem sprtVec_getElem? {β} (g : XR → β) (n : Nat) (c : Rat) (x : List Rat) (j : Nat) (hj : j < x.length)
    (hjn : j + 1 ≤ n) :
    (mapIdxFrom (fun j s => g ((XR.fin ((n : Rat) * c - s)) / (XR.fin ((n : Rat) - (j : Rat) + 1)))) 1
      (prefixSums x))[j]? = some (g (XR.fin (mu (some n) c (psum x j) (j + 1)))) := by
  rw [prefixSums, mapIdxFrom_getElem?, prefixSumsFrom_getElem? x 0 j hj, zero_add, Nat.add_comm 1 j,
    Option.map_some, fin_div _ _ (den_pos hjn).ne']
  rfl

theorem sprtM_getElem? (cfg : Cfg) (x : List Rat) (hfit : FitsN cfg.N x.length) (j : Nat) (hj : j < x.length) :
    (sprtM cfg x)[j]? = some (XR.fin (sprtMu cfg x j)) := by
  unfold sprtM sprtMu
  cases hN : cfg.N with
  | none => rw [List.getElem?_map, List.getElem?_eq_getElem hj]; rfl
  | some n => exact sprtVec_getElem? id n cfg.t x j hj (Nat.succ_le_of_lt (lt_of_lt_of_le hj (hfit n hN)))

theorem sprtE0_getElem? (cfg : Cfg) (x : List Rat) (hfit : FitsN cfg.N x.length) (j : Nat) (hj : j < x.length) :
    (sprtE0 cfg x)[j]? = some (XR.fin (sprtEt0 cfg x j)) := by
  unfold sprtE0 sprtEt0
  cases hN : cfg.N with
  | none => rw [List.getElem?_map, List.getElem?_eq_getElem hj]; rfl
  | some n =>
    rw [← npmin_fin]
    exact sprtVec_getElem? (XR.npmin (.fin cfg.u)) n (sprtEta cfg) x j hj
      (Nat.succ_le_of_lt (lt_of_lt_of_le hj (hfit n hN)))

theorem sprtE_getElem? (cfg : Cfg) (x : List Rat) (hfit : FitsN cfg.N x.length) (j : Nat) (hj : j < x.length) :
    (sprtE cfg x)[j]? = some (XR.fin (sprtEt cfg x j)) := by
  rw [sprtEt, ← npmax_fin]
  exact getElem?_map_zip _ (sprtE0_getElem? cfg x hfit j hj) (sprtM_getElem? cfg x hfit j hj)

theorem sprtFactors_getElem? (cfg : Cfg) (x : List Rat) (hfit : FitsN cfg.N x.length) (j : Nat) (a : Rat)
    (ha : x[j]? = some a) :
    (sprtFactors cfg x)[j]? =
      some (sprtFactor cfg.u a (XR.fin (sprtEt cfg x j)) (XR.fin (sprtMu cfg x j))) := by
  have hj : j < x.length := lt_length_of_getElem? ha
  rw [sprtFactors, getElem?_map_zip _ ha
    (getElem?_zip_some (sprtE_getElem? cfg x hfit j hj) (sprtM_getElem? cfg x hfit j hj))]

theorem sprtMasked_getElem? (cfg : Cfg) (x : List Rat) (hfit : FitsN cfg.N x.length) (j : Nat) (T : XR)
    (hj : j < x.length) (hT : (XR.cumprod (sprtFactors cfg x))[j]? = some T) :
    (sprtMasked cfg x)[j]? = some (maskTermX cfg.u (2 * eps) (1 / 1000000) (XR.fin (sprtMu cfg x j)) T) :=
  getElem?_map_zip _ (sprtM_getElem? cfg x hfit j hj) hT

theorem sprtFactor_fin (u a e m : Rat) (hm : m ≠ 0) (hum : u - m ≠ 0) (hu : u ≠ 0) :
    sprtFactor u a (XR.fin e) (XR.fin m) = XR.fin (alphaFactorQ u m a e) := by
  rw [sprtFactor, fin_sub u m]
  exact alphaExpr_fin u m a e hm hum hu

/-- the guard of the SPRT theorems, on the configuration and the sample -/
structure SprtGuard (cfg : Cfg) (x : List Rat) : Prop where
  ne : x ≠ []
  range : ∀ a ∈ x, 0 ≤ a ∧ a ≤ cfg.u
  fits : FitsN cfg.N x.length
  t_pos : 0 < cfg.t
  t_lt_u : cfg.t < cfg.u
  t_le_eta : cfg.t ≤ sprtEta cfg
  eta_le_u : sprtEta cfg ≤ cfg.u
  ro : cfg.N ≠ none → cfg.randomOrder = true

/-- regular null means at `j` force regular null means and non-negative truncated alternatives before `j` -/
theorem sprt_regular_before (cfg : Cfg) (x : List Rat) (G : SprtGuard cfg x) (j : Nat) (hj : j < x.length)
    (h0 : 0 < sprtMu cfg x j) (hu : sprtMu cfg x j < cfg.u) (i : Nat) (hi : i ≤ j) :
    0 < sprtMu cfg x i ∧ sprtMu cfg x i < cfg.u ∧ 0 ≤ sprtEt cfg x i ∧ sprtEt cfg x i ≤ cfg.u := by
  have key : 0 < sprtMu cfg x i ∧ sprtMu cfg x i < cfg.u := by
    unfold sprtMu at *
    cases hN : cfg.N with
    | none => exact ⟨G.t_pos, G.t_lt_u⟩
    | some n =>
      rw [hN] at h0 hu
      have hjn : j + 1 ≤ n := Nat.succ_le_of_lt (lt_of_lt_of_le hj (G.fits n hN))
      have hmi := mu_pos_of_later (n := n) (fun a ha => (G.range a ha).1) cfg.t 0 hi
        (le_trans (Nat.succ_le_succ hi) hjn) hjn (by rwa [zero_add])
      rw [zero_add] at hmi
      exact ⟨hmi, mu_lt_u_of_later (G.t_pos.trans G.t_lt_u).le (fun a ha => (G.range a ha).2) cfg.t hi hjn hu⟩
  have he0 : sprtEt0 cfg x i ≤ cfg.u := by
    unfold sprtEt0
    cases cfg.N with
    | none => exact G.eta_le_u
    | some n => exact min_le_left _ _
  exact ⟨key.1, key.2, le_trans key.1.le (le_max_right _ _), max_le he0 key.2.le⟩

theorem sprtMasked_good (cfg : Cfg) (x : List Rat) (G : SprtGuard cfg x) : ∀ T ∈ sprtMasked cfg x, Good T := by
  apply getElem?_mem_all
  intro j M hM
  have hj : j < x.length := length_sprtMasked cfg x ▸ lt_length_of_getElem? hM
  have hjF : j < (sprtFactors cfg x).length := by rwa [length_sprtFactors]
  have hupos : 0 < cfg.u := G.t_pos.trans G.t_lt_u
  obtain ⟨T, hT⟩ := exists_getElem? (XR.cumprod (sprtFactors cfg x)) (by rwa [length_cumprod])
  rw [sprtMasked_getElem? cfg x G.fits j T hj hT] at hM
  rw [← Option.some.inj hM]
  refine maskTermX_good _ _ _ _ _ (mul_nonneg zero_le_two eps_pos.le) (by norm_num) fun h0 hu => ?_
  -- regular null means up to `j`: every factor so far is a non-negative rational
  have hfac : ∀ i ≤ j, ∀ f, (sprtFactors cfg x)[i]? = some f → FinNN f := by
    intro i hi f hf
    obtain ⟨a, ha⟩ := exists_getElem? x (lt_of_le_of_lt hi hj)
    obtain ⟨hm0, hmu, he0, heu⟩ := sprt_regular_before cfg x G j hj h0 hu i hi
    rw [sprtFactors_getElem? cfg x G.fits i a ha,
      sprtFactor_fin _ _ _ _ hm0.ne' (sub_pos.2 hmu).ne' hupos.ne'] at hf
    have hax := G.range a (List.mem_of_getElem? ha)
    exact ⟨_, alphaFactorQ_nonneg _ _ _ _ hm0 hmu hax.1 hax.2 he0 heu, (Option.some.inj hf).symm⟩
  obtain ⟨T', hT', hC⟩ := cumprodFrom_getElem?_closed FinNN (fun _ _ => finNN_mul) (sprtFactors cfg x) 1 j
    finNN_one hjF hfac
  exact Option.some.inj (hT.symm.trans hT') ▸ hC.good

theorem sprt_wf (cfg : Cfg) (x : List Rat) (G : SprtGuard cfg x) :
    ∃ p hist, waldSprt cfg x = .ok (p, hist) ∧ WellFormed x.length cfg.randomOrder p hist :=
  ⟨_, _, sprt_eq cfg x G.ne G.range G.ro,
    finish_stat (fun _ => pymin_one_inv) (fun _ => npmin_one_inv) (length_sprtMasked cfg x)
      (List.length_pos_iff.2 G.ne) (sprtMasked_good cfg x G) cfg.randomOrder⟩

/-- **C11, `wald_sprt`, range/length/NaN.**  Guard (`SprtGuard`): non-empty sample in `[0,u]`, no longer
than a finite population, `0 < t < u`, alternative `eta` (the attribute, or its default `u(1−eps)`) with
`t ≤ eta ≤ u`, and `random_order = True` when `N` is finite. -/
theorem wellformed_sprt (cfg : Cfg) (x : List Rat) (G : SprtGuard cfg x) :
    ∃ p hist, waldSprt cfg x = .ok (p, hist) ∧ hist.length = x.length ∧
      (∀ h ∈ hist, IsP h) ∧ IsP p :=
  wf_parts (sprt_wf cfg x G)

theorem overall_is_min_or_last_sprt (cfg : Cfg) (x : List Rat) (G : SprtGuard cfg x)
    (p : XR) (hist : List XR) (hrun : waldSprt cfg x = .ok (p, hist)) :
    (cfg.randomOrder = true → p = XR.minList hist) ∧
    (cfg.randomOrder = false → hist.getLast? = some p) :=
  wf_overall (sprt_wf cfg x G) hrun

theorem sprt_err_not_random (cfg : Cfg) (n : Nat) (x : List Rat) (hN : cfg.N = some n)
    (hro : cfg.randomOrder = false) : waldSprt cfg x = .error .value := by
  rw [waldSprt_eq, hN, hro]
  by_cases h : x.any (fun a => a < 0 || cfg.u < a) = true
  · exact if_pos h
  · exact (if_neg h).trans (if_pos rfl)

theorem sprt_err_range (cfg : Cfg) (x : List Rat) (h : ∃ a ∈ x, a < 0 ∨ cfg.u < a) :
    waldSprt cfg x = .error .value := by
  obtain ⟨a, ha, h⟩ := h
  rw [waldSprt_eq,
    if_pos (List.any_eq_true.2 ⟨a, ha, by rwa [Bool.or_eq_true, decide_eq_true_eq, decide_eq_true_eq]⟩)]

/-- error clause: the empty sample (`np.max` of an empty array: `ValueError`; `terms[-1]`: `IndexError`) -/
theorem sprt_err_empty (cfg : Cfg) (hro : cfg.N ≠ none → cfg.randomOrder = true) :
    waldSprt cfg [] = .error (if cfg.randomOrder = true then .value else .index) := by
  rw [waldSprt_eq]
  cases hN : cfg.N with
  | none => rfl
  | some n => rw [hro (hN ▸ Option.some_ne_none n)]; rfl

-- non-vacuity: N = 5, u = 1, t = 1/2, eta = 3/4, random order
example : SprtGuard { N := some 5, u := 1, t := 1/2, randomOrder := true, kw := { eta := some (3/4) } }
    [1, 0, 1/2, 1] where
  ne := List.cons_ne_nil _ _
  range := by decide +kernel
  fits := by rintro n ⟨⟩; decide
  t_pos := by decide +kernel
  t_lt_u := by decide +kernel
  t_le_eta := by decide +kernel
  eta_le_u := by decide +kernel
  ro := fun _ => rfl

end Shangrla.C11
