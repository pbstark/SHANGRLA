/-
  The audit-level risk limit: C09 and C01 composed.

  `summarize_status` reports the audit complete only when every assertion's p-value is at most its contest's risk
  limit (C09, `C09.complete_after_set`); the p-value of a false assertion — the population of its assorter
  values has mean at most the null mean — is ever at most alpha with probability at most alpha (C01).
  Probabilities are over the uniformly random order in which the `n` cards are drawn without replacement (`hitG`).

  The cards are of an arbitrary type `α` (a manually read card paired with its CVR, a phantom, ...); the data of
  an assertion is a function of the drawn cards (`mvrs_to_data`: C03, C06, C08), its test any function
  of the data whose p-value is sequentially valid (`hC01`; discharged for `NonnegMean.test` by the C01 theorems).
-/
import Shangrla.Props.C09
import Shangrla.Props.C01Run
import Shangrla.Model.AuditLoop

namespace Shangrla.RiskLimit
open Shangrla Shangrla.Ville Shangrla.Status Shangrla.AuditLoop

/-- the draw tree over items of any type: probability that `ev` holds for some prefix of a uniformly random
ordering of `R` appended to `h`.  `Ville.hitEv`, on which the C01 theorems are stated, is the case `α = ℚ`
(`hitEv_eq_hitG`). -/
def hitG {α : Type} (ev : List α → Bool) : (fuel : Nat) → List α → List α → ℚ
  | 0, _, h => if ev h then 1 else 0
  | fuel + 1, R, h =>
    if ev h then 1
    else if R = [] then 0
    else avgIdx R.length (fun i => match R[i]? with
      | some a => hitG ev fuel (R.eraseIdx i) (h ++ [a])
      | none => 0)

theorem avgIdx_congr {n : Nat} (f g : Nat → ℚ) (h : ∀ i < n, f i = g i) : avgIdx n f = avgIdx n g := by
  unfold avgIdx
  congr 2
  exact List.map_congr_left (fun i hi => h i (List.mem_range.mp hi))

theorem hitG_map {α : Type} (f : α → ℚ) (ev : List ℚ → Bool) :
    ∀ fuel (R h : List α), hitG (fun h => ev (h.map f)) fuel R h = hitEv ev fuel (R.map f) (h.map f) := by
  intro fuel
  induction fuel with
  | zero => intro R h; rfl
  | succ fuel ih =>
    intro R h
    unfold hitG hitEv
    simp only [List.map_eq_nil_iff, List.length_map]
    congr 2
    apply avgIdx_congr
    intro i hi
    rw [List.getElem?_eq_getElem hi]
    simp only []
    rw [ih, List.eraseIdx_map]
    simp [hi]

theorem hitEv_eq_hitG (ev : List ℚ → Bool) (fuel : Nat) (R h : List ℚ) : hitEv ev fuel R h = hitG ev fuel R h := by
  simpa using (hitG_map id ev fuel R h).symm

theorem hitG_of_ev {α : Type} {ev : List α → Bool} {h : List α} (he : ev h = true) (fuel : Nat) (R : List α) :
    hitG ev fuel R h = 1 := by
  cases fuel <;> simp [hitG, he]

theorem hitG_nil {α : Type} (ev : List α → Bool) (fuel : Nat) (h : List α) :
    hitG ev fuel [] h = if ev h then 1 else 0 := by
  cases fuel
  · rfl
  · rw [hitG, if_pos rfl]

theorem hitG_le_one {α : Type} (ev : List α → Bool) : ∀ fuel (R h : List α), hitG ev fuel R h ≤ 1 := by
  intro fuel
  induction fuel with
  | zero => intro R h; rw [hitG]; split <;> norm_num
  | succ fuel ih =>
    intro R h
    by_cases he : ev h = true
    · rw [hitG_of_ev he]
    by_cases hR : R = []
    · rw [hR, hitG_nil, if_neg he]; exact zero_le_one
    rw [hitG, if_neg he, if_neg hR]
    have hpos := List.length_pos_iff.mpr hR
    exact (avgIdx_le hpos _ _ fun i _ => by split; exact ih _ _; exact zero_le_one).trans_eq
      (avgIdx_const _ hpos 1)

theorem hitG_mono {α : Type} (ev₁ ev₂ : List α → Bool) (himp : ∀ h, ev₁ h = true → ev₂ h = true) :
    ∀ fuel (R h : List α), hitG ev₁ fuel R h ≤ hitG ev₂ fuel R h := by
  intro fuel
  induction fuel with
  | zero =>
    intro R h
    unfold hitG
    by_cases h1 : ev₁ h = true
    · rw [if_pos h1, if_pos (himp h h1)]
    · rw [if_neg h1]; split <;> norm_num
  | succ fuel ih =>
    intro R h
    by_cases h2 : ev₂ h = true
    · rw [hitG_of_ev h2]; exact hitG_le_one _ _ _ _
    · have h1 : ¬ ev₁ h = true := fun h1 => h2 (himp h h1)
      unfold hitG
      rw [if_neg h1, if_neg h2]
      split
      · exact le_refl _
      · rename_i hR
        exact avgIdx_le (List.length_pos_iff.mpr hR) _ _ (fun i _ => by split; exact ih _ _; exact le_refl _)

/-! ### an audit reported complete has every p-value at most its contest's risk limit -/

theorem le_testOn {α : Type} (data : String → String → α → ℚ) (T : String → String → SeqTest) (h : List α)
    (cid name : String) (alpha : ℚ) :
    XR.le (testOn data T h cid name).1 (XR.fin alpha) = pLe (T cid name) alpha (h.map (data cid name)) := by
  unfold testOn pLe
  cases T cid name (h.map (data cid name)) <;> rfl

theorem complete_forces {α : Type} (data : String → String → α → ℚ) (T : String → String → SeqTest)
    (s : State) (c : Contest) (hc : c ∈ s) (a : Assertion) (ha : a ∈ c.assertions) (h : List α)
    (hcomp : auditComplete data T s h = true) :
    pLe (T c.id a.name) c.riskLimit (h.map (data c.id a.name)) = true := by
  rw [← le_testOn]
  exact ((C09.complete_after_set (testOn data T h) s).1 hcomp c hc).2 a ha

/-- the status after `set_p_values`, as a Boolean in the tests' verdicts (C09).  `&&` skips its second argument when
the first is `false`, which the model's loop over all assertions does not: the exact examples are evaluated on this
form. -/
theorem auditComplete_eq {α : Type} (data : String → String → α → ℚ) (T : String → String → SeqTest)
    (s : State) (h : List α) :
    auditComplete data T s h = s.all (fun c => decide (0 ≤ c.riskLimit) &&
      c.assertions.all (fun a => pLe (T c.id a.name) c.riskLimit (h.map (data c.id a.name)))) := by
  rw [Bool.eq_iff_iff]
  unfold auditComplete
  simp only [C09.complete_after_set, le_testOn, List.all_eq_true, Bool.and_eq_true, decide_eq_true_eq]

theorem anyLe_of_pLe {T : SeqTest} {alpha : ℚ} {d : List ℚ} (h : pLe T alpha d = true) :
    C01.anyLe alpha (T d) = true := by
  unfold pLe at h
  unfold C01.anyLe
  cases hT : T d with
  | ok r => rw [hT] at h; simp only [Bool.or_eq_true]; exact Or.inl h
  | error e => rw [hT] at h; cases h

theorem audit_hit_le {α : Type} (data : String → String → α → ℚ) (T : String → String → SeqTest)
    (s : State) (c : Contest) (hc : c ∈ s) (a : Assertion) (ha : a ∈ c.assertions) (ev : List ℚ → Bool)
    (hev : ∀ d, pLe (T c.id a.name) c.riskLimit d = true → ev d = true) (fuel : Nat) (R h : List α) :
    hitG (auditComplete data T s) fuel R h
      ≤ hitEv ev fuel (R.map (data c.id a.name)) (h.map (data c.id a.name)) := by
  rw [← hitG_map]
  exact hitG_mono _ _ (fun h hcomp => hev _ (complete_forces data T s c hc a ha h hcomp)) _ _ _

/-- **Risk limit of the audit.**  `cards` is the population of `n` cards; one assertion `a` of one contest `c`
is false in the sense that the test applied to it is sequentially valid on the population of its data values
(`hC01`: the conclusion of the C01 theorems for a null population).  Then, whatever the other assertions, contests,
assorters and tests are, the probability that `summarize_status` after `set_p_values` ever reports the audit
complete — after any number of draws — is at most `c`'s risk limit. -/
theorem audit_risk_limit {α : Type} (data : String → String → α → ℚ) (T : String → String → SeqTest)
    (s : State) (c : Contest) (hc : c ∈ s) (a : Assertion) (ha : a ∈ c.assertions)
    (cards : List α)
    (hC01 : hitEv (pLe (T c.id a.name) c.riskLimit) cards.length (cards.map (data c.id a.name)) [] ≤ c.riskLimit) :
    hitG (auditComplete data T s) cards.length cards [] ≤ c.riskLimit :=
  le_trans (audit_hit_le data T s c hc a ha _ (fun _ h => h) _ _ _) hC01

/-- the same with the C01 conclusion in its strong form (overall p-value OR any history entry `≤ alpha`) -/
theorem audit_risk_limit_any {α : Type} (data : String → String → α → ℚ) (T : String → String → SeqTest)
    (s : State) (c : Contest) (hc : c ∈ s) (a : Assertion) (ha : a ∈ c.assertions)
    (cards : List α)
    (hC01 : hitEv (fun d => C01.anyLe c.riskLimit (T c.id a.name d)) cards.length
      (cards.map (data c.id a.name)) [] ≤ c.riskLimit) :
    hitG (auditComplete data T s) cards.length cards [] ≤ c.riskLimit :=
  le_trans (audit_hit_le data T s c hc a ha _ (fun _ => anyLe_of_pLe) _ _ _) hC01

/-- **instance: the false assertion is tested by ANY shipped test / estimator / bet inside its documented
parameter range** (`NonnegMean.test` = `run`, `C01.DocumentedFinite`: ALPHA with the three estimators, the
betting martingale with both bets, Kaplan-Kolmogorov, Wald's SPRT), sampling without replacement. -/
theorem audit_risk_limit_run {α : Type} (data : String → String → α → ℚ)
    (T : String → String → SeqTest) (s : State) (c : Contest) (hc : c ∈ s) (a : Assertion)
    (ha : a ∈ c.assertions) (cards : List α) (sqrtF : ℚ → ℚ) (cfg : NM.Cfg) (test : NM.Test)
    (hN : cfg.N = some cards.length)
    (hT : T c.id a.name = NM.run sqrtF cfg test)
    (hdoc : C01.DocumentedFinite sqrtF cfg test)
    (hr0 : 0 < c.riskLimit) (hr1 : c.riskLimit < 1)
    (hrange : ∀ x ∈ cards, 0 ≤ data c.id a.name x ∧ data c.id a.name x ≤ cfg.u)
    (hnull : (cards.map (data c.id a.name)).sum ≤ (cards.length : ℚ) * cfg.t) :
    hitG (auditComplete data T s) cards.length cards [] ≤ c.riskLimit := by
  apply audit_risk_limit_any data T s c hc a ha cards
  rw [hT, ← List.length_map (data c.id a.name)]
  exact C01.C01_finite_run sqrtF cfg _ hN test hdoc c.riskLimit hr0 hr1 _ (List.length_map _)
    (List.forall_mem_map.2 hrange) hnull

/-- **instance: the false assertion is tested by ALPHA with the default estimator** (`alpha_mart`,
`fixed_alternative_mean`), sampling without replacement from `n = cards.length` cards whose values for that
assertion lie in `[0,u]` and average at most the null mean `t`. -/
theorem audit_risk_limit_alpha_fixed {α : Type} (data : String → String → α → ℚ)
    (T : String → String → SeqTest) (s : State) (c : Contest) (hc : c ∈ s) (a : Assertion)
    (ha : a ∈ c.assertions) (cards : List α) (cfg : NM.Cfg) (hN : cfg.N = some cards.length)
    (hT : T c.id a.name = NM.alphaMart cfg (NM.fixedAlternativeMean cfg))
    (hu : 0 ≤ cfg.u) (hat : 0 ≤ cfg.atol) (hat2 : cfg.atol < 1 / 2) (hrt : 0 ≤ cfg.rtol)
    (hr0 : 0 < c.riskLimit) (hr1 : c.riskLimit < 1)
    (hrange : ∀ x ∈ cards, 0 ≤ data c.id a.name x ∧ data c.id a.name x ≤ cfg.u)
    (hnull : (cards.map (data c.id a.name)).sum ≤ (cards.length : ℚ) * cfg.t) :
    hitG (auditComplete data T s) cards.length cards [] ≤ c.riskLimit :=
  audit_risk_limit_run data T s c hc a ha cards id cfg (.alpha .fixedAlt) hN hT ⟨hu, ⟨hat, hat2, hrt⟩, trivial⟩
    hr0 hr1 hrange hnull

/-- ALPHA with the default estimator and the default tolerances is inside its documented range: `2 * NM.eps` and
`1/1000000` are `NonnegMean`'s defaults `atol = 2 * np.finfo(float).eps`, `rtol = 10**-6` (`NM.Cfg`) -/
theorem documentedFinite_alpha_fixed {sqrtF : ℚ → ℚ} {cfg : NM.Cfg} (hu : 0 ≤ cfg.u) (hat : cfg.atol = 2 * NM.eps)
    (hrt : cfg.rtol = 1 / 1000000) : C01.DocumentedFinite sqrtF cfg (.alpha .fixedAlt) :=
  ⟨hu, ⟨by rw [hat]; decide +kernel, by rw [hat]; decide +kernel, by rw [hrt]; decide +kernel⟩, trivial⟩

/-! ### when do assorter values that sum to `(x + n)/2` average at most 1/2

Every shipped assorter has this shape: `x` is the winner's tally minus the loser's (plurality, IRV) or `W/f − V`
(super-majority).  `m`: the number of further cards scored 0. -/

theorem half_le_iff {x n m : ℚ} : (x + n) / 2 ≤ (n + m) / 2 ↔ x ≤ m := by
  rw [add_comm x n, div_le_div_iff_of_pos_right (c := (2 : ℚ)) two_pos, add_le_add_iff_left]

theorem half_le_mul_iff {x n : ℚ} : (x + n) / 2 ≤ n * (1 / 2) ↔ x ≤ 0 := by
  have h := half_le_iff (x := x) (n := n) (m := 0)
  rwa [add_zero, ← mul_one_div n] at h

theorem cast_sum_map {β R : Type} [NonAssocSemiring R] (ps : List β) (f : β → Nat) (g : β → R)
    (h : ∀ p ∈ ps, (f p : R) = g p) : (((ps.map f).sum : Nat) : R) = (ps.map g).sum := by
  induction ps with
  | nil => exact Nat.cast_zero
  | cons p ps ih =>
    simp only [List.map_cons, List.sum_cons, Nat.cast_add]
    rw [h p List.mem_cons_self, ih (fun q hq => h q (List.mem_cons_of_mem _ hq))]

/-! ### non-vacuity -/

section example_
open Shangrla.NM

def cfgX : Cfg := { N := some 4, u := 1, t := 1/2, randomOrder := true, kw := { eta := some (3/4) } }
/-- a card carries the values of two assertions -/
def dataX : String → String → ℚ × ℚ → ℚ := fun _ name x => if name = "a" then x.1 else x.2
def TX : String → String → SeqTest := fun _ _ => alphaMart cfgX (fixedAlternativeMean cfgX)
def sX : State := [{ id := "c", riskLimit := 3/5, assertions := [{ name := "a" }, { name := "b" }] }]
/-- assertion `a` is false (mean exactly 1/2), assertion `b` is true -/
def cardsX : List (ℚ × ℚ) := [(1, 1), (0, 1), (1/2, 1), (1/2, 1)]

/-- the hypotheses of `audit_risk_limit_alpha_fixed` are satisfiable -/
example : hitG (auditComplete dataX TX sX) 4 cardsX [] ≤ 3/5 :=
  audit_risk_limit_alpha_fixed dataX TX sX _ (List.mem_singleton.2 rfl) { name := "a" } (List.mem_cons_self ..)
    cardsX cfgX rfl rfl (by decide +kernel) (by decide +kernel) (by decide +kernel) (by decide +kernel)
    (by decide +kernel) (by decide +kernel) (by decide +kernel) (by decide +kernel)

/-- the event bounded by 3/5 above really happens: the audit is reported complete with probability 5/12
(kernel-computed over the 24 orders) -/
theorem example_exact : hitG (auditComplete dataX TX sX) 4 cardsX [] = 5/12 := by
  rw [funext (auditComplete_eq dataX TX sX)]
  decide +kernel

end example_

end Shangrla.RiskLimit
