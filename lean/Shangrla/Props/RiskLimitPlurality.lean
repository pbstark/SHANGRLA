/-
  C02 ∘ C09 ∘ C01 for a plurality or super-majority contest audited by ballot polling: if on the cards actually
  cast the reported outcome is wrong (or a tie), the data of one assertion — its assorter applied to each drawn
  card — average at most 1/2 (C02), and `RiskLimit.audit_risk_limit_run` applies.
-/
import Shangrla.Props.RiskLimit
import Shangrla.Props.C02

namespace Shangrla.RiskLimit
open Shangrla Shangrla.Ville Shangrla.Status Shangrla.AuditLoop Shangrla.Vote Shangrla.Assorter

theorem plurality_range (contest w l : String) (b : CVR) :
    0 ≤ plurality contest w l b ∧ plurality contest w l b ≤ 1 :=
  ⟨(C02.assort_range_plur contest w l b).1, (C02.assort_range_plur contest w l b).2.1⟩

theorem plurality_null (contest w l : String) (B : List CVR)
    (hwrong : C02.marks contest w B ≤ C02.marks contest l B) :
    (B.map (plurality contest w l)).sum ≤ (B.length : ℚ) * (1 / 2) := by
  rw [C02.sum_plurality, half_le_mul_iff, sub_nonpos]
  exact_mod_cast hwrong

/-- **Risk limit of a ballot-polling audit of a plurality contest.**  `B` are the cards cast (what a full
hand count would see).  Contest `c` of the audit has an assertion `a` whose data are the plurality assorter
"`w` v `l`" of the drawn card (`hdata`) and whose test is a shipped `NonnegMean` test with `N = |B|`, `t = 1/2`,
`u = 1`, inside its documented range.  If `l` really has at least as many marks as `w` (the reported outcome is
wrong, or a tie), the audit is ever reported complete with probability at most `c.riskLimit`, whatever the other
assertions and contests are. -/
theorem plurality_polling_risk_limit (data : String → String → CVR → ℚ)
    (T : String → String → SeqTest) (s : State) (c : Contest) (hc : c ∈ s) (a : Assertion)
    (ha : a ∈ c.assertions) (B : List CVR) (contest w l : String)
    (hdata : data c.id a.name = plurality contest w l)
    (sqrtF : ℚ → ℚ) (cfg : NM.Cfg) (test : NM.Test)
    (hN : cfg.N = some B.length) (ht : cfg.t = 1 / 2) (hu : cfg.u = 1)
    (hT : T c.id a.name = NM.run sqrtF cfg test)
    (hdoc : C01.DocumentedFinite sqrtF cfg test)
    (hr0 : 0 < c.riskLimit) (hr1 : c.riskLimit < 1)
    (hwrong : C02.marks contest w B ≤ C02.marks contest l B) :
    hitG (auditComplete data T s) B.length B [] ≤ c.riskLimit := by
  apply audit_risk_limit_run data T s c hc a ha B sqrtF cfg test hN hT hdoc hr0 hr1
  · intro x _
    rw [hdata, hu]
    exact plurality_range contest w l x
  · rw [hdata, ht]
    exact plurality_null contest w l B hwrong

/-! ### super-majority -/

theorem supermajority_null (contest w : String) (cands : List String) (f : ℚ) (hf0 : 0 < f) (B : List CVR)
    (hwrong : (C02.wvalid contest cands w B : ℚ) ≤ f * (C02.valid contest cands B : ℚ)) :
    (B.map (supermajority contest w cands f)).sum ≤ (B.length : ℚ) * (1 / 2) := by
  rw [C02.sum_supermajority_weighted, half_le_mul_iff, sub_nonpos, div_le_iff₀ hf0, mul_comm]
  exact hwrong

/-- **Risk limit of a ballot-polling audit of a super-majority contest** (`0 < f < 1`, test bound
`u = 1/(2f)`): if the reported winner's valid votes are at most the share `f` of the valid votes, the audit is
ever reported complete with probability at most the contest's risk limit. -/
theorem supermajority_polling_risk_limit (data : String → String → CVR → ℚ)
    (T : String → String → SeqTest) (s : State) (c : Contest) (hc : c ∈ s) (a : Assertion)
    (ha : a ∈ c.assertions) (B : List CVR) (contest w : String) (cands : List String) (f : ℚ)
    (hf0 : 0 < f) (hf1 : f < 1)
    (hdata : data c.id a.name = supermajority contest w cands f)
    (sqrtF : ℚ → ℚ) (cfg : NM.Cfg) (test : NM.Test)
    (hN : cfg.N = some B.length) (ht : cfg.t = 1 / 2) (hu : cfg.u = superUpper f)
    (hT : T c.id a.name = NM.run sqrtF cfg test)
    (hdoc : C01.DocumentedFinite sqrtF cfg test)
    (hr0 : 0 < c.riskLimit) (hr1 : c.riskLimit < 1)
    (hwrong : (C02.wvalid contest cands w B : ℚ) ≤ f * (C02.valid contest cands B : ℚ)) :
    hitG (auditComplete data T s) B.length B [] ≤ c.riskLimit := by
  apply audit_risk_limit_run data T s c hc a ha B sqrtF cfg test hN hT hdoc hr0 hr1
  · intro x _
    rw [hdata, hu]
    exact C02.assort_range_super contest w cands f hf0 hf1 x
  · rw [hdata, ht]
    exact supermajority_null contest w cands f hf0 B hwrong

end Shangrla.RiskLimit
