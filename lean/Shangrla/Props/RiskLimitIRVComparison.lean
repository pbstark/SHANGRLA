/-
  IRV under a card-level comparison audit: C04 ∘ C14 ∘ C03/C06 ∘ C09 ∘ C01.

  A card is a pair (manual record, CVR): the manual record as the audit reads it together with the same ranking
  in the generator's encoding (`C14.Aligned`), and the CVR's vote dict.  For a RAIRE assertion `r` the data are the
  overstatement-assorter values `ovA v 1 (A_r cvr) (A_r mvr)` with `A_r` the audit-side IRV assorter of `r`,
  `v = 2·mean(A_r cvr) − 1` the reported margin, test bound `2/(2 − v)`.  If the reported winner is not the winner of
  some possible IRV count of the manual records, some assertion of a sufficient set is false on them
  (`irv_wrong_outcome_false_assertion`), its overstatement data average at most 1/2 (`comparison_null`), and the
  audit is ever reported complete with probability at most the risk limit.
-/
import Shangrla.Props.RiskLimitIRV
import Shangrla.Props.RiskLimitComparison

namespace Shangrla.RiskLimit
open Shangrla Shangrla.Ville Shangrla.Status Shangrla.AuditLoop Shangrla.Overstatement
open Shangrla.Raire.Spec Shangrla.IrvBallot Shangrla.C14

variable {κ α : Type} [DecidableEq κ] [DecidableEq α]

/-- a comparison card: (manual record: audit reading and generator encoding), CVR vote dict -/
abbrev CCard (κ α : Type) := (Votes κ α × GCvr κ α) × Votes κ α

/-- the audit-side assorter of an assertion on the CVR of a card (the generator encoding plays no role) -/
def cvrAssortIRV (cid : κ) (cands : List α) (k : Raire.Kind) (w l : α) (E : List α) (x : CCard κ α) : ℚ :=
  irvAssort cid cands k w l E (x.2, ([] : GCvr κ α))

theorem irvAssort_fst (cid : κ) (cands : List α) (k : Raire.Kind) (w l : α) (E : List α)
    (v : Votes κ α) (g g' : GCvr κ α) :
    irvAssort cid cands k w l E (v, g) = irvAssort cid cands k w l E (v, g') := by
  cases k <;> rfl

/-- what `Audited` means for a comparison audit: every member `r` of `S` is an assertion of contest `c` whose data
are the overstatement values of `r`'s assorter (reported margin from the CVRs of the cards, `u = 1`) and whose
test is a shipped one in its documented range with `N = n`, `t = 1/2` and bound `2/(2 − v)` -/
def AuditedComparison {D : Type} (data : String → String → CCard κ α → ℚ) (T : String → String → SeqTest)
    (c : Contest) (cid : κ) (cands : List α) (cards : List (CCard κ α)) (S : List (Raire.Assertion α D)) : Prop :=
  ∀ r ∈ S, ∃ a ∈ c.assertions,
    let ca := cvrAssortIRV cid cands r.kind r.winner r.loser r.eliminated
    let ma := fun x : CCard κ α => irvAssort cid cands r.kind r.winner r.loser r.eliminated x.1
    let v := 2 * ((cards.map ca).sum / cards.length) - 1
    data c.id a.name = (fun x => ovA v 1 (ca x) (ma x)) ∧
    ∃ (sqrtF : ℚ → ℚ) (cfg : NM.Cfg) (test : NM.Test),
      cfg.N = some cards.length ∧ cfg.t = 1 / 2 ∧ cfg.u = 2 / (2 - v / 1) ∧
      T c.id a.name = NM.run sqrtF cfg test ∧ C01.DocumentedFinite sqrtF cfg test

/-- **Risk limit of a RAIRE card-level comparison audit of an IRV contest.**  Hypotheses as in
`irv_wrong_winner_risk_limit`, the possible IRV count `π` being a count of the manual records of the cards. -/
theorem irv_comparison_wrong_winner_risk_limit {D : Type} (data : String → String → CCard κ α → ℚ)
    (T : String → String → SeqTest) (s : State) (c : Contest) (hc : c ∈ s)
    (hr0 : 0 < c.riskLimit) (hr1 : c.riskLimit < 1)
    (cid : κ) (cands : List α) (hcands : cands.Nodup) (winner : α)
    (S : List (Raire.Assertion α D)) (hS : Sufficient cands winner S)
    (hSc : ∀ r ∈ S, r.kind = .nen → r.winner ∈ cands ∧ r.loser ∈ cands)
    (cards : List (CCard κ α)) (hne : cards ≠ [])
    (hal : ∀ x ∈ cards, C14.Aligned cid cands x.1)
    (haud : AuditedComparison data T c cid cands cards S)
    (π : List α) (hπ : Alt cands winner π)
    (hv : validIRV ((trueBallots cid (cards.map (·.1))).filterMap id) π) :
    hitG (auditComplete data T s) cards.length cards [] ≤ c.riskLimit := by
  have hal' : ∀ p ∈ cards.map (·.1), C14.Aligned cid cands p := List.forall_mem_map.2 hal
  obtain ⟨r, hr, hfalse⟩ := irv_wrong_outcome_false_assertion cands hcands winner S hS
    _ (trueBallots_wf hal') π hπ hv
  obtain ⟨a, ha, hdata, sqrtF, cfg, test, hN, ht, hu, hT, hdoc⟩ := haud r hr
  have hnull := irv_assertion_null cid cands r.kind r.winner r.loser r.eliminated (hSc r hr) _ hal' hfalse
  rw [List.map_map, List.length_map] at hnull
  exact comparison_risk_limit data T s c hc a ha cards hne
    (cvrAssortIRV cid cands r.kind r.winner r.loser r.eliminated)
    (fun x => irvAssort cid cands r.kind r.winner r.loser r.eliminated x.1) 1 one_pos
    (fun x _ => irvAssort_range cid cands r.kind r.winner r.loser r.eliminated _)
    (fun x _ => irvAssort_range cid cands r.kind r.winner r.loser r.eliminated _)
    hdata sqrtF cfg test hN ht hu hT hdoc hr0 hr1 hnull

/-! ### non-vacuity

Two candidates 0, 1; reported winner 1; `S = [NEB(1, 0)]` excludes the only other outcome.  Three cards: the CVRs say
1, 1, 0 (reported margin of the assertion 1/3, test bound 6/5), the manual records say 0, 0, 1: candidate 0 really
wins. -/

section example_
open Shangrla.NM

def asnC : Raire.Assertion Nat Nat :=
  { kind := .neb, winner := 1, loser := 0, eliminated := [], votesW := 2, votesL := 1, difficulty := 0, rulesOut := [] }

def cardC (m c : List Nat) : CCard String Nat := (cardI m, fromVote (auditEnc c) "c")
def cardsC : List (CCard String Nat) := [cardC [0] [1], cardC [0] [1], cardC [1] [0]]

def cfgC : Cfg := { N := some 3, u := 6/5, t := 1/2, randomOrder := true, kw := { eta := some (3/4) } }
def dataC : String → String → CCard String Nat → ℚ := fun _ _ x =>
  ovA (1/3) 1 (cvrAssortIRV "c" [0, 1] .neb 1 0 [] x) (irvAssort "c" [0, 1] .neb 1 0 [] x.1)
def TC : String → String → SeqTest := fun _ _ => NM.run sqrtRat cfgC (.alpha .fixedAlt)
def sC : State := [{ id := "c", riskLimit := 9/10, assertions := [{ name := "neb" }] }]

theorem sufficient_C : Sufficient [0, 1] 1 [asnC] := by
  intro π ⟨hperm, pre, c, hπ, hc⟩
  subst hπ
  -- the only order ending in a candidate other than 1 is [1, 0]
  have hc0 : c = 0 := by
    have : c ∈ [0, 1] := hperm.subset (List.mem_append_right _ (List.mem_singleton.2 rfl))
    simpa [hc] using this
  subst hc0
  have hpre : pre = [1] :=
    List.perm_singleton.1 ((List.perm_append_singleton 0 pre).symm.trans hperm).cons_inv
  subst hpre
  exact ⟨asnC, List.mem_singleton.2 rfl, [], [0], rfl, List.mem_singleton.2 rfl⟩

theorem validIRV_C : validIRV ((trueBallots "c" (cardsC.map (·.1))).filterMap id) [1, 0] :=
  validIRV_of_rounds (by decide +kernel)

theorem marginC : (2 : ℚ) * (((cardsC.map (cvrAssortIRV "c" [0, 1] asnC.kind asnC.winner asnC.loser asnC.eliminated)).sum)
    / (cardsC.length : ℚ)) - 1 = 1 / 3 := by decide +kernel

example : hitG (auditComplete dataC TC sC) 3 cardsC [] ≤ 9/10 := by
  refine irv_comparison_wrong_winner_risk_limit dataC TC sC _ (List.mem_singleton.2 rfl) (by decide +kernel)
    (by decide +kernel) "c" [0, 1] (by decide) 1 [asnC] sufficient_C
    (fun r hr hk => by rw [List.mem_singleton.1 hr] at hk; cases hk)
    cardsC (List.cons_ne_nil _ _) ?_ ?_ [1, 0] ⟨by decide, [1], 0, rfl, by decide⟩ validIRV_C
  · intro x hx
    simp only [cardsC, List.mem_cons, List.not_mem_nil, or_false] at hx
    rcases hx with rfl | rfl | rfl <;> exact aligned_card (by decide) (by decide)
  · intro r hr
    rw [List.mem_singleton.1 hr]
    refine ⟨{ name := "neb" }, List.mem_singleton.2 rfl, ?_, sqrtRat, cfgC, .alpha .fixedAlt, rfl, rfl, ?_, rfl,
      documentedFinite_alpha_fixed (by decide +kernel) rfl rfl⟩
    · show dataC "c" "neb" = _
      rw [marginC]
      rfl
    · rw [marginC]
      decide +kernel

/-- the bounded event happens: exact probability over the 6 orders -/
theorem example_irv_comparison_exact : hitG (auditComplete dataC TC sC) 3 cardsC [] = 1/3 := by decide +kernel

end example_

end Shangrla.RiskLimit
