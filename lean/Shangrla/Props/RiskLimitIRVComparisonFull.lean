/-
  C04 ∘ C14 ∘ C03 ∘ C06 ∘ C09 ∘ C01: an instant-runoff (IRV) contest under a card-level comparison (or ONEAudit)
  audit of RAIRE assertions, on the literal overstatement model of `Model/Overstatement.lean` — pooled cards, phantom
  CVRs inside or outside pools, unfindable cards (phantom manual records), manual records lacking the contest, the
  style filter on or off.

  The probability part is `comparison_full_risk_limit_cards`, whose manual records `Mvr` carry the assorter value as a
  parameter.  The IRV assorters of `Model/Assorter.lean` are partial (`Except`), so the parameter is instantiated with
  the total audit-side assorter `irvAssort` of C14's model (`Model/IrvBallot.lean`: `make_assertions_from_json`'s
  lambdas on `CVR.get_vote_for` / `rcv_lfunc_wo` / `rcv_votefor_cand`).  What remains is to say when a RAIRE assertion
  is false on the manual records as the overstatement scores them, in generator-side tallies over the found ballots,
  and that a wrong outcome on the found ballots, however the records scored 0 are completed, makes some assertion of a
  `Sufficient` set false in that sense.
-/
import Shangrla.Props.RiskLimitIRV
import Shangrla.Props.RiskLimitComparisonOutcome

namespace Shangrla.RiskLimit
open Shangrla Shangrla.Ville Shangrla.Status Shangrla.AuditLoop Shangrla.Overstatement
open Shangrla.Raire.Spec Shangrla.IrvBallot

/-! ### the manual record of a card of an IRV contest, as the overstatement reads it -/

section Records
variable {κ α : Type} [DecidableEq κ] [DecidableEq α]
-- fixed statements of this file stand in a section with instance arguments they do not all use
set_option linter.unusedSectionVars false

/-- **A manual record (MVR) of an IRV contest.**  `ballot.1` is `mvr.votes` as the audit reads it
(`{contest ↦ {candidate ↦ rank}}`, ranks 1-based), `ballot.2` the same card in the generator's encoding (the form the
RAIRE side — `raire_utils.py` — and `Raire.Spec.tallies` / `validIRV` take; the two are tied by `C14.Aligned`);
`phantom` is `mvr.phantom`: the card could not be found. -/
structure IrvMvr (κ α : Type) where
  ballot : Votes κ α × GCvr κ α
  phantom : Bool := false

/-- **The overstatement model's manual record of an IRV card.**  `Assorter.overstatement(mvr, cvr, use_style)`
(Audit.py L2578-2585) reads three things off `mvr`: `mvr.has_contest(self.contest.id)` (`IrvBallot.hasContest` on the
votes dict, L207-208), `mvr.phantom`, and `self.assort(mvr)` — here `assort` applied to the ballot, with
`assort = irvAssort cid cands kind w l E`, the assorter `make_assertions_from_json` builds for a RAIRE assertion. -/
def mvrOfIRV (assort : Votes κ α × GCvr κ α → ℚ) (cid : κ) (b : IrvMvr κ α) : Mvr :=
  { hasContest := hasContest b.ballot.1 cid, phantom := b.phantom, a := assort b.ballot }

/-- the manual record is scored 0 instead of `A(mvr)` (L2578-2585): the card could not be found, or under style-based
sampling its manual record does not list the contest -/
def zeroedIRV (useStyle : Bool) (cid : κ) (b : IrvMvr κ α) : Bool :=
  b.phantom || (useStyle && !hasContest b.ballot.1 cid)

theorem mvrAssort_mvrOfIRV (useStyle : Bool) (assort : Votes κ α × GCvr κ α → ℚ) (cid : κ) (b : IrvMvr κ α) :
    mvrAssort useStyle (mvrOfIRV assort cid b) = if zeroedIRV useStyle cid b then 0 else assort b.ballot := rfl

/-- the manual records of the cards under audit: those whose CVR passes the style filter -/
def audRecs {β : Type} (useStyle : Bool) (mvr : β → IrvMvr κ α) (cv : β → Cvr) (cards : List β) :
    List (IrvMvr κ α) :=
  (cards.filter (fun x => passes useStyle (cv x))).map mvr

/-- the found ballots of the cards under audit (audit reading, generator encoding): the card was found and (under
style) its manual record lists the contest — the cards whose manual record enters the overstatement with its own
assorter value -/
def foundRecs {β : Type} (useStyle : Bool) (cid : κ) (mvr : β → IrvMvr κ α) (cv : β → Cvr) (cards : List β) :
    List (Votes κ α × GCvr κ α) :=
  ((audRecs useStyle mvr cv cards).filter (fun b => !zeroedIRV useStyle cid b)).map (·.ballot)

/-- the number of cards under audit whose manual record is scored 0 -/
def lostRecs {β : Type} (useStyle : Bool) (cid : κ) (mvr : β → IrvMvr κ α) (cv : β → Cvr) (cards : List β) : Nat :=
  (audRecs useStyle mvr cv cards).countP (zeroedIRV useStyle cid)

theorem mvrA_irv {β : Type} (useStyle : Bool) (assort : Votes κ α × GCvr κ α → ℚ) (cid : κ) (mvr : β → IrvMvr κ α)
    (cv : β → Cvr) (cards : List β) :
    C03.mvrA useStyle (cards.map (fun x => mvrOfIRV assort cid (mvr x))) (cards.map cv)
      = (audRecs useStyle mvr cv cards).map
          (fun b => if zeroedIRV useStyle cid b then 0 else assort b.ballot) := by
  rw [mvrA_cards]
  unfold audRecs
  rw [List.map_map]
  rfl

theorem sum_mvrA_irv {β : Type} (useStyle : Bool) (assort : Votes κ α × GCvr κ α → ℚ) (cid : κ)
    (mvr : β → IrvMvr κ α) (cv : β → Cvr) (cards : List β) :
    (C03.mvrA useStyle (cards.map (fun x => mvrOfIRV assort cid (mvr x))) (cards.map cv)).sum
      = ((foundRecs useStyle cid mvr cv cards).map assort).sum := by
  rw [mvrA_irv, sum_zeroed (zeroedIRV useStyle cid) (fun b => assort b.ballot)]
  unfold foundRecs
  rw [List.map_map]
  rfl

theorem length_mvrA_irv {β : Type} (useStyle : Bool) (assort : Votes κ α × GCvr κ α → ℚ) (cid : κ)
    (mvr : β → IrvMvr κ α) (cv : β → Cvr) (cards : List β) :
    (C03.mvrA useStyle (cards.map (fun x => mvrOfIRV assort cid (mvr x))) (cards.map cv)).length
      = (foundRecs useStyle cid mvr cv cards).length + lostRecs useStyle cid mvr cv cards := by
  rw [mvrA_irv, List.length_map, length_zeroed (zeroedIRV useStyle cid)]
  unfold foundRecs lostRecs
  rw [List.length_map]

/-- a CVR record with its assorter value replaced: the flags, pool label and sample number belong to the card, the
reported assorter value to the assertion -/
def cvFor {β : Type} (cv : β → Cvr) (ca : β → ℚ) (x : β) : Cvr := { cv x with a := ca x }

@[simp] theorem passes_cvFor {β : Type} (useStyle : Bool) (cv : β → Cvr) (ca : β → ℚ) (x : β) :
    passes useStyle (cvFor cv ca x) = passes useStyle (cv x) := rfl

theorem foundRecs_cvFor {β : Type} (useStyle : Bool) (cid : κ) (mvr : β → IrvMvr κ α) (cv : β → Cvr) (ca : β → ℚ)
    (cards : List β) :
    foundRecs useStyle cid mvr (cvFor cv ca) cards = foundRecs useStyle cid mvr cv cards := rfl

theorem lostRecs_cvFor {β : Type} (useStyle : Bool) (cid : κ) (mvr : β → IrvMvr κ α) (cv : β → Cvr) (ca : β → ℚ)
    (cards : List β) :
    lostRecs useStyle cid mvr (cvFor cv ca) cards = lostRecs useStyle cid mvr cv cards := rfl

theorem length_aud_cvFor {β : Type} (useStyle : Bool) (cv : β → Cvr) (ca : β → ℚ) (cards : List β) :
    (C03.aud useStyle (cards.map (cvFor cv ca))).length = (C03.aud useStyle (cards.map cv)).length := by
  rw [aud_cards, aud_cards, List.length_map, List.length_map]
  rfl

end Records

/-! ### a failed tally comparison on the found ballots ⇔ the assertion is false on the manual records -/

section Null
variable {κ α : Type} [DecidableEq κ] [DecidableEq α]

/-!
The direction is conservative.  The overstatement scores a manual record 0 when the card cannot be found and, under
style-based sampling, when the record does not list the contest.  For an IRV assorter `(W − L + 1)/2` the value 0 is
that of a ballot counted for the assertion's loser and not for its winner; a card without the contest is "really" a
non-vote (1/2).  So a record scored 0 is scored worse for the reported winner than anything that could be on the card,
for every assertion at once.  Consequently "the assertion is false on the manual records" (`Σ mvrAssort ≤ n/2`, the
hypothesis of `comparison_full_risk_limit`) holds exactly when, over the found ballots of the cards under audit, the
winner-side tally is at most the loser-side tally plus the number of records scored 0.
The plain "the comparison fails on the found ballots" (`W ≤ L`) is stronger than needed.
-/

/-- `hal`: the found ballots are aligned (C14: the audit reads `{c ↦ k+1}` for a duplicate-free ranking of listed
candidates and the generator side holds the same ranking as `{c ↦ k}`, or the contest is absent on both — the latter
only without style, a found record listing the contest under style).  Nothing is assumed of the records scored 0:
the code does not look at their votes. -/
theorem irv_comparison_null_iff {β : Type} (useStyle : Bool) (cid : κ) (cands : List α) (k : Raire.Kind) (w l : α)
    (E : List α) (hwl : k = .nen → w ∈ cands ∧ l ∈ cands) (mvr : β → IrvMvr κ α) (cv : β → Cvr) (cards : List β)
    (hal : ∀ p ∈ foundRecs useStyle cid mvr cv cards, C14.Aligned cid cands p) :
    (C03.mvrA useStyle (cards.map (fun x => mvrOfIRV (irvAssort cid cands k w l E) cid (mvr x))) (cards.map cv)).sum
      ≤ ((C03.mvrA useStyle (cards.map (fun x => mvrOfIRV (irvAssort cid cands k w l E) cid (mvr x)))
          (cards.map cv)).length : ℚ) / 2
    ↔ (tallies (trueBallots cid (foundRecs useStyle cid mvr cv cards)) k w l E).1
        ≤ (tallies (trueBallots cid (foundRecs useStyle cid mvr cv cards)) k w l E).2
          + lostRecs useStyle cid mvr cv cards := by
  rw [sum_mvrA_irv, length_mvrA_irv, irvAssort_sum cid cands k w l E hwl _ hal, Nat.cast_add, half_le_iff,
    sub_le_iff_le_add, add_comm, ← Nat.cast_add, Nat.cast_le]

theorem irv_comparison_null {β : Type} (useStyle : Bool) (cid : κ) (cands : List α) (k : Raire.Kind) (w l : α)
    (E : List α) (hwl : k = .nen → w ∈ cands ∧ l ∈ cands) (mvr : β → IrvMvr κ α) (cv : β → Cvr) (cards : List β)
    (hal : ∀ p ∈ foundRecs useStyle cid mvr cv cards, C14.Aligned cid cands p)
    (hwrong : (tallies (trueBallots cid (foundRecs useStyle cid mvr cv cards)) k w l E).1
        ≤ (tallies (trueBallots cid (foundRecs useStyle cid mvr cv cards)) k w l E).2
          + lostRecs useStyle cid mvr cv cards) :
    (C03.mvrA useStyle (cards.map (fun x => mvrOfIRV (irvAssort cid cands k w l E) cid (mvr x))) (cards.map cv)).sum
      ≤ ((C03.mvrA useStyle (cards.map (fun x => mvrOfIRV (irvAssort cid cands k w l E) cid (mvr x)))
          (cards.map cv)).length : ℚ) / 2 :=
  (irv_comparison_null_iff useStyle cid cands k w l E hwl mvr cv cards hal).2 hwrong

end Null

/-! ### a wrong outcome makes some assertion false on the manual records -/

section Outcome
variable {α : Type} [DecidableEq α] {D : Type}

theorem sum_map_le_length {π : Type} (f : π → Nat) (hf : ∀ x, f x ≤ 1) (L : List π) : (L.map f).sum ≤ L.length := by
  simpa using Raire.sum_map_le L f (fun _ => 1) (fun x _ => hf x)

theorem raire_nebVoteL_le_one (w l : α) : ∀ b : Option (Raire.Ballot α), Raire.nebVoteL w l b ≤ 1
  | none => Nat.zero_le 1
  | some b => by
    simp only [Raire.nebVoteL]
    split
    · omega
    · split
      · omega
      · split <;> omega

theorem tallies_append (A B : List (Option (Raire.Ballot α))) (k : Raire.Kind) (w l : α) (E : List α) :
    (tallies (A ++ B) k w l E).1 = (tallies A k w l E).1 + (tallies B k w l E).1 ∧
    (tallies (A ++ B) k w l E).2 = (tallies A k w l E).2 + (tallies B k w l E).2 := by
  cases k <;> simp [tallies, Raire.tally, List.filterMap_append]

theorem tallies_snd_le_length (B : List (Option (Raire.Ballot α))) (k : Raire.Kind) (w l : α) (E : List α) :
    (tallies B k w l E).2 ≤ B.length := by
  cases k with
  | neb => exact sum_map_le_length _ (raire_nebVoteL_le_one w l) B
  | nen =>
    simp only [tallies, Raire.tally]
    exact Nat.le_trans (sum_map_le_length _ (Raire.voteForCand_le_one l E) _) (List.length_filterMap_le _ _)

/-- **Wrong outcome ⇒ some assertion is false on the manual records, in the sense of `irv_comparison_null_iff`.**
`found` are the found ballots (aligned); `extra` is any list of well-formed ballots — what might be on the cards
whose record was scored 0 (none, some or all of them).  If some possible IRV count of the found ballots together with
`extra` ends in a candidate other than `winner`, some member of the `Sufficient` set `S` has winner-side tally over
the found ballots at most its loser-side tally plus `|extra|`: the extra ballots can only add to the winner side of
the completed count, and add at most one each to its loser side. -/
theorem irv_comparison_false_assertion {κ : Type} [DecidableEq κ] (cands : List α) (hcands : cands.Nodup)
    (winner : α) (S : List (Raire.Assertion α D)) (hS : Sufficient cands winner S)
    (cid : κ) (found : List (Votes κ α × GCvr κ α)) (hal : ∀ p ∈ found, C14.Aligned cid cands p)
    (extra : List (Raire.Ballot α)) (hex : ∀ b ∈ extra, BallotWF b)
    (π : List α) (hπ : Alt cands winner π)
    (hv : validIRV ((trueBallots cid found).filterMap id ++ extra) π) :
    ∃ r ∈ S, (tallies (trueBallots cid found) r.kind r.winner r.loser r.eliminated).1
        ≤ (tallies (trueBallots cid found) r.kind r.winner r.loser r.eliminated).2 + extra.length := by
  have hfm : (trueBallots cid found ++ extra.map some).filterMap id
      = (trueBallots cid found).filterMap id ++ extra := by
    rw [List.filterMap_append, List.filterMap_map, Function.id_comp, List.filterMap_some]
  obtain ⟨r, hr, hfalse⟩ := irv_wrong_outcome_false_assertion cands hcands winner S hS
    (trueBallots cid found ++ extra.map some)
    (by
      rw [hfm]
      intro b hb
      rcases List.mem_append.1 hb with hb | hb
      · exact trueBallots_wf hal b hb
      · exact hex b hb)
    π hπ (by rw [hfm]; exact hv)
  obtain ⟨h1, h2⟩ := tallies_append (trueBallots cid found) (extra.map some) r.kind r.winner r.loser r.eliminated
  have h3 := tallies_snd_le_length (extra.map some) r.kind r.winner r.loser r.eliminated
  rw [List.length_map] at h3
  rw [h1, h2] at hfalse
  exact ⟨r, hr, Nat.le_trans (Nat.le_add_right _ _) (Nat.le_trans hfalse (Nat.add_le_add_left h3 _))⟩

end Outcome

/-! ### the risk limit -/

section Risk
variable {κ α : Type} [DecidableEq κ] [DecidableEq α]

/-- **Risk limit of a comparison / ONEAudit audit of an IRV contest on the literal model: one false RAIRE assertion.**

* `cards : List β` — the population; a card `x` carries its manual record `mvr x : IrvMvr` (votes as the audit reads
  them, the same card in the generator's encoding, `phantom` = the card could not be found) and the CVR `cv x` as the
  overstatement model reads it — any `Cvr`s: phantoms, pooled or not, any pool labelling, any reported assorter values
  in `[0,1]` (`hcv`), whatever they say about who won.
* assertion `a` of contest `c` is the RAIRE assertion `(k, w, l, E)` (NEB "`w` never eliminated before `l`" / NEN "`w`
  not eliminated next when exactly `E` are gone"; for NEN `w`, `l ∈ cands`): its datum for a card is what
  `mvrs_to_data` returns for the manual record `mvrOfIRV (irvAssort cid cands k w l E) cid (mvr x)` and the CVR `cv x`
  (`hdata`), assorter upper bound 1; `ty`, `useStyle`, `means`, `hm`, `hne`, `hph`, `margin`, `U`, `hmargin`, the test
  (`N` = number of cards under audit, `t = 1/2`, `u = U`, any shipped `NonnegMean` test in its documented range) are
  as in `comparison_full_risk_limit`.
* `hal`: the found ballots of the cards under audit are aligned (C14's hypothesis; nothing is assumed of the records
  scored 0 or of the cards not under audit).
* `hwrong`: the assertion's comparison fails on the found ballots, every record scored 0 counting as one more vote on
  the loser side (`irv_comparison_null_iff`: this is exactly "false on the manual records").

Then the audit is ever reported complete with probability at most the contest's risk limit. -/
theorem irv_comparison_full_risk_limit {β : Type} (mvr : β → IrvMvr κ α) (cv : β → Cvr) (cards : List β)
    (cid : κ) (cands : List α) (k : Raire.Kind) (w l : α) (E : List α) (hwl : k = .nen → w ∈ cands ∧ l ∈ cands)
    (ty : AuditType) (hty : ty = .cardComparison ∨ ty = .oneaudit)
    (useStyle : Bool) (means : Option Means)
    (hm : MeansFrom useStyle (cards.map cv) means)
    (hcv : ∀ c ∈ cards.map cv, 0 ≤ c.a ∧ c.a ≤ 1)
    (hne : C03.aud useStyle (cards.map cv) ≠ [])
    (hph : ∀ c ∈ C03.aud useStyle (cards.map cv), c.phantom = true → usesPool means c = false → c.a = 1 / 2)
    (margin U : XR) (hmargin : setMarginFromCvrs 1 useStyle ty 1 (cards.map cv) = .ok (margin, U))
    (data : String → String → β → Option ℚ) (T : String → String → SeqTest) (s : State)
    (c : Contest) (hc : c ∈ s) (a : Assertion) (ha : a ∈ c.assertions)
    (hdata : data c.id a.name = fun x =>
      cardDatum ty useStyle margin 1 means (mvrOfIRV (irvAssort cid cands k w l E) cid (mvr x), cv x))
    (sqrtF : ℚ → ℚ) (cfg : NM.Cfg) (test : NM.Test)
    (hN : cfg.N = some (C03.aud useStyle (cards.map cv)).length) (ht : cfg.t = 1 / 2) (hcu : XR.fin cfg.u = U)
    (hT : T c.id a.name = NM.run sqrtF cfg test)
    (hdoc : C01.DocumentedFinite sqrtF cfg test)
    (hr0 : 0 < c.riskLimit) (hr1 : c.riskLimit < 1)
    (hal : ∀ p ∈ foundRecs useStyle cid mvr cv cards, C14.Aligned cid cands p)
    (hwrong : (tallies (trueBallots cid (foundRecs useStyle cid mvr cv cards)) k w l E).1
        ≤ (tallies (trueBallots cid (foundRecs useStyle cid mvr cv cards)) k w l E).2
          + lostRecs useStyle cid mvr cv cards) :
    hitG (auditCompleteOpt data T s) cards.length cards [] ≤ c.riskLimit :=
  comparison_full_risk_limit_cards (fun x => mvrOfIRV (irvAssort cid cands k w l E) cid (mvr x)) cv cards
    ty hty useStyle 1 means hm one_pos hcv
    (List.forall_mem_map.2 fun x _ => irvAssort_range cid cands k w l E (mvr x).ballot)
    hne hph margin U hmargin data T s c hc a ha hdata sqrtF cfg test hN ht hcu hT hdoc hr0 hr1
    (irv_comparison_null useStyle cid cands k w l E hwl mvr cv cards hal hwrong)

/-- **every assertion of the RAIRE set `S` is audited by comparison on the literal model.**  For each `r ∈ S` the
audit state's contest `c` has an assertion `a` set up as `Assertion.set_tally_pool_means` / `set_margin_from_cvrs` /
`mvrs_to_data` / `set_p_values` set it up from the CVRs, whose reported assorter values for `r` are `ca r x` (the
flags, pool label and sample number of the CVR of card `x` are `cv x`'s; `cvFor cv (ca r) x` is the CVR record the
overstatement of `r` reads):

* `means`: never set, or computed by `poolMeans` from these CVRs under the same style flag (`MeansFrom`);
* the reported values lie in `[0,1]` (the range of every IRV assorter, `irvAssort_range`) and a phantom CVR under
  audit that is not scored through a pool has the value 1/2 (C03's hypothesis; a `make_phantoms` phantom lists the
  contest with no votes, on which both IRV assorters are `(0 − 0 + 1)/2`);
* `(margin, U)` as `setMarginFromCvrs` returns them for these CVRs, assorter bound `u = 1`;
* the datum of a card is `cardDatum … (mvrOfIRV (irvAssort … r) cid (mvr x), cvFor cv (ca r) x)`;
* the test is a shipped `NonnegMean` test inside its documented range with `N` = number of cards under audit,
  `t = 1/2`, `u = U`. -/
def AuditedComparisonFull {β D : Type} (data : String → String → β → Option ℚ) (T : String → String → SeqTest)
    (c : Contest) (cid : κ) (cands : List α) (ty : AuditType) (useStyle : Bool)
    (mvr : β → IrvMvr κ α) (cv : β → Cvr) (ca : Raire.Assertion α D → β → ℚ) (cards : List β)
    (S : List (Raire.Assertion α D)) : Prop :=
  ∀ r ∈ S, ∃ a ∈ c.assertions, ∃ (means : Option Means) (margin U : XR),
    MeansFrom useStyle (cards.map (cvFor cv (ca r))) means ∧
    (∀ x ∈ cards, 0 ≤ ca r x ∧ ca r x ≤ 1) ∧
    (∀ x ∈ cards, passes useStyle (cv x) = true → (cv x).phantom = true →
      usesPool means (cv x) = false → ca r x = 1 / 2) ∧
    setMarginFromCvrs 1 useStyle ty 1 (cards.map (cvFor cv (ca r))) = .ok (margin, U) ∧
    data c.id a.name = (fun x => cardDatum ty useStyle margin 1 means
      (mvrOfIRV (irvAssort cid cands r.kind r.winner r.loser r.eliminated) cid (mvr x), cvFor cv (ca r) x)) ∧
    ∃ (sqrtF : ℚ → ℚ) (cfg : NM.Cfg) (test : NM.Test),
      cfg.N = some (C03.aud useStyle (cards.map cv)).length ∧ cfg.t = 1 / 2 ∧ XR.fin cfg.u = U ∧
      T c.id a.name = NM.run sqrtF cfg test ∧ C01.DocumentedFinite sqrtF cfg test

/-- **Risk limit of a RAIRE card-level comparison / ONEAudit audit of an IRV contest, on the literal model with
pools, phantoms, unfindable cards and the style filter.**

* `cands` (duplicate-free) are the contest's candidates, `winner` the reported winner, `S` a `Sufficient` set of
  NEB/NEN assertions (what `C04.raire_sufficient` proves of RAIRE's output), the winner and loser of every NEN member
  being candidates.
* `cards : List β` — the population, of any type.  Card `x` has the manual record `mvr x` and the CVR flags `cv x`
  (`has_contest`, `phantom`, `pool`, `tally_pool`, `sample_num` — anything); `ca r x ∈ [0,1]` is the value the
  machine's record gives to assertion `r` — anything.  `ty`: card comparison or ONEAudit; `useStyle` on or off; some
  card is under audit (`hne`).
* every member of `S` is audited in contest `c` (`AuditedComparisonFull`), `0 < c.riskLimit < 1`.
* Which ballots count.  The cards under audit are those whose CVR passes the style filter (all cards without style;
  under style the cards whose CVR lists the contest — a card whose CVR does not list it is never used for this
  contest, whatever is on the paper: style-based sampling presupposes that the CVRs, padded with phantoms, list the
  contest on every card that has it).  Of their manual records, the found ones (`foundRecs`: card found and, under
  style, record listing the contest) enter with their own assorter value and must be aligned (`hal`, C14); the
  `lostRecs` others are scored 0 by the code, worse for the reported winner than any ballot that could be on the card
  (see `irv_comparison_null_iff`).  The hypothesis on the true ballots is therefore stated generously: the reported
  winner is wrong for some way of completing the records scored 0 — `extra` is any list of at most `lostRecs`
  well-formed ballots (what is "really" on none, some or all of the unfindable cards; a record lacking the contest is
  really a non-vote, i.e. contributes nothing to `extra`), and `π` a possible IRV count (`validIRV`: at every round a
  candidate with a smallest tally is eliminated, ties broken any way) of the found ballots together with `extra` that
  ends in a candidate other than `winner`.  `extra = []` is the plain statement "the reported winner is not the winner
  of some possible IRV count of the manual records that could be examined"
  (`irv_comparison_full_wrong_winner_risk_limit_found`).

Then, whatever the CVRs say, whatever the other assertions, contests and tests are and however often the status is
looked at while the cards are drawn in uniformly random order without replacement, the audit is ever reported
complete with probability at most `c.riskLimit`. -/
theorem irv_comparison_full_wrong_winner_risk_limit {β D : Type}
    (data : String → String → β → Option ℚ) (T : String → String → SeqTest) (s : State)
    (c : Contest) (hc : c ∈ s) (hr0 : 0 < c.riskLimit) (hr1 : c.riskLimit < 1)
    (cid : κ) (cands : List α) (hcands : cands.Nodup) (winner : α)
    (S : List (Raire.Assertion α D)) (hS : Sufficient cands winner S)
    (hSc : ∀ r ∈ S, r.kind = .nen → r.winner ∈ cands ∧ r.loser ∈ cands)
    (ty : AuditType) (hty : ty = .cardComparison ∨ ty = .oneaudit) (useStyle : Bool)
    (mvr : β → IrvMvr κ α) (cv : β → Cvr) (ca : Raire.Assertion α D → β → ℚ) (cards : List β)
    (hne : C03.aud useStyle (cards.map cv) ≠ [])
    (haud : AuditedComparisonFull data T c cid cands ty useStyle mvr cv ca cards S)
    (hal : ∀ p ∈ foundRecs useStyle cid mvr cv cards, C14.Aligned cid cands p)
    (extra : List (Raire.Ballot α)) (hex : ∀ b ∈ extra, BallotWF b)
    (hexn : extra.length ≤ lostRecs useStyle cid mvr cv cards)
    (π : List α) (hπ : Alt cands winner π)
    (hv : validIRV ((trueBallots cid (foundRecs useStyle cid mvr cv cards)).filterMap id ++ extra) π) :
    hitG (auditCompleteOpt data T s) cards.length cards [] ≤ c.riskLimit := by
  obtain ⟨r, hr, hfalse⟩ := irv_comparison_false_assertion cands hcands winner S hS cid
    (foundRecs useStyle cid mvr cv cards) hal extra hex π hπ hv
  obtain ⟨a, ha, means, margin, U, hm, hcv, hph, hmargin, hdata, sqrtF, cfg, test, hN, ht, hcu, hT, hdoc⟩ :=
    haud r hr
  refine irv_comparison_full_risk_limit mvr (cvFor cv (ca r)) cards cid cands r.kind r.winner r.loser r.eliminated
    (hSc r hr) ty hty useStyle means hm (List.forall_mem_map.2 hcv) ?_ ?_ margin U hmargin data T s c hc a ha hdata
    sqrtF cfg test ?_ ht hcu hT hdoc hr0 hr1 hal (Nat.le_trans hfalse (Nat.add_le_add_left hexn _))
  · rw [Ne, ← List.length_eq_zero_iff, length_aud_cvFor, List.length_eq_zero_iff]
    exact hne
  · intro c' hc' hp hu
    rw [aud_cards] at hc'
    obtain ⟨x, hx, rfl⟩ := List.mem_map.mp hc'
    obtain ⟨hx1, hx2⟩ := List.mem_filter.mp hx
    exact hph x hx1 hx2 hp hu
  · rw [length_aud_cvFor]; exact hN

/-- the plain form: the reported winner is not the winner of some possible IRV count of the found manual records of
the cards under audit -/
theorem irv_comparison_full_wrong_winner_risk_limit_found {β D : Type}
    (data : String → String → β → Option ℚ) (T : String → String → SeqTest) (s : State)
    (c : Contest) (hc : c ∈ s) (hr0 : 0 < c.riskLimit) (hr1 : c.riskLimit < 1)
    (cid : κ) (cands : List α) (hcands : cands.Nodup) (winner : α)
    (S : List (Raire.Assertion α D)) (hS : Sufficient cands winner S)
    (hSc : ∀ r ∈ S, r.kind = .nen → r.winner ∈ cands ∧ r.loser ∈ cands)
    (ty : AuditType) (hty : ty = .cardComparison ∨ ty = .oneaudit) (useStyle : Bool)
    (mvr : β → IrvMvr κ α) (cv : β → Cvr) (ca : Raire.Assertion α D → β → ℚ) (cards : List β)
    (hne : C03.aud useStyle (cards.map cv) ≠ [])
    (haud : AuditedComparisonFull data T c cid cands ty useStyle mvr cv ca cards S)
    (hal : ∀ p ∈ foundRecs useStyle cid mvr cv cards, C14.Aligned cid cands p)
    (π : List α) (hπ : Alt cands winner π)
    (hv : validIRV ((trueBallots cid (foundRecs useStyle cid mvr cv cards)).filterMap id) π) :
    hitG (auditCompleteOpt data T s) cards.length cards [] ≤ c.riskLimit :=
  irv_comparison_full_wrong_winner_risk_limit data T s c hc hr0 hr1 cid cands hcands winner S hS hSc ty hty useStyle
    mvr cv ca cards hne haud hal [] (by simp) (Nat.zero_le _) π hπ (by rw [List.append_nil]; exact hv)

/-- **The same for the assertions the modelled RAIRE search returns** (`compute_raire_assertions` on the reported
cvrs `cvrs`, any difficulty function with a lawful order, any fuel, result non-empty): sufficiency is
`C04.raire_sufficient`, the NEN members' winner and loser are candidates by `C04.raire_true`. -/
theorem raire_comparison_full_wrong_winner_risk_limit {β D : Type} [Raire.DiffOrd D] [Raire.DiffOrd.Lawful D]
    (data : String → String → β → Option ℚ) (T : String → String → SeqTest) (s : State)
    (c : Contest) (hc : c ∈ s) (hr0 : 0 < c.riskLimit) (hr1 : c.riskLimit < 1)
    (asn : Nat → Nat → Nat → Nat → D) (C : Raire.Contest α) (cvrs : List (Option (Raire.Ballot α)))
    (winner : α) (hC : C.candidates.Nodup) (hn : 2 ≤ C.candidates.length) (fuel : Nat)
    (as : List (Raire.Assertion α D))
    (h : Raire.computeRaireAssertions asn C cvrs winner fuel = Raire.Res.ok as) (hne' : as ≠ [])
    (cid : κ) (ty : AuditType) (hty : ty = .cardComparison ∨ ty = .oneaudit) (useStyle : Bool)
    (mvr : β → IrvMvr κ α) (cv : β → Cvr) (ca : Raire.Assertion α D → β → ℚ) (cards : List β)
    (hne : C03.aud useStyle (cards.map cv) ≠ [])
    (haud : AuditedComparisonFull data T c cid C.candidates ty useStyle mvr cv ca cards as)
    (hal : ∀ p ∈ foundRecs useStyle cid mvr cv cards, C14.Aligned cid C.candidates p)
    (extra : List (Raire.Ballot α)) (hex : ∀ b ∈ extra, BallotWF b)
    (hexn : extra.length ≤ lostRecs useStyle cid mvr cv cards)
    (π : List α) (hπ : Alt C.candidates winner π)
    (hv : validIRV ((trueBallots cid (foundRecs useStyle cid mvr cv cards)).filterMap id ++ extra) π) :
    hitG (auditCompleteOpt data T s) cards.length cards [] ≤ c.riskLimit :=
  irv_comparison_full_wrong_winner_risk_limit data T s c hc hr0 hr1 cid C.candidates hC winner as
    (C04.raire_sufficient asn C cvrs winner hC hn fuel as h hne') (raire_nen_candidates asn C cvrs winner hC hn fuel as h)
    ty hty useStyle mvr cv ca cards hne haud hal extra hex hexn π hπ hv

end Risk

/-! ### non-vacuity

Candidates 0, 1, 2; card comparison under style-based sampling; five cards.  The machine reported the rankings
(0,1), (1,0), (1,0), (2,1) and one `make_phantoms` phantom CVR (the contest listed, no votes, not pooled): candidate 2
is eliminated first and 1 beats 0 by 3 to 1 — reported winner 1.  On these CVRs the modelled RAIRE search returns
NEB(1, 2) (2 v 1) and NEN(1, 0 | 2 eliminated) (3 v 1); their reported assorter values are 1/2, 1, 1, 0, 1/2 (margin 1/5,
test bound 10/9) and 0, 1, 1, 1, 1/2 (margin 2/5, test bound 5/4).
The manual records: (0,1); (0,1) (the CVR said (1,0)); a record that does not list the contest; (2,1); the phantom's card
cannot be found.  Found ballots (0,1), (0,1), (2,1): candidate 1 has no first preference and is eliminated first, then 2,
and 0 wins — the reported winner is wrong, also if the unfindable card "really" holds (0,2).  Two records are scored 0.
Data 5/9, 5/18, 0, 5/9, 5/18 and 5/8, 0, 0, 5/8, 5/16 (means 1/3 and 5/16). -/

section example_
open Shangrla.NM

/-- a card of the example: its manual record; the votes dict and the phantom flag of its CVR -/
abbrev CardV := IrvMvr String Nat × (Votes String Nat × Bool)

/-- a found manual record holding the ranking `r` -/
def mvrV (r : List Nat) : IrvMvr String Nat := { ballot := cardI r }
/-- a CVR (votes dict, not a phantom) holding the ranking `r` -/
def cvrV (r : List Nat) : Votes String Nat × Bool := (fromVote (auditEnc r) "c", false)

def cardsV : List CardV :=
  [(mvrV [0, 1], cvrV [0, 1]), (mvrV [0, 1], cvrV [1, 0]),
   ({ ballot := ([("other", auditEnc [7])], [("other", genEnc [7])]) }, cvrV [1, 0]),
   (mvrV [2, 1], cvrV [2, 1]),
   ({ ballot := ([], []), phantom := true }, ([("c", [])], true))]

/-- the CVR of a card as the overstatement model reads it (no pools); the `a` field is set per assertion (`cvFor`) -/
def cvF (x : CardV) : Cvr :=
  { hasContest := hasContest x.2.1 "c", phantom := x.2.2, pool := false, tallyPool := none, a := 0, sampleNum := 0 }

/-- the reported assorter value of a card for the assertion `(k, w, l, E)`: the audit-side assorter
(`make_assertions_from_json`) applied to the CVR's votes -/
def caK (k : Raire.Kind) (w l : Nat) (E : List Nat) (x : CardV) : ℚ :=
  irvAssort "c" [0, 1, 2] k w l E (x.2.1, [])
def caV (r : Raire.Assertion Nat Nat) : CardV → ℚ := caK r.kind r.winner r.loser r.eliminated

/-- what the generator is given: the reported rankings; the phantom lists the contest with no ranking -/
def cvrsGenV : List (Option (Raire.Ballot Nat)) :=
  [C04.balEx [0, 1], C04.balEx [1, 0], C04.balEx [1, 0], C04.balEx [2, 1], some []]
def CV : Raire.Contest Nat := { candidates := [0, 1, 2], totBallots := 5, outcome := [] }

def cfgVb : Cfg := { N := some 5, u := 10/9, t := 1/2, randomOrder := true, kw := { eta := some 1 } }
def cfgVn : Cfg := { N := some 5, u := 5/4, t := 1/2, randomOrder := true, kw := { eta := some 1 } }
def dataV : String → String → CardV → Option ℚ := fun _ name x =>
  if name = "neb" then
    cardDatum .cardComparison true (XR.fin (1/5)) 1 none
      (mvrOfIRV (irvAssort "c" [0, 1, 2] .neb 1 2 []) "c" x.1, cvFor cvF (caK .neb 1 2 []) x)
  else
    cardDatum .cardComparison true (XR.fin (2/5)) 1 none
      (mvrOfIRV (irvAssort "c" [0, 1, 2] .nen 1 0 [2]) "c" x.1, cvFor cvF (caK .nen 1 0 [2]) x)
def TV : String → String → SeqTest := fun _ name =>
  if name = "neb" then NM.run sqrtRat cfgVb (.alpha .fixedAlt) else NM.run sqrtRat cfgVn (.alpha .fixedAlt)
def cV : Contest := { id := "c", riskLimit := 9/10, assertions := [{ name := "neb" }, { name := "nen" }] }
def sV : State := [cV]

/-- what the CVRs say: reported assorter values, margins and test bounds of the two assertions -/
theorem marginsV : cardsV.map (caK .neb 1 2 []) = [1/2, 1, 1, 0, 1/2] ∧ cardsV.map (caK .nen 1 0 [2]) = [0, 1, 1, 1, 1/2] ∧
    setMarginFromCvrs 1 true .cardComparison 1 (cardsV.map (cvFor cvF (caK .neb 1 2 [])))
      = .ok (XR.fin (1/5), XR.fin (10/9)) ∧
    setMarginFromCvrs 1 true .cardComparison 1 (cardsV.map (cvFor cvF (caK .nen 1 0 [2])))
      = .ok (XR.fin (2/5), XR.fin (5/4)) := by decide +kernel

example : cardsV.map (caK .neb 1 2 []) = [1/2, 1, 1, 0, 1/2] ∧ cardsV.map (caK .nen 1 0 [2]) = [0, 1, 1, 1, 1/2] ∧
    setMarginFromCvrs 1 true .cardComparison 1 (cardsV.map (cvFor cvF (caK .neb 1 2 [])))
      = .ok (XR.fin (1/5), XR.fin (10/9)) ∧
    setMarginFromCvrs 1 true .cardComparison 1 (cardsV.map (cvFor cvF (caK .nen 1 0 [2])))
      = .ok (XR.fin (2/5), XR.fin (5/4)) := marginsV

/-- the data are read off the two models: `mvrOfIRV` of the manual record, then `mvrs_to_data` -/
theorem dataV_values : cardsV.map (dataV "c" "neb") = [some (5/9), some (5/18), some 0, some (5/9), some (5/18)] ∧
    cardsV.map (dataV "c" "nen") = [some (5/8), some 0, some 0, some (5/8), some (5/16)] := by
  decide +kernel

example : cardsV.map (dataV "c" "neb") = [some (5/9), some (5/18), some 0, some (5/9), some (5/18)] ∧
    cardsV.map (dataV "c" "nen") = [some (5/8), some 0, some 0, some (5/8), some (5/16)] := dataV_values

/-- the found ballots, in the form `validIRV` takes them; two records are scored 0 (a record lacking the contest, an
unfindable card) -/
example : trueBallots "c" (foundRecs true "c" Prod.fst cvF cardsV)
      = [some [(0, 0), (1, 1)], some [(0, 0), (1, 1)], some [(2, 0), (1, 1)]] ∧
    lostRecs true "c" Prod.fst cvF cardsV = 2 := by decide +kernel

theorem foundV_aligned : ∀ p ∈ foundRecs true "c" Prod.fst cvF cardsV, C14.Aligned "c" [0, 1, 2] p := by
  intro p hp
  have h : foundRecs true "c" Prod.fst cvF cardsV = [cardI [0, 1], cardI [0, 1], cardI [2, 1]] := rfl
  rw [h] at hp
  simp only [List.mem_cons, List.not_mem_nil, or_false] at hp
  rcases hp with rfl | rfl | rfl <;> exact aligned_card (by decide) (by decide)

/-- `[1, 2, 0]` is a possible IRV count of the three found ballots together with the ballot (0,2) for the unfindable
card (tallies 0 ≤ 1, 0 ≤ 3; then 1 ≤ 3): candidate 0 wins -/
theorem validIRV_V :
    validIRV ((trueBallots "c" (foundRecs true "c" Prod.fst cvF cardsV)).filterMap id ++ [[(0, 0), (2, 1)]])
      [1, 2, 0] :=
  validIRV_of_rounds (by decide +kernel)

/-- `[1, 2, 0]` is also a possible IRV count of the three found ballots alone -/
theorem validIRV_V_found :
    validIRV ((trueBallots "c" (foundRecs true "c" Prod.fst cvF cardsV)).filterMap id) [1, 2, 0] :=
  validIRV_of_rounds (by decide +kernel)

/-- both assertions are false on the manual records in the sense of `irv_comparison_null_iff` (tallies over the found
ballots 0 v 1 and 1 v 2, two records scored 0) — and even in the plain sense -/
example :
    tallies (trueBallots "c" (foundRecs true "c" Prod.fst cvF cardsV)) .neb 1 2 [] = (0, 1) ∧
    tallies (trueBallots "c" (foundRecs true "c" Prod.fst cvF cardsV)) .nen 1 0 [2] = (1, 2) := by decide +kernel

/-- a stepping stone for instance search: on the 7-tuples of `C04.summary` it runs out of size otherwise -/
local instance : DecidableEq (List Nat × Nat × Nat × Nat) := inferInstance

/-- what the modelled RAIRE search returns on the reported CVRs -/
theorem summaryV : C04.summary (Raire.computeRaireAssertions C04.asnEx CV cvrsGenV 1 100) =
    some [(true, 1, 2, [], 2, 1, 5000), (false, 1, 0, [2], 3, 1, 2500)] := by decide +kernel

/-- every hypothesis of `AuditedComparisonFull` holds for the set the modelled RAIRE search returns on the reported
CVRs -/
theorem auditedV (as : List (Raire.Assertion Nat Nat))
    (h : Raire.computeRaireAssertions C04.asnEx CV cvrsGenV 1 100 = Raire.Res.ok as) :
    as ≠ [] ∧ AuditedComparisonFull dataV TV cV "c" [0, 1, 2] .cardComparison true Prod.fst cvF caV cardsV as := by
  have hs := summaryV
  rw [h] at hs
  obtain ⟨a1, a2, has, ⟨hk1, hw1, hl1, he1⟩, hk2, hw2, hl2, he2⟩ := summary_two hs
  obtain rfl : as = [a1, a2] := Raire.Res.ok.inj has
  refine ⟨List.cons_ne_nil _ _, ?_⟩
  intro r hr
  simp only [List.mem_cons, List.not_mem_nil, or_false] at hr
  rcases hr with rfl | rfl
  · unfold caV
    rw [hk1, hw1, hl1, he1]
    exact ⟨{ name := "neb" }, List.mem_cons_self, none, XR.fin (1/5), XR.fin (10/9), MeansFrom.unset,
      fun x _ => irvAssort_range _ _ _ _ _ _ _, by decide +kernel, marginsV.2.2.1, rfl,
      sqrtRat, cfgVb, .alpha .fixedAlt, by decide +kernel, rfl, rfl, rfl,
      documentedFinite_alpha_fixed (by decide +kernel) rfl rfl⟩
  · unfold caV
    rw [hk2, hw2, hl2, he2]
    exact ⟨{ name := "nen" }, List.mem_cons_of_mem _ List.mem_cons_self, none, XR.fin (2/5), XR.fin (5/4), MeansFrom.unset,
      fun x _ => irvAssort_range _ _ _ _ _ _ _, by decide +kernel, marginsV.2.2.2, rfl,
      sqrtRat, cfgVn, .alpha .fixedAlt, by decide +kernel, rfl, rfl, rfl,
      documentedFinite_alpha_fixed (by decide +kernel) rfl rfl⟩

/-- every hypothesis of `raire_comparison_full_wrong_winner_risk_limit` is satisfiable — the RAIRE output
for the reported CVRs (non-empty), both returned assertions audited on the literal model, aligned found ballots, a
ballot for the unfindable card (`extra`, at most `lostRecs` = 2 of them), and an IRV count of found ballots + `extra`
ending in candidate 0 rather than the reported winner 1 -/
example : hitG (auditCompleteOpt dataV TV sV) 5 cardsV [] ≤ 9/10 := by
  obtain ⟨a1, a2, h, -⟩ := summary_two summaryV
  obtain ⟨hne, haud⟩ := auditedV [a1, a2] h
  exact raire_comparison_full_wrong_winner_risk_limit dataV TV sV cV (List.mem_singleton.2 rfl) (by decide +kernel)
    (by decide +kernel) C04.asnEx CV cvrsGenV 1 (by decide) (by decide) 100 [a1, a2] h hne
    "c" .cardComparison (Or.inl rfl) true Prod.fst cvF caV cardsV (by decide +kernel) haud foundV_aligned
    [[(0, 0), (2, 1)]] (by intro b hb; rw [List.mem_singleton.1 hb]; exact ⟨by decide, by decide⟩)
    (by decide +kernel) [1, 2, 0] ⟨by decide, [1, 2], 0, rfl, by decide⟩ validIRV_V

/-- the plain form (`extra = []`) on a `Sufficient` set given directly -/
example (S : List (Raire.Assertion Nat Nat)) (hS : Sufficient [0, 1, 2] 1 S)
    (hSc : ∀ r ∈ S, r.kind = .nen → r.winner ∈ [0, 1, 2] ∧ r.loser ∈ [0, 1, 2])
    (haud : AuditedComparisonFull dataV TV cV "c" [0, 1, 2] .cardComparison true Prod.fst cvF caV cardsV S) :
    hitG (auditCompleteOpt dataV TV sV) 5 cardsV [] ≤ 9/10 :=
  irv_comparison_full_wrong_winner_risk_limit_found dataV TV sV cV (List.mem_singleton.2 rfl) (by decide +kernel)
    (by decide +kernel) "c" [0, 1, 2] (by decide) 1 S hS hSc .cardComparison (Or.inl rfl) true Prod.fst cvF caV cardsV
    (by decide +kernel) haud foundV_aligned [1, 2, 0] ⟨by decide, [1, 2], 0, rfl, by decide⟩ validIRV_V_found

/-- the event bounded by 9/10 above really happens: although on the manual records candidate 0 beats the reported
winner 1, over the 120 orders of the five cards the audit is reported complete with probability 1/10
(kernel-computed) — below the bound 9/10.  The real library on the same five cards (`make_assertions_from_json`,
`set_all_margins_from_cvrs`, `mvrs_to_data`, `set_p_values`, `summarize_status`;
tools/example_irv_comparison_full.py) gives the same margins, test bounds and data and completes in 12 of the 120
orders. -/
theorem example_irv_comparison_full_exact : hitG (auditCompleteOpt dataV TV sV) 5 cardsV [] = 1/10 := by
  -- the view of a card: its data for the two assertions (`dataV_values`)
  refine (hitG_auditCompleteOpt_bind (fun x => some (dataV "c" "neb" x, dataV "c" "nen" x))
    (fun _ n v => if n = "neb" then v.1 else v.2) TV sV cardsV).trans ?_
  rw [List.filterMap_eq_map', ← List.zip_map', dataV_values.1, dataV_values.2]
  decide +kernel

end example_

end Shangrla.RiskLimit
