/-
  C04 for the second IRV assertion generator of the anchored code, shangrla/raire/simp_assertions.py:
  `simple_IRV_assertions` (the NEN assertion "winner beats runner_up once everybody else is gone" plus
  NEB(winner, c) for every other candidate, each only if its tallies allow it; what could not be asserted is
  listed in `failed_to_assert`) and `sim_irv` (the plain IRV count the script takes (winner, runner_up) from).

  Theorems are about `Shangrla.Simp.simpleIrvAssertions` / `Shangrla.Simp.simIrv`, the literal models the driver
  executes, and are stated with the vocabulary of the RAIRE theorems (namespace `Raire.Spec`: `holds`, `Fam`,
  `contradicts`, `Alt`, `Sufficient`, `validIRV`), i.e. with the SAME tally definitions.
-/
import Shangrla.Lemmas.SimpSpec
import Shangrla.Props.C04
import Shangrla.Props.C15

namespace Shangrla.C04
open Shangrla.Raire Shangrla.Raire.Spec Shangrla.Simp

variable {α : Type} [DecidableEq α]

/-! ### simple_IRV_assertions -/

/-- what the returned list consists of: possibly the NEN assertion (first), then NEB(winner, c) for candidates
`c` other than winner and runner_up -/
theorem simple_members (C : Contest α) (cvrs : List (Option (Ballot α))) (winner runnerUp : α)
    (a : Assertion α Unit) (ha : a ∈ (simpleIrvAssertions C cvrs winner runnerUp).1) :
    (a = nenOf winner runnerUp (othersOf C winner runnerUp) (countsOf C cvrs winner runnerUp) ∧
      (countsOf C cvrs winner runnerUp).rTally1 < (countsOf C cvrs winner runnerUp).wTally1) ∨
    ∃ c ∈ othersOf C winner runnerUp, a = nebOf winner c (countsOf C cvrs winner runnerUp) ∧
      dictGet (countsOf C cvrs winner runnerUp).maxCW2 c < (countsOf C cvrs winner runnerUp).minW2 :=
  (mem_simple_iff C cvrs winner runnerUp a).1 ha

/-- **C04, truth.** Every assertion `simple_IRV_assertions` returns holds on the CVRs with exactly the tallies
it reports, winner strictly larger — the tallies being those of the RAIRE theorems (`nebVoteW`/`nebVoteL` sums over
the cards for NEB, `voteForCand` sums over the ballots for NEN). For every reported (winner, runner_up), candidates
or not. -/
theorem simple_true (C : Contest α) (cvrs : List (Option (Ballot α))) (winner runnerUp : α)
    (hC : C.candidates.Nodup) :
    ∀ a ∈ (simpleIrvAssertions C cvrs winner runnerUp).1, holds cvrs a := by
  intro a ha
  obtain ⟨h1, h2, h3, h4⟩ := countBallots_spec winner runnerUp (othersOf C winner runnerUp) cvrs
  rcases simple_members C cvrs winner runnerUp a ha with ⟨rfl, hlt⟩ | ⟨c, hc, rfl, hlt⟩
  · exact ⟨h1, h2, hlt⟩
  · have hcount : (othersOf C winner runnerUp).count c = 1 := by
      rw [(nodup_othersOf C hC winner runnerUp).count, if_pos hc]
    exact ⟨h3, h4 c hcount, hlt⟩

/-- the returned assertions are members of the family of true NEB/NEN assertions of the contest (`Fam`, the family
the RAIRE theorems quantify over), when winner and runner_up are candidates; `valid_order_not_excluded` applies -/
theorem simple_fam (asn : Nat → Nat → Nat → Nat → Unit) (C : Contest α) (cvrs : List (Option (Ballot α)))
    (winner runnerUp : α) (hC : C.candidates.Nodup) (hw : winner ∈ C.candidates) (hr : runnerUp ∈ C.candidates) :
    ∀ a ∈ (simpleIrvAssertions C cvrs winner runnerUp).1, Fam asn C cvrs a := by
  intro a ha
  have hh := simple_true C cvrs winner runnerUp hC a ha
  rcases simple_members C cvrs winner runnerUp a ha with ⟨rfl, hlt⟩ | ⟨c, hc, rfl, hlt⟩
  · refine ⟨hw, hr, ?_, fun _ => ⟨?_, ?_, ?_⟩, hh, rfl⟩
    · intro (heq : winner = runnerUp)
      subst heq
      exact absurd (hh.1.trans hh.2.1.symm) (Nat.ne_of_gt hh.2.2)
    · intro h; exact ((mem_othersOf C _ _ _).1 h).2.1 rfl
    · intro h; exact ((mem_othersOf C _ _ _).1 h).2.2 rfl
    · intro y hy; exact ((mem_othersOf C _ _ _).1 hy).1
  · obtain ⟨hcc, hcw, _⟩ := (mem_othersOf C _ _ _).1 hc
    exact ⟨hw, hcc, fun h => hcw h.symm, (fun h => nomatch h), hh, rfl⟩

/-- `failed_to_assert = []` means that all assertions could be formed -/
theorem simple_complete_iff (C : Contest α) (cvrs : List (Option (Ballot α))) (winner runnerUp : α) :
    (simpleIrvAssertions C cvrs winner runnerUp).2 = [] ↔
      (countsOf C cvrs winner runnerUp).rTally1 < (countsOf C cvrs winner runnerUp).wTally1 ∧
      ∀ c ∈ othersOf C winner runnerUp,
        dictGet (countsOf C cvrs winner runnerUp).maxCW2 c < (countsOf C cvrs winner runnerUp).minW2 := by
  unfold simpleIrvAssertions
  simp only [nebFold_spec, List.append_eq_nil_iff, List.map_eq_nil_iff, List.filter_eq_nil_iff, Bool.not_eq_true',
    decide_eq_false_iff_not, Decidable.not_not]
  refine and_congr ?_ Iff.rfl
  split
  · rename_i h
    exact ⟨fun _ => h, fun _ => rfl⟩
  · rename_i h
    exact ⟨fun ha => (nomatch ha), fun ha => absurd ha h⟩

/-- **C04, sufficiency.** If `failed_to_assert` is empty (all assertions could be formed) and the reported
winner is a candidate, the returned set excludes every alternative winner: every complete elimination order ending in
another candidate is contradicted by a returned assertion. (No hypothesis on runner_up: if it equals the winner the
NEN assertion cannot be formed; if it is not a candidate the NEB assertions alone suffice.) -/
theorem simple_sufficient (C : Contest α) (cvrs : List (Option (Ballot α))) (winner runnerUp : α)
    (hC : C.candidates.Nodup) (hw : winner ∈ C.candidates)
    (hcomplete : (simpleIrvAssertions C cvrs winner runnerUp).2 = []) :
    Sufficient C.candidates winner (simpleIrvAssertions C cvrs winner runnerUp).1 := by
  obtain ⟨hnen, hneb⟩ := (simple_complete_iff C cvrs winner runnerUp).1 hcomplete
  intro π ⟨hperm, pre, x, hπ, hx⟩
  subst hπ
  have hnd : (pre ++ [x]).Nodup := hperm.nodup_iff.2 hC
  have hlast := (List.nodup_append.1 hnd).2.2
  -- NEB(winner, y) is returned for every candidate `y` other than winner and runner_up
  have nebMem : ∀ y ∈ pre ++ [x], y ≠ winner → y ≠ runnerUp →
      nebOf winner y (countsOf C cvrs winner runnerUp) ∈ (simpleIrvAssertions C cvrs winner runnerUp).1 := by
    intro y hy hyw hyr
    have hyo := (mem_othersOf C _ _ _).2 ⟨hperm.mem_iff.1 hy, hyw, hyr⟩
    exact (mem_simple_iff ..).2 (Or.inr ⟨y, hyo, rfl, hneb y hyo⟩)
  have hwpre : winner ∈ pre :=
    (List.mem_append.1 (hperm.mem_iff.2 hw)).resolve_right fun h => hx (List.mem_singleton.1 h).symm
  have hxπ : x ∈ pre ++ [x] := List.mem_append_right _ (List.mem_singleton_self x)
  by_cases hxr : x = runnerUp
  · obtain ⟨p1, p2, rfl⟩ := List.append_of_mem hwpre
    have hmid := List.nodup_append.1 (List.nodup_append.1 hnd).1
    cases p2 with
    | cons y p2 =>
      -- somebody stands between the winner and runner_up: NEB(winner, y)
      have hy : y ∈ p1 ++ winner :: y :: p2 := List.mem_append_right _ (List.mem_cons_of_mem _ List.mem_cons_self)
      have hyw : y ≠ winner := fun h => (List.nodup_cons.1 hmid.2.1).1 (h ▸ List.mem_cons_self)
      refine ⟨_, nebMem y (List.mem_append_left _ hy) hyw (hxr ▸ hlast y hy x (List.mem_singleton_self x)), ?_⟩
      have hsplit : p1 ++ winner :: y :: p2 ++ [x] = (p1 ++ [winner]) ++ (y :: p2 ++ [x]) := by
        rw [List.append_cons p1, List.append_assoc]
      rw [hsplit]
      exact contra_neb_append _ (List.mem_append_right _ (List.mem_singleton_self _)) List.mem_cons_self
    | nil =>
      -- the order ends `winner, runner_up`: the NEN assertion, everybody else being eliminated before
      subst hxr
      refine ⟨_, (mem_simple_iff ..).2 (Or.inl ⟨rfl, hnen⟩), p1, [x],
        List.append_assoc _ _ _, fun y => ?_, List.mem_singleton_self x⟩
      · show y ∈ othersOf C winner x ↔ y ∈ p1
        rw [mem_othersOf]
        constructor
        · rintro ⟨hyc, hyw, hyx⟩
          rcases List.mem_append.1 (hperm.mem_iff.2 hyc) with h | h
          · exact (List.mem_append.1 h).resolve_right fun h => hyw (List.mem_singleton.1 h)
          · exact absurd (List.mem_singleton.1 h) hyx
        · intro hy
          have hyπ : y ∈ p1 ++ [winner] := List.mem_append_left _ hy
          exact ⟨hperm.mem_iff.1 (List.mem_append_left _ hyπ),
            hmid.2.2 y hy winner (List.mem_singleton_self _), hlast y hyπ x (List.mem_singleton_self x)⟩
  · -- another candidate than runner_up outlasts the winner: NEB(winner, x)
    exact ⟨_, nebMem x hxπ hx hxr, contra_neb_append _ hwpre (List.mem_singleton_self x)⟩

/-- **C04, "in particular".** With well-formed ballots, if the reported winner is not the unique possible IRV
winner — some possible IRV count of the CVRs (ties broken any way) ends in another candidate — then
`simple_IRV_assertions` cannot form all its assertions: `failed_to_assert` is not empty (the script then reports
"Full Recount"). -/
theorem simple_complete_wrong_winner (C : Contest α) (cvrs : List (Option (Ballot α))) (winner runnerUp : α)
    (hC : C.candidates.Nodup) (hw : winner ∈ C.candidates)
    (hwf : ∀ b ∈ cvrs.filterMap id, BallotWF b) (π : List α) (hπ : Alt C.candidates winner π)
    (hv : validIRV (cvrs.filterMap id) π) :
    (simpleIrvAssertions C cvrs winner runnerUp).2 ≠ [] := by
  intro hcomplete
  obtain ⟨a, ha, hc⟩ := simple_sufficient C cvrs winner runnerUp hC hw hcomplete π hπ
  exact valid_not_contradicted_holds cvrs hwf π (hπ.1.nodup_iff.2 hC) hv a (simple_true C cvrs winner runnerUp hC a ha) hc

/-- the same, read forwards: if all assertions could be formed, every possible IRV count of the CVRs is won by the
reported winner -/
theorem simple_complete_unique_winner (C : Contest α) (cvrs : List (Option (Ballot α))) (winner runnerUp : α)
    (hC : C.candidates.Nodup) (hw : winner ∈ C.candidates)
    (hwf : ∀ b ∈ cvrs.filterMap id, BallotWF b)
    (hcomplete : (simpleIrvAssertions C cvrs winner runnerUp).2 = [])
    (π : List α) (hperm : π.Perm C.candidates) (hv : validIRV (cvrs.filterMap id) π) :
    π.getLast? = some winner := by
  obtain ⟨pre, x, rfl⟩ := exists_eq_concat (List.ne_nil_of_mem (hperm.mem_iff.2 hw))
  by_cases hx : x = winner
  · rw [hx]; exact List.getLast?_concat
  · exact absurd hcomplete
      (simple_complete_wrong_winner C cvrs winner runnerUp hC hw hwf _ ⟨hperm, pre, x, rfl, hx⟩ hv)

/-! ### sim_irv -/

/-- **sim_irv follows a possible IRV count.** On a contest (duplicate-free candidate list of at least two) `sim_irv`
returns the last two candidates `(w, r)` of a complete elimination order that is a possible IRV count of the CVRs:
at every round the candidate eliminated has a smallest tally among those standing. `validIRV` allows ties to be
broken either way, so this holds with or without ties (the rule of the code — the first candidate in `standing`
order among those with the smallest tally goes — is `Simp.pickMin_spec`). -/
theorem sim_irv_valid (C : Contest α) (cvrs : List (Option (Ballot α))) (hC : C.candidates.Nodup)
    (hn : 2 ≤ C.candidates.length) :
    ∃ pre w r, simIrv C cvrs = Res.ok (w, r) ∧ (pre ++ [r, w]).Perm C.candidates ∧
      validIRV (cvrs.filterMap id) (pre ++ [r, w]) := by
  obtain ⟨order, s0, h1, h2, h3⟩ := simLoop_spec (cvrs.filterMap id) C.candidates.length C.candidates [] hC
    (List.ne_nil_of_length_pos (Nat.lt_of_lt_of_le Nat.zero_lt_two hn)) (Nat.le_succ _)
  -- with two candidates or more somebody has been eliminated
  have hone : order ≠ [] := fun h => by
    rw [h] at h2
    exact absurd (Nat.le_trans hn (Nat.le_of_eq h2.length_eq.symm)) (Nat.not_succ_le_self 1)
  obtain ⟨pre, r, rfl⟩ := exists_eq_concat hone
  have hπ : pre ++ [r] ++ [s0] = pre ++ [r, s0] := List.append_assoc pre [r] [s0]
  refine ⟨pre, s0, r, ?_, hπ ▸ h2, fun p x q hs => h3 p x q (hπ.trans hs)⟩
  simp only [simIrv, simIrvState, h1, List.nil_append, List.getLast?_concat]

theorem sim_irv_distinct_candidates (C : Contest α) (cvrs : List (Option (Ballot α))) (hC : C.candidates.Nodup)
    (hn : 2 ≤ C.candidates.length) (w r : α) (h : simIrv C cvrs = Res.ok (w, r)) :
    w ≠ r ∧ w ∈ C.candidates ∧ r ∈ C.candidates := by
  obtain ⟨pre, w', r', h1, h2, _⟩ := sim_irv_valid C cvrs hC hn
  cases h.symm.trans h1
  have hnd := (List.nodup_append.1 (h2.nodup_iff.2 hC)).2.1
  exact ⟨fun e => (List.nodup_cons.1 hnd).1 (List.mem_singleton.2 e.symm),
    h2.mem_iff.1 (List.mem_append_right _ (List.mem_cons_of_mem _ List.mem_cons_self)),
    h2.mem_iff.1 (List.mem_append_right _ List.mem_cons_self)⟩

/-- **Termination and exceptions of sim_irv**, for every candidate list (repeated candidates included): with fewer
than two candidates it raises IndexError (`standing[0]` of an empty list / `eliminated[-1]` of an empty list),
otherwise it returns a pair — the `len(candidates)` loop iterations the model allows are never used up and
`standing.remove(None)` is never reached. -/
theorem sim_irv_terminates (C : Contest α) (cvrs : List (Option (Ballot α))) :
    (C.candidates.length < 2 ∧ simIrv C cvrs = Res.err Err.IndexError) ∨
    (2 ≤ C.candidates.length ∧ ∃ w r, simIrv C cvrs = Res.ok (w, r)) := by
  by_cases hn : 2 ≤ C.candidates.length
  · obtain ⟨s, e, h1, h2, h3, h4⟩ :=
      simLoop_total (cvrs.filterMap id) C.candidates.length C.candidates [] (Nat.le_succ _)
    have hs : s ≠ [] := h3 (List.ne_nil_of_length_pos (Nat.lt_of_lt_of_le Nat.zero_lt_two hn))
    have he : e ≠ [] := fun h => by
      rw [h] at h4
      exact absurd (Nat.le_trans hn (Nat.le_trans (Nat.le_of_eq (Nat.add_left_cancel h4).symm) h2))
        (Nat.not_succ_le_self 1)
    obtain ⟨s0, s', rfl⟩ := List.exists_cons_of_ne_nil hs
    refine Or.inr ⟨hn, s0, e.getLast he, ?_⟩
    simp only [simIrv, simIrvState, h1, List.getLast?_eq_some_getLast he]
  · -- the loop is not entered; `standing[0]` or `eliminated[-1]` fails
    have hn := Nat.lt_of_not_le hn
    refine Or.inl ⟨hn, ?_⟩
    rw [simIrv, simIrvState, simLoop_done _ _ _ (Nat.le_of_lt_succ hn)]
    cases C.candidates <;> rfl

/-- an IRV count without ties: at every round the eliminated candidate has strictly fewer votes than everybody
still standing -/
def StrictIRV (ballots : List (Ballot α)) (π : List α) : Prop :=
  ∀ pre x post, π = pre ++ x :: post → ∀ y ∈ post, tally ballots x pre < tally ballots y pre

/-- without ties the IRV count is unique: every possible count is the strict one -/
theorem irv_count_unique (ballots : List (Ballot α)) (π π' : List α) (hperm : π'.Perm π)
    (hs : StrictIRV ballots π) (hv : validIRV ballots π') : π' = π :=
  -- `StrictIRV ballots π` unfolds to `Rounds (· < ·) ballots [] π`
  rounds_unique ballots π [] π' hperm hs (validIRV_iff_rounds.1 hv)

/-- **sim_irv without ties**: if the CVRs have an IRV count `π` without ties, `sim_irv` returns its winner and its
runner-up -/
theorem sim_irv_no_ties (C : Contest α) (cvrs : List (Option (Ballot α))) (hC : C.candidates.Nodup)
    (hn : 2 ≤ C.candidates.length) (π : List α) (hπ : π.Perm C.candidates)
    (hs : StrictIRV (cvrs.filterMap id) π) :
    ∃ pre w r, π = pre ++ [r, w] ∧ simIrv C cvrs = Res.ok (w, r) := by
  obtain ⟨pre, w, r, h1, h2, h3⟩ := sim_irv_valid C cvrs hC hn
  exact ⟨pre, w, r, (irv_count_unique _ π _ (h2.trans hπ.symm) hs h3).symm, h1⟩

/-- **The script's use**: `simple_IRV_assertions` run on the pair `sim_irv` returns. If all assertions can be formed
(the script then prints an audit cost instead of "Full Recount"), the returned set is sufficient for the winner
`sim_irv` found, every member is true of the CVRs, and — ballots well formed — that winner is the winner of EVERY
possible IRV count of the CVRs. -/
theorem sim_then_simple (C : Contest α) (cvrs : List (Option (Ballot α))) (hC : C.candidates.Nodup)
    (hn : 2 ≤ C.candidates.length) (w r : α) (h : simIrv C cvrs = Res.ok (w, r))
    (hcomplete : (simpleIrvAssertions C cvrs w r).2 = []) :
    (∀ a ∈ (simpleIrvAssertions C cvrs w r).1, holds cvrs a) ∧
    Sufficient C.candidates w (simpleIrvAssertions C cvrs w r).1 ∧
    ((∀ b ∈ cvrs.filterMap id, BallotWF b) → ∀ π, π.Perm C.candidates → validIRV (cvrs.filterMap id) π →
      π.getLast? = some w) := by
  obtain ⟨_, hw, _⟩ := sim_irv_distinct_candidates C cvrs hC hn w r h
  exact ⟨simple_true C cvrs w r hC, simple_sufficient C cvrs w r hC hw hcomplete,
    fun hwf π hp hv => simple_complete_unique_winner C cvrs w r hC hw hwf hcomplete π hp hv⟩

/-! ### relation to RAIRE

The script runs both generators on the same contest and prints both audit costs. With the difficulty function
RAIRE is given, the simple set (when complete) is one of the sets RAIRE's optimum ranges over. -/

/-- a simple assertion with the difficulty the contest's difficulty function assigns to its tallies -/
def priced {D : Type} (asn : Nat → Nat → Nat → Nat → D) (C : Contest α) (a : Assertion α Unit) : Assertion α D :=
  { kind := a.kind, winner := a.winner, loser := a.loser, eliminated := a.eliminated, votesW := a.votesW,
    votesL := a.votesL, difficulty := asn a.votesW a.votesL (C.totBallots - (a.votesW + a.votesL)) C.totBallots,
    rulesOut := [] }

/-- a complete simple set, priced, is a competing set in the sense of C15: true assertions of the family RAIRE
searches, excluding every alternative winner -/
theorem simple_complete_competing {D : Type} (asn : Nat → Nat → Nat → Nat → D) (C : Contest α)
    (cvrs : List (Option (Ballot α))) (winner runnerUp : α) (hC : C.candidates.Nodup)
    (hw : winner ∈ C.candidates) (hr : runnerUp ∈ C.candidates)
    (hcomplete : (simpleIrvAssertions C cvrs winner runnerUp).2 = []) :
    C15.Competing asn C cvrs winner ((simpleIrvAssertions C cvrs winner runnerUp).1.map (priced asn C)) := by
  constructor
  · intro b hb
    obtain ⟨a, ha, rfl⟩ := List.mem_map.1 hb
    obtain ⟨h1, h2, h3, h4, h5, _⟩ := simple_fam (fun _ _ _ _ => ()) C cvrs winner runnerUp hC hw hr a ha
    exact ⟨h1, h2, h3, h4, h5, rfl⟩
  · intro π hπ
    obtain ⟨a, ha, hc⟩ := simple_sufficient C cvrs winner runnerUp hC hw hcomplete π hπ
    exact ⟨priced asn C a, List.mem_map.2 ⟨a, ha, rfl⟩, hc⟩

/-- **If the simple generator can form all its assertions, RAIRE finds an audit too, and never a costlier one**:
RAIRE's result is non-empty and its largest difficulty is at most the largest difficulty in the simple set. -/
theorem simple_complete_raire {D : Type} [DiffOrd D] [DiffOrd.Lawful D] (asn : Nat → Nat → Nat → Nat → D)
    (C : Contest α) (cvrs : List (Option (Ballot α))) (winner runnerUp : α) (hC : C.candidates.Nodup)
    (hn : 2 ≤ C.candidates.length) (hw : winner ∈ C.candidates) (hr : runnerUp ∈ C.candidates)
    (hcomplete : (simpleIrvAssertions C cvrs winner runnerUp).2 = [])
    (fuel : Nat) (as : List (Assertion α D)) (h : computeRaireAssertions asn C cvrs winner fuel = Res.ok as) :
    as ≠ [] ∧ ∀ m m', C15.IsMaxDiff as m →
      C15.IsMaxDiff ((simpleIrvAssertions C cvrs winner runnerUp).1.map (priced asn C)) m' →
      DiffOrd.le m m' = true := by
  have hS := simple_complete_competing asn C cvrs winner runnerUp hC hw hr hcomplete
  have hne := C15.raire_nonempty_of_possible asn C cvrs winner hC hn fuel as h _ hS
  exact ⟨hne, fun m m' hm hm' => (C15.raire_optimal asn C cvrs winner hC hn fuel as h hne m hm).2 _ m' hS hm'⟩

/-! ### Non-vacuity: concrete contests (tests of the statements' hypotheses, not of the theorems)

`CEx`, `cvrsEx` of Props/C04.lean: candidates 0, 1, 2; ballots 4 x (0,1), 3 x (1,2), 2 x (2,1): candidate 2 is
eliminated first and 1 beats 0 by 5 to 4. -/

/-- (is NEB, winner, loser, eliminated, tallies) of each returned assertion, and the failures -/
def simpSummary (r : List (Assertion Nat Unit) × List (Failure Nat)) :
    List (Bool × Nat × Nat × List Nat × Nat × Nat) × List (Bool × Nat × Nat × List Nat) :=
  (r.1.map fun a => (a.kind == .neb, a.winner, a.loser, a.eliminated, a.votesW, a.votesL),
   r.2.map fun f => (f.kind == .neb, f.winner, f.loser, f.eliminated))

def simSummary (r : Res (Nat × Nat)) : Option (Nat × Nat) :=
  match r with
  | Res.ok p => some p
  | _ => none

-- `DecidableEq` instance search fails on the products of `simpSummary` (the instance term doubles in size with
-- every component); given this instance for the last three components it succeeds
local instance : DecidableEq (List Nat × Nat × Nat) := inferInstance

-- sim_irv: winner 1, runner-up 0
example : simSummary (simIrv CEx cvrsEx) = some (1, 0) := by decide +kernel
-- simple_IRV_assertions on that pair: NEN(1,0 | 2 eliminated) 5 > 4 and NEB(1,2) 3 > 2, nothing failed
example : simpSummary (simpleIrvAssertions CEx cvrsEx 1 0) =
    ([(false, 1, 0, [2], 5, 4), (true, 1, 2, [], 3, 2)], []) := by decide +kernel
-- reported winner 0 (wrong), runner-up 1: neither assertion can be formed (4 vs 5; 4 first preferences vs 5 mentions)
example : simpSummary (simpleIrvAssertions CEx cvrsEx 0 1) =
    ([], [(false, 0, 1, [2]), (true, 0, 2, [])]) := by decide +kernel
-- right winner, wrong runner-up: NEN(1,2 | 0 eliminated) 7 > 2 holds, NEB(1,0) fails (3 vs 4)
example : simpSummary (simpleIrvAssertions CEx cvrsEx 1 2) =
    ([(false, 1, 2, [0], 7, 2)], [(true, 1, 0, [])]) := by decide +kernel
-- winner = runner_up: the NEN comparison is 9 vs 9 and fails
example : simpSummary (simpleIrvAssertions CEx cvrsEx 1 1) =
    ([(true, 1, 2, [], 3, 2)], [(false, 1, 1, [0, 2]), (true, 1, 0, [])]) := by decide +kernel
-- `simple_true`, `simple_sufficient` apply to the run on (1, 0): hypotheses satisfiable, conclusion non-trivial
example : (simpleIrvAssertions CEx cvrsEx 1 0).1 ≠ [] ∧
    (∀ a ∈ (simpleIrvAssertions CEx cvrsEx 1 0).1, holds cvrsEx a) ∧
    Sufficient CEx.candidates 1 (simpleIrvAssertions CEx cvrsEx 1 0).1 :=
  ⟨by decide +kernel, simple_true CEx cvrsEx 1 0 (by decide),
   simple_sufficient CEx cvrsEx 1 0 (by decide) (by decide) (by decide +kernel)⟩
instance (b : Ballot Nat) : Decidable (BallotWF b) := by unfold BallotWF; infer_instance
-- `simple_complete_raire` on this contest: RAIRE (C04's example run) returns NEB(1,2) and NEN(1,0 | 2), the simple set
-- priced with the same difficulty function is the same two assertions: largest difficulty 9000 on both sides
example : (simpleIrvAssertions CEx cvrsEx 1 0).1.map (fun a => (priced asnEx CEx a).difficulty) = [9000, 9000] := by decide +kernel
/-- the count 2, 0, 1 of `cvrsEx`, round by round: 2 goes with 2 votes against 4 and 3, then 0 with 4 against 5 -/
theorem strictEx : StrictIRV (cvrsEx.filterMap id) [2, 0, 1] :=
  show Rounds (· < ·) (cvrsEx.filterMap id) [] [2, 0, 1] from
    rounds_cons.2 ⟨by decide +kernel, rounds_cons.2 ⟨by decide +kernel, rounds_cons.2 ⟨by decide, rounds_nil⟩⟩⟩
-- the hypotheses of `simple_complete_wrong_winner` for reported winner 0: the ballots are well formed and the
-- order 2, 0, 1 is a possible IRV count ending in 1
example : (∀ b ∈ cvrsEx.filterMap id, BallotWF b) ∧ Alt CEx.candidates 0 [2, 0, 1] ∧
    validIRV (cvrsEx.filterMap id) [2, 0, 1] :=
  ⟨by decide, ⟨by decide, [2, 0], 1, rfl, by decide⟩,
    fun pre x post h y hy => Nat.le_of_lt (strictEx pre x post h y hy)⟩
-- the count 2, 0, 1 has no tie: `sim_irv_no_ties` applies
example : StrictIRV (cvrsEx.filterMap id) [2, 0, 1] := strictEx
-- a three-way tie: the first candidate in `standing` order with the smallest tally goes, so the result depends on
-- the order in which the contest lists its candidates
def cvrsTie : List (Option (Ballot Nat)) :=
  List.replicate 2 (balEx [0]) ++ List.replicate 2 (balEx [1]) ++ List.replicate 2 (balEx [2])
example : simSummary (simIrv CEx cvrsTie) = some (2, 1) := by decide +kernel
example : simSummary (simIrv { CEx with candidates := [2, 1, 0] } cvrsTie) = some (0, 1) := by decide +kernel
-- fewer than two candidates: IndexError (`sim_irv_terminates`, first case)
example : simIrv { CEx with candidates := [0] } cvrsEx = Res.err Err.IndexError := by rfl
example : simIrv { CEx with candidates := [] } cvrsEx = Res.err Err.IndexError := by rfl
-- a hole in the first line position (candidate 0 at position 1, nothing at position 0): a vote for 0 in the count
-- (NEN tally 4 + 3), not a first preference for NEB (`widx == 0` fails: 4, and the ballot is no mention of 2 before 0)
def cvrsHole : List (Option (Ballot Nat)) :=
  List.replicate 4 (balEx [0, 1]) ++ List.replicate 3 (some [(0, 1), (1, 2)]) ++ List.replicate 2 (balEx [2, 1]) ++ [none]
example : simpSummary (simpleIrvAssertions CEx cvrsHole 0 1) =
    ([(false, 0, 1, [2], 7, 2), (true, 0, 2, [], 4, 2)], []) := by decide +kernel
-- a repeated candidate: one dict entry, incremented once per occurrence (why `simple_true` asks for a duplicate-free
-- candidate list): NEB(0, 2) fails twice, with loser tally 2 x 5
example : simpSummary (simpleIrvAssertions { CEx with candidates := [0, 1, 2, 2] } cvrsEx 0 1) =
    ([], [(false, 0, 1, [2, 2]), (true, 0, 2, []), (true, 0, 2, [])]) := by decide +kernel
example : dictGet (countsOf { CEx with candidates := [0, 1, 2, 2] } cvrsEx 0 1).maxCW2 2 = 10 := by decide +kernel

end Shangrla.C04
