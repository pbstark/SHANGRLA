/-
  C08, first sentence — phantom records account for every possible card.
  (The second sentence of C08 — how the overstatement scores a phantom — is Props/C08b.lean.)

  Theorems are about the literal model `Shangrla.Phantoms.makePhantoms` of `CVR.make_phantoms` that the driver
  executes.  A record is (id, the contests it lists, phantom flag); votes are not an argument of the model.
-/
import Shangrla.Lemmas.Phantoms

namespace Shangrla.C08
open Shangrla.Sampling (ContestId Contest)
open Shangrla.Phantoms

/-- the contest's card bound after the call: the user's bound when style information is used and a bound was
given, the stratum's `max_cards` otherwise -/
def bound (useStyle : Bool) (maxCards : Nat) (con : Contest) : Nat :=
  if con.cards.isNone || !useStyle then maxCards else con.cards.getD 0

/-- number of records (real or phantom) that list contest `c`: what `cards_c` has to equal after the call -/
def listing (recs : List Rec) (c : ContestId) : Nat := (recs.filter (fun r => r.has c)).length

/-- the largest shortfall `cards_c − cvrs_c` over the contests (0 if there is no contest) -/
def maxShortfall (useStyle : Bool) (maxCards : Nat) (cvrs : List Rec) (contests : List Contest) : Nat :=
  contests.foldl (fun m con => max m (bound useStyle maxCards con - countCvrs cvrs con.id)) 0

theorem setParams_eq (useStyle : Bool) (maxCards : Nat) (cvrs : List Rec) (contests : List Contest) :
    setParams useStyle maxCards cvrs contests =
      contests.map (fun con => { con with cvrs := countCvrs cvrs con.id, cards := some (bound useStyle maxCards con) }) := by
  unfold setParams bound
  refine List.map_congr_left fun con _ => ?_
  cases con.cards <;> cases useStyle <;> rfl

theorem setParams_ids (useStyle : Bool) (maxCards : Nat) (cvrs : List Rec) (contests : List Contest) :
    (setParams useStyle maxCards cvrs contests).map (·.id) = contests.map (·.id) := by
  unfold setParams; rw [List.map_map]; rfl

theorem maxNeeded_setParams (useStyle : Bool) (maxCards : Nat) (cvrs : List Rec) (contests : List Contest) :
    maxNeeded (setParams useStyle maxCards cvrs contests) = maxShortfall useStyle maxCards cvrs contests := by
  rw [setParams_eq]
  unfold maxNeeded maxShortfall
  rw [List.foldl_map]
  rfl

theorem makePhantoms_style (maxCards : Nat) (pfx : String) (contests : List Contest) (cvrs : List Rec)
    (hid : (contests.map (·.id)).Nodup) :
    makePhantoms true maxCards pfx contests cvrs =
      (cvrs ++ closed pfx (setParams true maxCards cvrs contests),
       ((closed pfx (setParams true maxCards cvrs contests)).length : Int), setParams true maxCards cvrs contests) := by
  show (cvrs ++ (setParams true maxCards cvrs contests).foldl (styleStep pfx) [],
    (((setParams true maxCards cvrs contests).foldl (styleStep pfx) []).length : Int), _) = _
  rw [style_phantoms pfx _ ((setParams_ids ..).symm ▸ hid)]

/-- **C08, style information used.** For contests with distinct ids:
* the result is the original list followed by the phantoms (originals unchanged and first); every phantom is
  flagged and lists only audited contests;
* the number of phantoms (also the reported count) is the largest shortfall `max_c (cards_c − cvrs_c)`, 0 without
  contests — never more;
* every contest gets `cvrs` = the number of non-phantom records listing it and `cards` = its bound
  (`max_cards` when unspecified);
* for every contest the records listing it are the original ones listing it plus exactly `cards_c − cvrs_c`
  phantoms; hence, when the bound is at least the count and no phantom record was passed in that lists the contest,
  exactly `cards_c` records (real plus phantom) list it. -/
theorem phantoms_style (maxCards : Nat) (pfx : String) (contests : List Contest) (cvrs : List Rec)
    (hid : (contests.map (·.id)).Nodup) :
    ∃ ph : List Rec,
      (makePhantoms true maxCards pfx contests cvrs).1 = cvrs ++ ph ∧
      (∀ r ∈ ph, r.phantom = true ∧ ∀ c ∈ r.styles, c ∈ contests.map (·.id)) ∧
      (makePhantoms true maxCards pfx contests cvrs).2.1 = (ph.length : Int) ∧
      ph.length = maxShortfall true maxCards cvrs contests ∧
      (makePhantoms true maxCards pfx contests cvrs).2.2 =
        contests.map (fun con => { con with cvrs := countCvrs cvrs con.id, cards := some (bound true maxCards con) }) ∧
      ∀ con ∈ contests,
        listing ph con.id = bound true maxCards con - countCvrs cvrs con.id ∧
        listing (cvrs ++ ph) con.id = listing cvrs con.id + (bound true maxCards con - countCvrs cvrs con.id) ∧
        (countCvrs cvrs con.id ≤ bound true maxCards con →
          (∀ r ∈ cvrs, r.phantom = true → r.has con.id = false) →
          listing (cvrs ++ ph) con.id = bound true maxCards con) := by
  rw [makePhantoms_style maxCards pfx contests cvrs hid]
  refine ⟨closed pfx (setParams true maxCards cvrs contests), rfl, ?_, rfl, ?_, setParams_eq .., ?_⟩
  · intro r hr
    have := closed_styles pfx _ r hr
    rw [setParams_ids] at this
    exact this
  · unfold closed
    rw [List.length_map, List.length_range', maxNeeded_setParams]
  · intro con hm
    have hph : listing (closed pfx (setParams true maxCards cvrs contests)) con.id
        = bound true maxCards con - countCvrs cvrs con.id :=
      count_closed pfx _ ((setParams_ids ..).symm ▸ hid)
        { con with cvrs := countCvrs cvrs con.id, cards := some (bound true maxCards con) }
        (setParams_eq .. ▸ List.mem_map.2 ⟨con, hm, rfl⟩)
    have happ : listing (cvrs ++ closed pfx (setParams true maxCards cvrs contests)) con.id
        = listing cvrs con.id + (bound true maxCards con - countCvrs cvrs con.id) := by
      unfold listing at hph ⊢
      rw [List.filter_append, List.length_append, hph]
    refine ⟨hph, happ, fun hle hnoph => ?_⟩
    -- without phantom records listing the contest, the records listing it are the counted ones
    have : listing cvrs con.id = countCvrs cvrs con.id :=
      congrArg List.length (List.filter_congr fun r hr => by
        cases hp : r.phantom
        · rfl
        · rw [hnoph r hr hp]; rfl)
    rw [happ, this, Nat.add_sub_cancel' hle]

/-- **C08, style information not used.** When the stratum's bound is at least the number of records, the result
is the original list followed by `max_cards − #records` phantoms that list nothing, so the total number of records
equals the stratum's card bound; the reported count is that number; and every contest's `cards` is `max_cards`. -/
theorem phantoms_nostyle (maxCards : Nat) (pfx : String) (contests : List Contest) (cvrs : List Rec) :
    ∃ ph : List Rec,
      (makePhantoms false maxCards pfx contests cvrs).1 = cvrs ++ ph ∧
      (∀ r ∈ ph, r.phantom = true ∧ r.styles = []) ∧
      ph.length = maxCards - cvrs.length ∧
      (makePhantoms false maxCards pfx contests cvrs).2.1 = (maxCards : Int) - (cvrs.length : Int) ∧
      (cvrs.length ≤ maxCards → (makePhantoms false maxCards pfx contests cvrs).1.length = maxCards) ∧
      (∀ con ∈ (makePhantoms false maxCards pfx contests cvrs).2.2, con.cards = some maxCards) ∧
      (makePhantoms false maxCards pfx contests cvrs).2.2 =
        contests.map (fun con => { con with cvrs := countCvrs cvrs con.id, cards := some maxCards }) := by
  have hcons : (makePhantoms false maxCards pfx contests cvrs).2.2 =
      contests.map (fun con => { con with cvrs := countCvrs cvrs con.id, cards := some maxCards }) :=
    (setParams_eq false maxCards cvrs contests).trans (List.map_congr_left fun con _ => by
      rw [bound, Bool.not_false, Bool.or_true, if_pos rfl])
  refine ⟨(List.range (maxCards - cvrs.length)).map (mkPhantom pfx), rfl, ?_, ?_, rfl, fun h => ?_, ?_, hcons⟩
  · intro r hr
    obtain ⟨k, _, rfl⟩ := List.mem_map.1 hr
    exact ⟨rfl, rfl⟩
  · rw [List.length_map, List.length_range]
  · show (cvrs ++ (List.range (maxCards - cvrs.length)).map (mkPhantom pfx)).length = maxCards
    rw [List.length_append, List.length_map, List.length_range, Nat.add_sub_cancel' h]
  · intro con hm
    rw [hcons] at hm
    obtain ⟨c, _, rfl⟩ := List.mem_map.1 hm
    rfl

/-- **C08, phantom identifiers.** In both branches the `k`-th phantom created has identifier
`prefix ++ str(k+1)`, and these identifiers are pairwise distinct. -/
theorem phantom_ids_distinct (useStyle : Bool) (maxCards : Nat) (pfx : String) (contests : List Contest)
    (cvrs : List Rec) (hid : (contests.map (·.id)).Nodup) :
    ∃ ph : List Rec,
      (makePhantoms useStyle maxCards pfx contests cvrs).1 = cvrs ++ ph ∧
      (∀ (k : Nat) (r : Rec), ph[k]? = some r → r.id = pfx ++ toString (k + 1)) ∧
      (ph.map (·.id)).Nodup := by
  cases useStyle with
  | false =>
    exact ⟨(List.range' 0 (maxCards - cvrs.length)).map (mkPhantom pfx),
      by rw [← List.range_eq_range']; rfl, ids_of_range pfx (mkPhantom pfx) (fun _ => rfl) _⟩
  | true =>
    rw [makePhantoms_style maxCards pfx contests cvrs hid]
    exact ⟨closed pfx (setParams true maxCards cvrs contests), rfl, ids_of_range pfx (phantomAt pfx _) (fun _ => rfl) _⟩

/-! ### Non-vacuity: the suite's `test_make_phantoms` configuration (6 CVRs, 2 contests, bound 8) -/

def exCvrs : List Rec :=
  [⟨"1", ["city_council", "measure_1"], false⟩, ⟨"2", ["city_council", "measure_1"], false⟩,
   ⟨"3", ["city_council", "measure_1"], false⟩, ⟨"4", ["city_council"], false⟩, ⟨"5", ["city_council"], false⟩,
   ⟨"6", ["measure_1"], false⟩]
def exContests : List Contest := [⟨"city_council", 0, none, none, 0⟩, ⟨"measure_1", 0, none, some 5, 0⟩]

example : (exContests.map (·.id)).Nodup := by decide +kernel
example : ∀ con ∈ exContests, countCvrs exCvrs con.id ≤ bound true 8 con := by decide +kernel
example : ∀ con ∈ exContests, ∀ r ∈ exCvrs, r.phantom = true → r.has con.id = false := by decide +kernel
example : maxShortfall true 8 exCvrs exContests = 3 := by decide +kernel
example : exCvrs.length ≤ 8 := by decide
-- an empty list of records is inside the quantifier as well (repair of finding F22 of DESIGN.md §12)
example : ∀ con ∈ exContests, countCvrs [] con.id ≤ bound true 8 con := by decide

end Shangrla.C08
