/-
  C08, second sentence — "In any comparison, replacing a manual record by a phantom (a card that cannot be found)
  never increases the overstatement assorter, and a phantom CVR is scored as a non-vote (1/2)."

  Theorems are about `Shangrla.Overstatement.overstatementAssorter` / `cvrAssort`, the literal
  model of `Assertion.overstatement_assorter` / `Assorter.overstatement` that the driver executes.
  (The first sentence of C08 — phantom creation — is Props/C08a.lean.)
-/
import Shangrla.Lemmas.Overstatement

namespace Shangrla.C08
open Shangrla Shangrla.Overstatement

/-- **C08, phantom MVR is the worst case.**  For every assorter with values `≥ 0`, every CVR (pooled or not,
phantom or not) whose score is a number, style on or off, every margin with `2 − v/u > 0`: replacing the manual
record `m` by a phantom (any record `m'` with `m'.phantom`) never increases the overstatement assorter (both calls
return; the error cases are `phantom_mvr_same_errors`). -/
theorem phantom_mvr_worst (v u : Rat) (useStyle : Bool) (means : Option Means) (m m' : Mvr) (c : Cvr) (ca : Rat)
    (hu : 0 < u) (hD : 0 < 2 - v / u) (hm : 0 ≤ m.a) (hph : m'.phantom = true)
    (hs : (useStyle && !c.hasContest) = false)
    (hc : cvrAssort means c = .ok (XR.fin ca)) :
    ∃ x y : Rat,
      overstatementAssorter (XR.fin v) u useStyle means m c = .ok (XR.fin x) ∧
      overstatementAssorter (XR.fin v) u useStyle means m' c = .ok (XR.fin y) ∧
      y ≤ x := by
  refine ⟨_, _, overstatementAssorter_fin hu.ne' hD.ne' hs hc, overstatementAssorter_fin hu.ne' hD.ne' hs hc, ?_⟩
  have h0 : mvrAssort useStyle m' = 0 := by rw [mvrAssort, hph]; rfl
  have h1 : 0 ≤ mvrAssort useStyle m := by
    rcases mvrAssort_eq_zero_or useStyle m with h | h <;> rw [h]
    exact hm
  rw [h0]
  exact ovA_mono hu hD (le_refl ca) h1

/-- the MVR plays no part in `ValueError` / `KeyError` -/
theorem phantom_mvr_same_errors (margin : XR) (u : Rat) (useStyle : Bool) (means : Option Means) (m m' : Mvr)
    (c : Cvr) (e : Err) :
    overstatementAssorter margin u useStyle means m c = .error e ↔
    overstatementAssorter margin u useStyle means m' c = .error e := by
  unfold overstatementAssorter overstatement
  cases hs : (useStyle && !c.hasContest)
  · cases hc : cvrAssort means c <;> simp [bind, Except.bind, pure, Except.pure]
  · simp [bind, Except.bind]

/-- **C08, phantom CVR scored as a non-vote.**  A phantom CVR whose score is not read from a pool mean (it is
not pooled, or no pool means are installed) is scored exactly 1/2, whatever the assorter says about the record. -/
theorem phantom_cvr_half (means : Option Means) (c : Cvr) (hph : c.phantom = true)
    (hup : usesPool means c = false) :
    cvrAssort means c = .ok (XR.fin (1 / 2)) := by
  rw [cvrAssort_own means c hup]
  simp [ownScore, hph]

/-- A POOLED phantom CVR (pool means installed) is scored by its pool's mean — like every other card of the pool;
`phantom` is not looked at. -/
theorem phantom_cvr_pooled (d : Means) (c : Cvr) (_hph : c.phantom = true) (hpool : c.pool = true) (x : XR)
    (hx : d.lookup c.tallyPool = some x) :
    cvrAssort (some d) c = .ok x :=
  cvrAssort_pool d c hpool x hx

/-- The mean that scores a pooled phantom CVR, as computed by `set_tally_pool_means`,
is `tot/n` over the pooled cards of the pool that
pass the style filter, to which the phantom contributes its own assorter value `A(cvr)` (`c.a`): the code calls
`self.assort(c)` for it like for any other card (L2512-2513).  It is 1/2 — so the pooled phantom counts as a
non-vote inside its pool — exactly when the assorter returns 1/2 for the phantom record, as every shipped
assorter does for a record without votes. -/
theorem phantom_cvr_pool_mean {useStyle : Bool} {cvrs : List Cvr} {keys : Option (List PoolKey)} {d : Means}
    (h : poolMeans useStyle cvrs keys = .ok d) (c : Cvr) (hc : c ∈ cvrs) (_hph : c.phantom = true)
    (hpass : passes useStyle c = true) (hpool : c.pool = true) :
    let L := (pooledAud useStyle cvrs).filter (fun c' => decide (c'.tallyPool = c.tallyPool))
    c ∈ L ∧
    cvrAssort (some d) c = .ok (XR.fin ((L.map (fun c' => c'.a)).sum / (L.length : Rat))) := by
  refine ⟨?_, cvrAssort_pool d c hpool _ (poolMeans_lookup h c hc hpass hpool).2⟩
  exact List.mem_filter.mpr ⟨List.mem_filter.mpr ⟨hc, by rw [hpass, hpool]; rfl⟩, decide_eq_true rfl⟩

/-! ### Non-vacuity -/

-- CVR for the winner (A = 1), MVR for the winner: B = 1/(2 - v); with the card unfindable: B = 0
example :
    let c : Cvr := { hasContest := true, phantom := false, pool := false, tallyPool := none, a := 1, sampleNum := 1 }
    let m : Mvr := { hasContest := true, phantom := false, a := 1 }
    let m' : Mvr := { hasContest := true, phantom := true, a := 1 }
    overstatementAssorter (XR.fin (1 / 5)) 1 true none m c = .ok (XR.fin (5 / 9)) ∧
    overstatementAssorter (XR.fin (1 / 5)) 1 true none m' c = .ok (XR.fin 0) ∧
    cvrAssort none c = .ok (XR.fin 1) := by decide +kernel
-- an unpooled phantom CVR that (wrongly) carries a vote is still scored 1/2
example :
    let c : Cvr := { hasContest := true, phantom := true, pool := false, tallyPool := none, a := 1, sampleNum := 1 }
    usesPool (some []) c = false ∧ cvrAssort (some []) c = .ok (XR.fin (1 / 2)) := by decide +kernel
-- a pooled phantom is scored by its pool's mean, which contains its own value 1/2: (1 + 1/2)/2
example :
    let c1 : Cvr := { hasContest := true, phantom := false, pool := true, tallyPool := some "b", a := 1, sampleNum := 1 }
    let c2 : Cvr := { hasContest := true, phantom := true, pool := true, tallyPool := some "b", a := 1 / 2, sampleNum := 2 }
    poolMeans true [c1, c2] none = .ok [(some "b", XR.fin (3 / 4))] ∧
    cvrAssort (some [(some "b", XR.fin (3 / 4))]) c2 = .ok (XR.fin (3 / 4)) := by decide +kernel

end Shangrla.C08
