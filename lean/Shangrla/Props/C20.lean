/-
  C20 — the pruned elimination tree shows an unpruned leaf iff the assertions are insufficient;
  every pruned node is tagged with exactly the assertions that contradict it.

  Theorems are about `Shangrla.ElimTree.build`, the literal model of
  `IRVVisualisationUtils.buildRemainingTreeAsLists` that the driver executes; `fuel` bounds the depth of the
  recursion, and `S.length` is enough.  A node `(c, S)` is a candidate with the set of candidates eliminated before
  it; "contradicts" is `nebContra`, `irvContra`, `Contra` below.
-/
import Shangrla.Model.ElimTree

namespace Shangrla.C20
open Shangrla.ElimTree

variable {α : Type} [DecidableEq α]

/-! ### Specification: elimination orders and contradiction

An elimination order `π` lists the candidates, first eliminated first; its last element is the winner.
-/

/-- a not-eliminated-before triple `(l, w, _)` ("`w` is never eliminated before `l`") contradicts `π`: `w` occurs
before `l` in `π` -/
def nebContra (π : List α) (t : α × α × Bool) : Prop :=
  ∃ pre post, π = pre ++ t.1 :: post ∧ t.2.1 ∈ pre

/-- an IRV triple `(x, E, _)` ("`x` is not eliminated next when exactly `E` are gone") contradicts `π`: the
candidates before `x` in `π` are exactly `E` -/
def irvContra (π : List α) (t : α × List α × Bool) : Prop :=
  ∃ pre post, π = pre ++ t.1 :: post ∧ (∀ y, y ∈ t.2.1 ↔ y ∈ pre)

/-- some assertion of the audit (`wo`: not-eliminated-before, `irv`: IRV triples) contradicts the order `π` -/
def Contra (wo : List (α × α × Bool)) (irv : List (α × List α × Bool)) (π : List α) : Prop :=
  (∃ t ∈ wo, nebContra π t) ∨ (∃ t ∈ irv, irvContra π t)

/-! ### the prune test and contradiction -/

section
variable (wo : List (α × α × Bool)) (irv : List (α × List α × Bool))

theorem setEq_iff (a b : List α) : setEq a b = true ↔ ∀ y, y ∈ a ↔ y ∈ b := by
  unfold setEq
  simp only [Bool.and_eq_true, List.all_eq_true, List.contains_iff_mem]
  exact ⟨fun h y => ⟨h.1 y, h.2 y⟩, fun h => ⟨fun y => (h y).1, fun y => (h y).2⟩⟩

theorem pruned_iff (c : α) (S : List α) :
    pruned wo irv c S = true ↔
      (∃ t ∈ wo, c = t.1 ∧ t.2.1 ∈ S) ∨ (∃ t ∈ irv, c = t.1 ∧ ∀ y, y ∈ t.2.1 ↔ y ∈ S) := by
  simp only [pruned, nebTags, irvTags, List.isEmpty_map, Bool.or_eq_true, Bool.not_eq_true',
    List.isEmpty_eq_false_iff_exists_mem, List.mem_filter, Bool.and_eq_true, decide_eq_true_eq,
    List.contains_iff_mem, setEq_iff]

theorem pruned_eq_false_iff (c : α) (S : List α) :
    pruned wo irv c S = false ↔ nebTags wo c S = [] ∧ irvTags irv c S = [] := by
  simp [pruned]

/-- the prune test reads the list of earlier-eliminated candidates as a set -/
theorem pruned_congr (c : α) {S T : List α} (h : S.Perm T) : pruned wo irv c S = pruned wo irv c T := by
  rw [Bool.eq_iff_iff, pruned_iff, pruned_iff]
  simp only [h.mem_iff]

/-- an order is contradicted exactly when one of its positions fails the prune test against the candidates
before it -/
theorem contra_iff (π : List α) :
    Contra wo irv π ↔ ∃ pre x post, π = pre ++ x :: post ∧ pruned wo irv x pre = true := by
  simp only [Contra, nebContra, irvContra, pruned_iff]
  constructor
  · rintro (⟨t, ht, pre, post, he, h⟩ | ⟨t, ht, pre, post, he, h⟩)
    · exact ⟨pre, t.1, post, he, Or.inl ⟨t, ht, rfl, h⟩⟩
    · exact ⟨pre, t.1, post, he, Or.inr ⟨t, ht, rfl, h⟩⟩
  · rintro ⟨pre, x, post, he, ⟨t, ht, rfl, h⟩ | ⟨t, ht, rfl, h⟩⟩
    · exact Or.inl ⟨t, ht, pre, post, he, h⟩
    · exact Or.inr ⟨t, ht, pre, post, he, h⟩

theorem contra_nil : ¬ Contra wo irv [] := by
  simp [contra_iff]

/-- the positions of `π ++ [c]` are those of `π` and the last one -/
theorem contra_concat (π : List α) (c : α) :
    Contra wo irv (π ++ [c]) ↔ Contra wo irv π ∨ pruned wo irv c π = true := by
  simp only [contra_iff]
  constructor
  · rintro ⟨pre, x, post, he, hp⟩
    rcases List.eq_nil_or_concat post with rfl | ⟨post, d, rfl⟩
    · obtain ⟨rfl, rfl⟩ := List.append_singleton_inj.1 he
      exact Or.inr hp
    · rw [List.concat_eq_append, ← List.cons_append, ← List.append_assoc] at he
      exact Or.inl ⟨pre, x, post, (List.append_singleton_inj.1 he).1, hp⟩
  · rintro (⟨pre, x, post, rfl, hp⟩ | hp)
    · exact ⟨pre, x, post ++ [c], List.append_assoc pre (x :: post) [c], hp⟩
    · exact ⟨π, c, [], rfl, hp⟩

theorem perm_concat_iff {σ S : List α} {a : α} : (σ ++ [a]).Perm S ↔ a ∈ S ∧ σ.Perm (S.erase a) :=
  ⟨fun h => List.cons_perm_iff_perm_erase.1 ((List.perm_append_singleton a σ).symm.trans h),
   fun h => (List.perm_append_singleton a σ).trans (List.cons_perm_iff_perm_erase.2 h)⟩

/-- The orders over `S` ending in `c` that nothing contradicts, by the recursion of `build`: `c` passes the
prune test against `S`, and either `S` is empty or some `c2 ∈ S` can be eliminated last before `c`. -/
theorem exists_order_iff (c : α) (S : List α) :
    (∃ σ, σ.Perm S ∧ ¬ Contra wo irv (σ ++ [c])) ↔
      pruned wo irv c S = false ∧
        (S = [] ∨ ∃ c2 ∈ S, ∃ σ, σ.Perm (S.erase c2) ∧ ¬ Contra wo irv (σ ++ [c2])) := by
  simp only [contra_concat wo irv _ c, not_or, Bool.not_eq_true]
  constructor
  · rintro ⟨σ, hσ, hn, hp⟩
    refine ⟨pruned_congr wo irv c hσ ▸ hp, ?_⟩
    rcases List.eq_nil_or_concat σ with rfl | ⟨σ, c2, rfl⟩
    · exact Or.inl hσ.nil_eq.symm
    · rw [List.concat_eq_append] at hσ hn
      exact Or.inr ⟨c2, (perm_concat_iff.1 hσ).1, σ, (perm_concat_iff.1 hσ).2, hn⟩
  · rintro ⟨hp, rfl | ⟨c2, hc2, σ, hσ, hn⟩⟩
    · exact ⟨[], List.Perm.refl _, contra_nil wo irv, hp⟩
    · have hσ' := perm_concat_iff.2 ⟨hc2, hσ⟩
      exact ⟨σ ++ [c2], hσ', hn, pruned_congr wo irv c hσ' ▸ hp⟩

/-! ### the shapes of `build` -/

omit [DecidableEq α] in
theorem hasUnprunedL_iff (l : List (Tree α)) : hasUnprunedL l = true ↔ ∃ t ∈ l, hasUnpruned t = true := by
  induction l with
  | nil => simp [hasUnprunedL]
  | cons a l ih => simp [hasUnprunedL, ih]

theorem build_pruned (fuel : Nat) (c : α) (S : List α) (h : pruned wo irv c S = true) :
    build wo irv fuel c S = Tree.leaf c (nebTags wo c S) (irvTags irv c S) := by
  unfold pruned at h
  unfold build
  simp [h]

theorem build_leaf (fuel : Nat) (c : α) (h : pruned wo irv c [] = false) :
    build wo irv fuel c [] = Tree.leaf c [] [] := by
  unfold pruned at h
  unfold build
  simp [h]

theorem build_node (fuel : Nat) (c : α) (S : List α) (h : pruned wo irv c S = false) (hS : S ≠ []) :
    build wo irv (fuel + 1) c S
      = Tree.node c (S.map (fun c2 => build wo irv fuel c2 (S.erase c2))) := by
  unfold pruned at h
  rw [build]
  simp [h, hS]

theorem hasUnpruned_tagged (c : α) (S : List α) :
    hasUnpruned (Tree.leaf c (nebTags wo c S) (irvTags irv c S)) = !pruned wo irv c S := by
  simp [hasUnpruned, pruned]

/-- With enough fuel `build` has one of three shapes: a property of `(c, S, build … c S)` holds throughout
once it holds of the two kinds of leaf and passes from the children of a node to the node. -/
theorem build_cases {motive : α → List α → Tree α → Prop}
    (tagged : ∀ c S, pruned wo irv c S = true →
      motive c S (Tree.leaf c (nebTags wo c S) (irvTags irv c S)))
    (bare : ∀ c, pruned wo irv c [] = false → motive c [] (Tree.leaf c [] []))
    (node : ∀ fuel c S, pruned wo irv c S = false → S ≠ [] →
      (∀ c2 ∈ S, motive c2 (S.erase c2) (build wo irv fuel c2 (S.erase c2))) →
      motive c S (Tree.node c (S.map (fun c2 => build wo irv fuel c2 (S.erase c2))))) :
    ∀ (fuel : Nat) (c : α) (S : List α), S.length ≤ fuel → motive c S (build wo irv fuel c S) := by
  have leaves : ∀ fuel c S, pruned wo irv c S = true ∨ S = [] → motive c S (build wo irv fuel c S) := by
    intro fuel c S h
    cases hp : pruned wo irv c S
    · obtain rfl : S = [] := h.resolve_left (hp ▸ Bool.false_ne_true)
      rw [build_leaf wo irv fuel c hp]
      exact bare c hp
    · rw [build_pruned wo irv fuel c S hp]
      exact tagged c S hp
  intro fuel
  induction fuel with
  | zero => exact fun c S hlen => leaves 0 c S (Or.inr (List.eq_nil_of_length_eq_zero (Nat.le_zero.1 hlen)))
  | succ fuel ih =>
    intro c S hlen
    by_cases h : pruned wo irv c S = true ∨ S = []
    · exact leaves _ c S h
    · rw [not_or, Bool.not_eq_true] at h
      rw [build_node wo irv fuel c S h.1 h.2]
      refine node fuel c S h.1 h.2 (fun c2 hc2 => ih c2 _ ?_)
      rw [List.length_erase_of_mem hc2]
      exact Nat.sub_le_of_le_add hlen

/-- `unpruned_iff` for any sufficient fuel and any list `S`, duplicate-free or not: `build` and
`exists_order_iff` recurse alike -/
theorem hasUnpruned_build :
    ∀ (fuel : Nat) (c : α) (S : List α), S.length ≤ fuel →
      (hasUnpruned (build wo irv fuel c S) = true ↔ ∃ σ, σ.Perm S ∧ ¬ Contra wo irv (σ ++ [c])) := by
  refine build_cases wo irv (motive := fun c S t =>
    hasUnpruned t = true ↔ ∃ σ, σ.Perm S ∧ ¬ Contra wo irv (σ ++ [c])) ?_ ?_ ?_
  · intro c S hp
    rw [exists_order_iff, hasUnpruned_tagged, hp]
    exact ⟨fun h => (nomatch h), fun h => (nomatch h.1)⟩
  · intro c hp
    rw [exists_order_iff, hp]
    exact ⟨fun _ => ⟨rfl, Or.inl rfl⟩, fun _ => rfl⟩
  · intro fuel c S hp hS ih
    rw [exists_order_iff, hp]
    simp only [hS, hasUnpruned, hasUnprunedL_iff, List.mem_map, true_and, false_or]
    constructor
    · rintro ⟨_, ⟨c2, hc2, rfl⟩, hu⟩
      exact ⟨c2, hc2, (ih c2 hc2).1 hu⟩
    · rintro ⟨c2, hc2, h⟩
      exact ⟨_, ⟨c2, hc2, rfl⟩, (ih c2 hc2).2 h⟩

end

/-- **C20, first half.** The tree built for alternative winner `c` over the other candidates `S`
contains an unpruned leaf exactly when some complete elimination order ending in `c` is contradicted
by none of the assertions. -/
theorem unpruned_iff (wo : List (α × α × Bool)) (irv : List (α × List α × Bool)) (c : α) (S : List α)
    (hS : S.Nodup) :
    hasUnpruned (build wo irv S.length c S) = true ↔
      ∃ σ, σ.Perm S ∧ ¬ Contra wo irv (σ ++ [c]) :=
  hasUnpruned_build wo irv S.length c S (Nat.le_refl _)

/-! ### The leaves of a tree with their positions -/

def Tree.root : Tree α → α
  | Tree.leaf c _ _ => c
  | Tree.node c _ => c

mutual
/-- the leaves of a tree, each with its candidate, the set of candidates eliminated earlier
(the tree's set minus the candidates on the path from the root), and its two tag lists -/
def leavesCtx : Tree α → List α → List (α × List α × List (Nat × Bool) × List (Nat × Bool))
  | Tree.leaf c nt it, S => [(c, S, nt, it)]
  | Tree.node _ kids, S => leavesCtxL kids S
def leavesCtxL : List (Tree α) → List α → List (α × List α × List (Nat × Bool) × List (Nat × Bool))
  | [], _ => []
  | t :: ts, S => leavesCtx t (S.erase (Tree.root t)) ++ leavesCtxL ts S
end

theorem root_build (wo : List (α × α × Bool)) (irv : List (α × List α × Bool)) (fuel : Nat) (c : α)
    (S : List α) : Tree.root (build wo irv fuel c S) = c := by
  unfold build
  simp only
  split
  · rfl
  · split
    · rfl
    · cases fuel <;> rfl

theorem mem_leavesCtxL (ts : List (Tree α)) (S : List α)
    (e : α × List α × List (Nat × Bool) × List (Nat × Bool)) :
    e ∈ leavesCtxL ts S ↔ ∃ t ∈ ts, e ∈ leavesCtx t (S.erase (Tree.root t)) := by
  induction ts with
  | nil => simp [leavesCtxL]
  | cons t ts ih => simp [leavesCtxL, ih]

/-! ### the tags of a pruned node -/

/-- membership in a tag list: both are `filter` on "the triple is about `c` and passes `q`" followed by `map` to
(index, proved) -/
theorem mem_tags {β : Type} (l : List (α × β × Bool)) (c : α) (q : β → Bool) (g : α × β × Bool → Nat)
    (i : Nat) (p : Bool) :
    (i, p) ∈ (l.filter (fun t => decide (c = t.1) && q t.2.1)).map (fun t => (g t, t.2.2)) ↔
      ∃ t ∈ l, t.1 = c ∧ q t.2.1 = true ∧ i = g t ∧ p = t.2.2 := by
  simp only [List.mem_map, List.mem_filter, Bool.and_eq_true, decide_eq_true_eq, Prod.mk.injEq]
  constructor
  · rintro ⟨t, ⟨ht, h1, h2⟩, h3, h4⟩; exact ⟨t, ht, h1.symm, h2, h3.symm, h4.symm⟩
  · rintro ⟨t, ht, h1, h2, h3, h4⟩; exact ⟨t, ⟨ht, h1.symm, h2⟩, h3.symm, h4.symm⟩

/-- **C20, second half (NEB tags).** Node `(c, S)` (candidate `c`, earlier-eliminated set `S`) is
tagged with exactly the not-eliminated-before triples that contradict every order through it —
those `(c, w, ·)` with `w ∈ S` — each reported by the index of its first occurrence. -/
theorem tags_exact_neb (wo : List (α × α × Bool)) (c : α) (S : List α) (i : Nat) (p : Bool) :
    (i, p) ∈ nebTags wo c S ↔ ∃ t ∈ wo, t.1 = c ∧ t.2.1 ∈ S ∧ i = wo.idxOf t ∧ p = t.2.2 := by
  simpa only [nebTags, List.contains_iff_mem] using mem_tags wo c (S.contains ·) (wo.idxOf ·) i p

/-- **C20, second half (IRV tags).** Node `(c, S)` is tagged with exactly the IRV triples `(c, E, ·)`
whose eliminated set `E` equals `S` as a set, each reported by the index of its first `==` occurrence. -/
theorem tags_exact_irv (irv : List (α × List α × Bool)) (c : α) (S : List α) (i : Nat) (p : Bool) :
    (i, p) ∈ irvTags irv c S ↔
      ∃ t ∈ irv, t.1 = c ∧ (∀ y, y ∈ t.2.1 ↔ y ∈ S) ∧ i = irv.findIdx (fun t' => irvEq t' t) ∧ p = t.2.2 := by
  simpa only [irvTags, setEq_iff] using
    mem_tags irv c (setEq · S) (fun t => irv.findIdx (fun t' => irvEq t' t)) i p

/-- **C20, second half (every leaf).** Every leaf of the built tree — pruned or not — carries exactly
the tag lists of its own position `(candidate, earlier-eliminated set)`. -/
theorem leaves_tagged (wo : List (α × α × Bool)) (irv : List (α × List α × Bool)) :
    ∀ (fuel : Nat) (c : α) (S : List α), S.length ≤ fuel →
      ∀ e ∈ leavesCtx (build wo irv fuel c S) S,
        e.2.2.1 = nebTags wo e.1 e.2.1 ∧ e.2.2.2 = irvTags irv e.1 e.2.1 := by
  refine build_cases wo irv (motive := fun _ S t => ∀ e ∈ leavesCtx t S,
    e.2.2.1 = nebTags wo e.1 e.2.1 ∧ e.2.2.2 = irvTags irv e.1 e.2.1) ?_ ?_ ?_
  · intro c S _ e he
    obtain rfl := List.mem_singleton.1 he
    exact ⟨rfl, rfl⟩
  · intro c hp e he
    obtain rfl := List.mem_singleton.1 he
    obtain ⟨h1, h2⟩ := (pruned_eq_false_iff ..).1 hp
    exact ⟨h1.symm, h2.symm⟩
  · intro fuel c S _ _ ih e he
    obtain ⟨_, ht, he⟩ := (mem_leavesCtxL ..).1 he
    obtain ⟨c2, hc2, rfl⟩ := List.mem_map.1 ht
    rw [root_build] at he
    exact ih c2 hc2 e he

/-! ### Reading `Contra` on duplicate-free orders: "`w` occurs before `l`" -/

theorem mem_iff_idxOf_lt {pre post : List α} {a : α} (h : (pre ++ a :: post).Nodup) (b : α) :
    b ∈ pre ↔ (pre ++ a :: post).idxOf b < (pre ++ a :: post).idxOf a := by
  have ha : a ∉ pre := fun ha => (List.nodup_append.1 h).2.2 a ha a List.mem_cons_self rfl
  rw [List.idxOf_append, List.idxOf_append, if_neg ha, List.idxOf_cons_self]
  by_cases hb : b ∈ pre
  · simp [hb, List.idxOf_lt_length_of_mem hb]
  · simp [hb]

theorem nebContra_iff_idx (π : List α) (hπ : π.Nodup) (t : α × α × Bool) :
    nebContra π t ↔ t.1 ∈ π ∧ t.2.1 ∈ π ∧ π.idxOf t.2.1 < π.idxOf t.1 := by
  unfold nebContra
  constructor
  · rintro ⟨pre, post, rfl, hm⟩
    exact ⟨by simp, by simp [hm], (mem_iff_idxOf_lt hπ _).1 hm⟩
  · rintro ⟨hl, _, hlt⟩
    obtain ⟨pre, post, rfl⟩ := List.append_of_mem hl
    exact ⟨pre, post, rfl, (mem_iff_idxOf_lt hπ _).2 hlt⟩

/-! ### Non-vacuity -/

-- three candidates, winner A; alternative winner B; "A never eliminated before B" prunes the root
example : hasUnpruned (build [("B", "A", true)] ([] : List (String × List String × Bool)) 2 "B" ["A", "C"]) = false := by
  decide +kernel
-- an insufficient set: order C, A, B (B wins) is not contradicted by "C is not eliminated next when A is gone"
example : hasUnpruned (build ([] : List (String × String × Bool)) [("C", ["A"], false)] 2 "B" ["A", "C"]) = true := by
  decide +kernel
example : ¬ Contra ([] : List (String × String × Bool)) [("C", ["A"], false)] (["C", "A"] ++ ["B"]) := by
  -- none of the three positions fails the prune test
  show ¬ Contra _ _ ((([] ++ ["C"]) ++ ["A"]) ++ ["B"])
  simp only [contra_concat, contra_nil, false_or, not_or, Bool.not_eq_true]
  decide +kernel

end Shangrla.C20
