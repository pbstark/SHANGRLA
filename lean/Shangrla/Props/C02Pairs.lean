/-
  C02 / contest level — the assertion list of a plurality / approval contest covers EVERY (winner, loser) pair.

  `Assorter.pluralityPairs` is the literal model of the two loops of `Assertion.make_plurality_assertions`
  (Audit.py) with the dict keyed by `winr + " v " + losr`.  The code raises ValueError when a pair's key is already
  taken by a different pair (repair of finding F30 of DESIGN.md §12);
  the original lets the later pair replace the earlier one
  (candidates `a`, `a v b`, `b v c`, `c`, winners `a`, `a v b`: 4 pairs, 3 assertions, none comparing `a` with
  `b v c`).  If the constructor returns, its list has exactly the entries `(w v l, w, l)`, `w` a winner and `l` a
  loser, each under its own name and no name twice; it raises only if two different pairs have the same name.
  Left out: the contest-level risk limits assume "an assertion for every pair" as a hypothesis of their own; no
  theorem connects it to this constructor.
-/
import Shangrla.Model.Assorter

namespace Shangrla.C02
open Shangrla Shangrla.Assorter

abbrev Entry := String × String × String

/-- the name the constructor gives to a pair -/
def pairKey (w l : String) : String := w ++ " v " ++ l

/-- loop invariant: the accumulator after the pairs `ps` -/
def PairsInv (ps : List (String × String)) (acc : List Entry) : Prop :=
  (∀ e ∈ acc, (e.2.1, e.2.2) ∈ ps ∧ e.1 = pairKey e.2.1 e.2.2) ∧
  (∀ p ∈ ps, (pairKey p.1 p.2, p.1, p.2) ∈ acc) ∧ acc.Pairwise (fun a b => a.1 ≠ b.1)

/-- two different pairs among `ps` have the same name -/
def Clash (ps : List (String × String)) : Prop :=
  ∃ p ∈ ps, ∃ q ∈ ps, pairKey p.1 p.2 = pairKey q.1 q.2 ∧ p ≠ q

/-- what a loop that has gone through the pairs `ps` returns: the accumulator for `ps`, or an error and then
two of the pairs clash -/
def PairsPost (ps : List (String × String)) : Except Err (List Entry) → Prop
  | .ok acc => PairsInv ps acc
  | .error _ => Clash ps

theorem Clash.mono {ps qs : List (String × String)} (h : Clash ps) (hsub : ∀ p ∈ ps, p ∈ qs) : Clash qs := by
  obtain ⟨p, hp, q, hq, hk, hne⟩ := h
  exact ⟨p, hsub p hp, q, hsub q hq, hk, hne⟩

/-- One pair more keeps `PairsPost`.  The step looks the new name up in the accumulator: not found, the entry is
appended and is new by name; found under the same pair, nothing changes and the pair was there already; found under
another pair, the entry's own pair (in `ps` by the invariant) and `(w, l)` are the clash. -/
theorem pluralityPairsStep_post {ps : List (String × String)} {acc : List Entry} (hI : PairsInv ps acc) (w l : String) :
    PairsPost (ps ++ [(w, l)]) (pluralityPairsStep acc w l) := by
  obtain ⟨h1, h2, h3⟩ := hI
  have hnew : (w, l) ∈ ps ++ [(w, l)] := List.mem_append_right _ (List.mem_singleton.2 rfl)
  have h1' : ∀ e ∈ acc, (e.2.1, e.2.2) ∈ ps ++ [(w, l)] ∧ e.1 = pairKey e.2.1 e.2.2 := fun e he =>
    ⟨List.mem_append_left _ (h1 e he).1, (h1 e he).2⟩
  unfold pluralityPairsStep
  dsimp only
  cases hf : acc.find? (fun e => e.1 == w ++ " v " ++ l) with
  | none =>
    refine ⟨?_, ?_, ?_⟩
    · rw [List.forall_mem_append, List.forall_mem_singleton]
      exact ⟨h1', hnew, rfl⟩
    · rw [List.forall_mem_append, List.forall_mem_singleton]
      exact ⟨fun p hp => List.mem_append_left _ (h2 p hp), List.mem_append_right _ (List.mem_singleton.2 rfl)⟩
    · rw [List.pairwise_append]
      refine ⟨h3, List.pairwise_singleton _ _, fun a ha b hb heq => ?_⟩
      rw [List.mem_singleton.1 hb] at heq
      exact List.find?_eq_none.1 hf a ha (beq_iff_eq.2 heq)
  | some e =>
    have hmem := List.mem_of_find?_eq_some hf
    have hkey := List.find?_some hf
    have hkey : e.1 = pairKey w l := beq_iff_eq.1 hkey
    dsimp only
    by_cases hc : (e.2.1 == w && e.2.2 == l) = true
    · rw [if_pos hc]
      have hw := Bool.and_eq_true_iff.1 hc
      refine ⟨h1', ?_, h3⟩
      rw [List.forall_mem_append, List.forall_mem_singleton, ← hkey, ← beq_iff_eq.1 hw.1, ← beq_iff_eq.1 hw.2]
      exact ⟨h2, hmem⟩
    · rw [if_neg hc]
      refine ⟨(e.2.1, e.2.2), (h1' e hmem).1, (w, l), hnew, (h1 e hmem).2.symm.trans hkey, fun heq => hc ?_⟩
      exact Bool.and_eq_true_iff.2 ⟨beq_iff_eq.2 (Prod.mk.inj heq).1, beq_iff_eq.2 (Prod.mk.inj heq).2⟩

theorem pluralityPairsRow_post (w : String) (ls : List String) : ∀ {ps : List (String × String)} {acc : List Entry},
    PairsInv ps acc → PairsPost (ps ++ ls.map (Prod.mk w)) (pluralityPairsRow w ls acc) := by
  induction ls with
  | nil => intro ps acc hI; rw [List.map_nil, List.append_nil]; exact hI
  | cons l ls ih =>
    intro ps acc hI
    have hs := pluralityPairsStep_post hI w l
    rw [pluralityPairsRow, List.map_cons, List.append_cons]
    cases hr : pluralityPairsStep acc w l with
    | ok acc1 => rw [hr] at hs; exact ih hs
    | error e => rw [hr] at hs; exact hs.mono fun p hp => List.mem_append_left _ hp

theorem pluralityPairsFrom_post (L : List String) (ws : List String) : ∀ {ps : List (String × String)} {acc : List Entry},
    PairsInv ps acc → PairsPost (ps ++ ws.flatMap fun w => L.map (Prod.mk w)) (pluralityPairsFrom L ws acc) := by
  induction ws with
  | nil => intro ps acc hI; rw [List.flatMap_nil, List.append_nil]; exact hI
  | cons w ws ih =>
    intro ps acc hI
    have hs := pluralityPairsRow_post w L hI
    rw [pluralityPairsFrom, List.flatMap_cons, ← List.append_assoc]
    cases hr : pluralityPairsRow w L acc with
    | ok acc1 => rw [hr] at hs; exact ih hs
    | error e => rw [hr] at hs; exact hs.mono fun p hp => List.mem_append_left _ hp

theorem mem_allPairs {W L : List String} {p : String × String} :
    p ∈ W.flatMap (fun w => L.map (Prod.mk w)) ↔ p.1 ∈ W ∧ p.2 ∈ L := by
  obtain ⟨a, b⟩ := p
  simp [List.mem_flatMap, List.mem_map]

/-- the constructor returns the entries of all (winner, loser) pairs, or raises and two of the pairs clash -/
theorem pluralityPairs_post (W L : List String) :
    PairsPost (W.flatMap fun w => L.map (Prod.mk w)) (pluralityPairs W L) := by
  have := pluralityPairsFrom_post L W (ps := []) (acc := [])
    ⟨fun _ h => (nomatch h), fun _ h => (nomatch h), List.Pairwise.nil⟩
  rwa [List.nil_append] at this

/-- **Completeness of the assertion list.**  Whenever `make_plurality_assertions` returns, its dict holds, for EVERY
reported winner `w` and EVERY reported loser `l`, an assertion named `w v l` with winner `w` and loser `l`. -/
theorem pluralityPairs_complete (W L : List String) (ps : List Entry) (h : pluralityPairs W L = .ok ps) :
    ∀ w ∈ W, ∀ l ∈ L, (pairKey w l, w, l) ∈ ps := by
  have hp := pluralityPairs_post W L
  rw [h] at hp
  exact fun w hw l hl => hp.2.1 (w, l) (mem_allPairs.2 ⟨hw, hl⟩)

theorem pluralityPairs_sound (W L : List String) (ps : List Entry) (h : pluralityPairs W L = .ok ps) :
    (∀ e ∈ ps, e.2.1 ∈ W ∧ e.2.2 ∈ L ∧ e.1 = pairKey e.2.1 e.2.2) ∧ ps.Pairwise (fun a b => a.1 ≠ b.1) := by
  have hp := pluralityPairs_post W L
  rw [h] at hp
  exact ⟨fun e he => ⟨(mem_allPairs.1 (hp.1 e he).1).1, (mem_allPairs.1 (hp.1 e he).1).2, (hp.1 e he).2⟩, hp.2.2⟩

theorem pluralityPairs_ok_of_injective (W L : List String)
    (hinj : ∀ w ∈ W, ∀ l ∈ L, ∀ w' ∈ W, ∀ l' ∈ L, pairKey w l = pairKey w' l' → w = w' ∧ l = l') :
    ∃ ps, pluralityPairs W L = .ok ps := by
  have hp := pluralityPairs_post W L
  cases h : pluralityPairs W L with
  | ok ps => exact ⟨ps, rfl⟩
  | error e =>
    rw [h] at hp
    obtain ⟨p, hp', q, hq, hk, hne⟩ := hp
    have := hinj p.1 (mem_allPairs.1 hp').1 p.2 (mem_allPairs.1 hp').2 q.1 (mem_allPairs.1 hq).1 q.2 (mem_allPairs.1 hq).2 hk
    exact absurd (Prod.ext this.1 this.2) hne

/-! ### Examples, with the F30 witness -/

-- an ordinary contest: one entry per pair, in loop order
example : pluralityPairs ["Ann", "Bo"] ["Cy", "Di"] =
    .ok [("Ann v Cy", "Ann", "Cy"), ("Ann v Di", "Ann", "Di"), ("Bo v Cy", "Bo", "Cy"), ("Bo v Di", "Bo", "Di")] := by
  rfl
-- a candidate listed twice is harmless (the same pair under the same name)
example : pluralityPairs ["Ann", "Ann"] ["Cy"] = .ok [("Ann v Cy", "Ann", "Cy")] := by rfl
-- finding F30: pairs (a, b v c) and (a v b, c) are both named "a v b v c": the repaired constructor refuses
example : pluralityPairs ["a", "a v b"] ["b v c", "c"] = .error .ValueError := by rfl
-- `pluralityPairs_complete` applies to the first example
example : ("Bo v Cy", "Bo", "Cy") ∈
    [("Ann v Cy", "Ann", "Cy"), ("Ann v Di", "Ann", "Di"), ("Bo v Cy", "Bo", "Cy"), ("Bo v Di", "Bo", "Di")] :=
  pluralityPairs_complete ["Ann", "Bo"] ["Cy", "Di"] _ (by rfl) "Bo" (List.mem_cons_of_mem _ List.mem_cons_self)
    "Cy" List.mem_cons_self

end Shangrla.C02
