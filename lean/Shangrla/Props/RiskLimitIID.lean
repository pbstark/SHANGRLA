/-
  The audit-level risk limit for sampling WITH replacement (`replacement=True`, tests with `N = ∞`):
  cards are drawn independently from a finitely supported law on the cards (uniform over the cast cards, or
  any weights); the audit is ever reported complete within `k` draws with probability at most the risk limit of
  a contest one of whose assertions is false (C09 ∘ C01, IID form).
-/
import Shangrla.Props.RiskLimit

namespace Shangrla.RiskLimit
open Shangrla Shangrla.Ville Shangrla.Status Shangrla.AuditLoop

/-- `Ville.expL` for a law on items of any type -/
def expG {α : Type} (L : List (α × ℚ)) (f : α → ℚ) : ℚ := (L.map (fun p => p.2 * f p.1)).sum

/-- `Ville.hitIID`, the IID draw tree, over items of any type (`hitIIDG_map`) -/
def hitIIDG {α : Type} (L : List (α × ℚ)) (ev : List α → Bool) : Nat → List α → ℚ
  | 0, h => if ev h then 1 else 0
  | n + 1, h => if ev h then 1 else expG L (fun a => hitIIDG L ev n (h ++ [a]))

/-- the law of an assertion's datum when the card is drawn from `L` -/
def mapLaw {α : Type} (f : α → ℚ) (L : List (α × ℚ)) : List (ℚ × ℚ) := L.map (fun p => (f p.1, p.2))

theorem expG_map {α : Type} (f : α → ℚ) (L : List (α × ℚ)) (g : ℚ → ℚ) :
    expL (mapLaw f L) g = expG L (fun a => g (f a)) := by
  unfold expL expG mapLaw
  simp [List.map_map, Function.comp_def]

theorem expG_le {α : Type} (L : List (α × ℚ)) (hw : ∀ p ∈ L, 0 ≤ p.2) (f g : α → ℚ)
    (h : ∀ p ∈ L, f p.1 ≤ g p.1) : expG L f ≤ expG L g := by
  unfold expG
  apply List.sum_le_sum
  intro p hp
  exact mul_le_mul_of_nonneg_left (h p hp) (hw p hp)

theorem expG_const {α : Type} (L : List (α × ℚ)) (c : ℚ) :
    expG L (fun _ => c) = (L.map Prod.snd).sum * c :=
  List.sum_map_mul_right L Prod.snd c

theorem hitIIDG_map {α : Type} (f : α → ℚ) (L : List (α × ℚ)) (ev : List ℚ → Bool) :
    ∀ n (h : List α), hitIIDG L (fun h => ev (h.map f)) n h = hitIID (mapLaw f L) ev n (h.map f) := by
  intro n
  induction n with
  | zero => intro h; rfl
  | succ n ih =>
    intro h
    unfold hitIIDG hitIID
    rw [expG_map]
    congr 2
    funext a
    rw [ih, List.map_append, List.map_singleton]

theorem hitIIDG_le_one {α : Type} (L : List (α × ℚ)) (hw : ∀ p ∈ L, 0 ≤ p.2) (hs : (L.map Prod.snd).sum = 1)
    (ev : List α → Bool) : ∀ n h, hitIIDG L ev n h ≤ 1 := by
  intro n
  induction n with
  | zero => intro h; unfold hitIIDG; split <;> norm_num
  | succ n ih =>
    intro h
    unfold hitIIDG
    split
    · exact le_refl _
    · calc expG L (fun a => hitIIDG L ev n (h ++ [a])) ≤ expG L (fun _ => (1 : ℚ)) :=
            expG_le L hw _ _ (fun p _ => ih _)
        _ = 1 := by rw [expG_const, hs, one_mul]

theorem hitIIDG_mono {α : Type} (L : List (α × ℚ)) (hw : ∀ p ∈ L, 0 ≤ p.2) (hs : (L.map Prod.snd).sum = 1)
    (ev₁ ev₂ : List α → Bool) (himp : ∀ h, ev₁ h = true → ev₂ h = true) :
    ∀ n h, hitIIDG L ev₁ n h ≤ hitIIDG L ev₂ n h := by
  intro n
  induction n with
  | zero =>
    intro h
    unfold hitIIDG
    by_cases h1 : ev₁ h = true
    · rw [if_pos h1, if_pos (himp h h1)]
    · rw [if_neg h1]; split <;> norm_num
  | succ n ih =>
    intro h
    by_cases h2 : ev₂ h = true
    · have : hitIIDG L ev₂ (n + 1) h = 1 := by unfold hitIIDG; rw [if_pos h2]
      rw [this]; exact hitIIDG_le_one L hw hs _ _ _
    · have h1 : ¬ ev₁ h = true := fun h1 => h2 (himp h h1)
      unfold hitIIDG
      rw [if_neg h1, if_neg h2]
      exact expG_le L hw _ _ (fun p _ => ih _)

theorem audit_hitIID_le {α : Type} (data : String → String → α → ℚ) (T : String → String → SeqTest)
    (s : State) (c : Contest) (hc : c ∈ s) (a : Assertion) (ha : a ∈ c.assertions)
    (L : List (α × ℚ)) (hw : ∀ p ∈ L, 0 ≤ p.2) (hs : (L.map Prod.snd).sum = 1) (ev : List ℚ → Bool)
    (hev : ∀ d, pLe (T c.id a.name) c.riskLimit d = true → ev d = true) (k : Nat) (h : List α) :
    hitIIDG L (auditComplete data T s) k h
      ≤ hitIID (mapLaw (data c.id a.name) L) ev k (h.map (data c.id a.name)) := by
  rw [← hitIIDG_map]
  exact hitIIDG_mono L hw hs _ _ (fun h hcomp => hev _ (complete_forces data T s c hc a ha h hcomp)) _ _

/-- **Risk limit of the audit, sampling with replacement.**  `L` is the law of one draw (a card and its
probability).  If the test of one assertion of contest `c` is sequentially valid for IID draws from the law of
that assertion's datum, the audit is reported complete at some point within the first `k` draws — `k`
arbitrary — with probability at most `c.riskLimit`. -/
theorem audit_risk_limit_iid {α : Type} (data : String → String → α → ℚ) (T : String → String → SeqTest)
    (s : State) (c : Contest) (hc : c ∈ s) (a : Assertion) (ha : a ∈ c.assertions)
    (L : List (α × ℚ)) (hw : ∀ p ∈ L, 0 ≤ p.2) (hs : (L.map Prod.snd).sum = 1) (k : Nat)
    (hC01 : hitIID (mapLaw (data c.id a.name) L) (pLe (T c.id a.name) c.riskLimit) k [] ≤ c.riskLimit) :
    hitIIDG L (auditComplete data T s) k [] ≤ c.riskLimit :=
  le_trans (audit_hitIID_le data T s c hc a ha L hw hs _ (fun _ h => h) k []) hC01

/-- the same with `NonnegMean.test` (`N = ∞`) in its documented range: ALPHA, betting, SPRT, Kaplan-Markov,
Kaplan-Wald -/
theorem audit_risk_limit_iid_run {α : Type} (data : String → String → α → ℚ) (T : String → String → SeqTest)
    (s : State) (c : Contest) (hc : c ∈ s) (a : Assertion) (ha : a ∈ c.assertions)
    (L : List (α × ℚ)) (hw : ∀ p ∈ L, 0 ≤ p.2) (hs : (L.map Prod.snd).sum = 1) (k : Nat)
    (sqrtF : ℚ → ℚ) (cfg : NM.Cfg) (test : NM.Test) (hN : cfg.N = none)
    (hT : T c.id a.name = NM.run sqrtF cfg test)
    (hdoc : C01.DocumentedIID sqrtF cfg test)
    (hr0 : 0 < c.riskLimit) (hr1 : c.riskLimit < 1)
    (hrange : ∀ p ∈ L, 0 ≤ data c.id a.name p.1 ∧ data c.id a.name p.1 ≤ cfg.u)
    (hnull : expG L (data c.id a.name) ≤ cfg.t) :
    hitIIDG L (auditComplete data T s) k [] ≤ c.riskLimit := by
  have hlaw : C01.IsLaw cfg.u (mapLaw (data c.id a.name) L) := by
    refine ⟨List.forall_mem_map.2 hw, ?_, List.forall_mem_map.2 hrange⟩
    simpa [mapLaw, List.map_map, Function.comp_def] using hs
  exact le_trans (audit_hitIID_le data T s c hc a ha L hw hs _ (fun _ h => anyLe_of_pLe (hT ▸ h)) k [])
    (C01.C01_iid_run sqrtF cfg hN test hdoc c.riskLimit hr0 hr1 _ hlaw ((expG_map _ L _).trans_le hnull) k)

end Shangrla.RiskLimit
