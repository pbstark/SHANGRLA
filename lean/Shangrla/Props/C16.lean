/-
  C16 — sample-size estimates are first-crossing times on the assumed data.

  About the models the driver executes of `NonnegMean.sample_size` (`NM.sampleSize`), of `Assertion.find_sample_size`
  with the populations it assumes when it is given no data (`assertionFindSampleSize`, `assumedPopulation`,
  `comparisonPop`, `pollingPop`, `interleaveValues`), of `Contest.find_sample_size` and of the loop of
  `Audit.find_sample_size` over contests and their assertions.  Without simulation (`reps = None`) an estimate is the
  first position at which the test's history on the data, tiled to `N`, is at most the risk limit.  With simulation and
  `prefix=True`, a prefix that already crosses fixes every estimate, given that the test's history does not anticipate
  (hypothesis `hcausal`; discharged here for Kaplan-Markov, for every test in `Props/C16Run.lean`).  A contest gets
  the maximum over its unproved assertions, whatever other contests are in the call.

  `auditContestNewSize` and `auditContestNewSizeInj` both model the loop of `Audit.find_sample_size` over one
  contest's assertions; only the second has the ONEAudit branch that writes assumed errors into the data.
-/
import Shangrla.Model.SampleSize
import Shangrla.Lemmas.NMCausal
import Shangrla.Lemmas.Except
import Mathlib.Tactic.Linarith
import Mathlib.Tactic.Positivity
import Mathlib.Algebra.Order.Field.Basic
import Mathlib.Algebra.Order.Ring.Rat

namespace Shangrla.C16
open Shangrla Shangrla.NM Shangrla.SS

/-! ### lists: `mapM` in `Except`, `foldl max` -/

theorem mapM_const {α β ε : Type} (l : List α) (f : α → Except ε β) (c : β) (h : ∀ a ∈ l, f a = .ok c) :
    l.mapM f = .ok (List.replicate l.length c) :=
  (mapM_eq_map f (fun _ => c) l h).trans (congrArg _ (List.map_const' ..))

theorem mapM_ok_iff_forall₂ {α β ε} (f : α → Except ε β) (l : List α) (r : List β) :
    l.mapM f = .ok r ↔ List.Forall₂ (fun a b => f a = .ok b) l r := by
  induction l generalizing r with
  | nil => exact ⟨fun h => by cases h; exact .nil, fun h => by cases h; rfl⟩
  | cons a l ih => simp only [mapM_cons_ok_iff, List.forall₂_cons_left_iff, ih]

theorem foldl_max_spec {α} [LinearOrder α] (l : List α) (a : α) :
    a ≤ l.foldl max a ∧ (∀ x ∈ l, x ≤ l.foldl max a) ∧ (l.foldl max a = a ∨ l.foldl max a ∈ l) := by
  induction l generalizing a with
  | nil => exact ⟨le_rfl, fun _ h => absurd h List.not_mem_nil, Or.inl rfl⟩
  | cons x t ih =>
    obtain ⟨h1, h2, h3⟩ := ih (max a x)
    refine ⟨(le_max_left a x).trans h1, List.forall_mem_cons.mpr ⟨(le_max_right a x).trans h1, h2⟩, ?_⟩
    rw [List.foldl_cons]
    rcases h3 with h3 | h3
    · rw [h3]
      exact (max_choice a x).imp_right fun h => by rw [h]; exact List.mem_cons_self
    · exact .inr (List.mem_cons_of_mem x h3)

theorem foldlM_max_eq {α ε} (f : α → Except ε Nat) (items : List α) (acc : Nat) :
    items.foldlM (fun acc it => do let s ← f it; pure (max acc s)) acc =
      (items.mapM f).map (fun sizes => sizes.foldl max acc) := by
  induction items generalizing acc with
  | nil => rfl
  | cons it items ih =>
    rw [List.foldlM_cons, List.mapM_cons]
    cases hf : f it with
    | error e => rfl
    | ok s =>
      show List.foldlM _ (max acc s) items = _
      rw [ih (max acc s)]
      cases List.mapM f items <;> rfl

/-! ### the deterministic estimate (`reps = None`) -/

/-- `np.tile(x, ceil(N/len(x)))[0:N]`: length `N`, entry `i` is `x[i mod len(x)]` -/
theorem tileTo_spec (x : List Rat) (hx : x ≠ []) (n : Nat) :
    (tileTo x n).length = n ∧
    ∀ i, i < n → (tileTo x n)[i]? = some (x[i % x.length]'(Nat.mod_lt _ (List.length_pos_of_ne_nil hx))) := by
  unfold tileTo
  rw [if_neg (by rw [List.isEmpty_eq_false_iff.mpr hx]; exact Bool.false_ne_true)]
  refine ⟨by rw [List.length_map, List.length_range], fun i hi => ?_⟩
  rw [List.getElem?_map, List.getElem?_range hi, Option.map_some, List.getD_eq_getElem?_getD,
    List.getElem?_eq_getElem (Nat.mod_lt _ (List.length_pos_of_ne_nil hx)), Option.getD_some]

theorem tileTo_self (x : List Rat) (hx : x ≠ []) : tileTo x x.length = x := by
  obtain ⟨hl, hget⟩ := tileTo_spec x hx x.length
  refine List.ext_getElem hl fun i _ hi => (List.getElem_eq_iff _).mpr ?_
  rw [hget i hi]
  simp only [Nat.mod_eq_of_lt hi]

/-- `firstCrossing h α N` is the 1-based index of the first entry `≤ α` (no earlier entry is `≤ α`),
and `N` if no entry is `≤ α` -/
theorem firstCrossing_spec (h : List XR) (alpha : Rat) (n : Nat) :
    (∃ i, ∃ hi : i < h.length, XR.le h[i] (.fin alpha) = true ∧
        (∀ j (hj : j < i), XR.le (h[j]'(Nat.lt_trans hj hi)) (.fin alpha) = false) ∧
        firstCrossing h alpha n = i + 1) ∨
    ((∀ p ∈ h, XR.le p (.fin alpha) = false) ∧ firstCrossing h alpha n = n) := by
  unfold firstCrossing
  cases hf : h.findIdx? (fun p => XR.le p (.fin alpha)) with
  | none => exact .inr ⟨List.findIdx?_eq_none_iff.mp hf, rfl⟩
  | some i =>
    obtain ⟨hi, hp, hlt⟩ := List.findIdx?_eq_some_iff_getElem.mp hf
    exact .inl ⟨i, hi, hp, fun j hj => by simpa using hlt j hj, rfl⟩

theorem firstCrossing_eq_of_first (h : List XR) (alpha : Rat) (n i : Nat) (hi : i < h.length)
    (hp : XR.le h[i] (.fin alpha) = true)
    (hlt : ∀ j (hj : j < i), XR.le (h[j]'(Nat.lt_trans hj hi)) (.fin alpha) = false) :
    firstCrossing h alpha n = i + 1 := by
  unfold firstCrossing
  rw [List.findIdx?_eq_some_iff_getElem.mpr ⟨hi, hp, fun j hj => by simp [hlt j hj]⟩]

theorem sampleSize_det_eq (sqrtF : Rat → Rat) (cfg : Cfg) (test : Test) (x : List Rat) (alpha : Rat)
    (pfx : Bool) (q : Rat) (n : Nat) (hN : cfg.N = some n) (hx : x ≠ []) :
    sampleSize sqrtF cfg test x alpha none pfx q =
      (match run sqrtF cfg test (tileTo x n) with
       | .ok ph => .ok (firstCrossing ph.2 alpha n)
       | .error e => .error e) := by
  unfold sampleSize
  simp only [hN, List.isEmpty_eq_false_iff.mpr hx, Bool.false_eq_true, ↓reduceIte]
  cases run sqrtF cfg test (tileTo x n) <;> rfl

/-- **C16, deterministic estimate.** With `reps = None` the estimate is `k` iff the test runs on the pilot
tiled to length `N` and `k` is the first crossing of that history (`N` if it never crosses);
`prefix` and `quantile` are ignored. -/
theorem det_first_crossing (sqrtF : Rat → Rat) (cfg : Cfg) (test : Test) (x : List Rat) (alpha : Rat)
    (pfx : Bool) (q : Rat) (k : Nat) :
    sampleSize sqrtF cfg test x alpha none pfx q = .ok k ↔
      ∃ n p h, cfg.N = some n ∧ x ≠ [] ∧ run sqrtF cfg test (tileTo x n) = .ok (p, h) ∧
        k = firstCrossing h alpha n := by
  constructor
  · intro hk
    cases hN : cfg.N with
    | none => simp [sampleSize, hN] at hk
    | some n =>
      by_cases hx : x = []
      · subst hx; simp [sampleSize, hN] at hk
      · rw [sampleSize_det_eq sqrtF cfg test x alpha pfx q n hN hx] at hk
        split at hk
        · next ph hr => exact ⟨n, ph.1, ph.2, rfl, hx, hr, (Except.ok.inj hk).symm⟩
        · cases hk
  · rintro ⟨n, p, h, hN, hx, hr, hk⟩
    rw [sampleSize_det_eq sqrtF cfg test x alpha pfx q n hN hx, hr, hk]

/-- non-vacuity: the non-constant pilot `[0,1,1,1]`, `N = 8`, ALPHA with a fixed alternative 3/4: the
history on the tiled pilot `[0,1,1,1,0,1,1,1]` is `[1, 1, 4/5, 2/5, ...]`, first `≤ 1/2` at position 4
(repeating each value instead, `[0,0,1,1,1,1,1,1]`, would give 6) -/
example : sampleSize sqrtRat (Cfg.init false false 1 (some 8) (1/2) true { eta := some (3/4) })
    (.alpha .fixedAlt) [0, 1, 1, 1] (1/2) none false (1/2) = .ok 4 := by decide +kernel

/-! ### the assumed populations of `Assertion.find_sample_size` -/

theorem assign_length (x : List Rat) (idx : List Nat) (v : Rat) : (assign x idx v).length = x.length := by
  induction idx generalizing x with
  | nil => rfl
  | cons j idx ih => exact (ih (x.set j v)).trans (List.length_set ..)

theorem assign_getElem? (x : List Rat) (idx : List Nat) (v : Rat) (i : Nat) (hi : i < x.length) :
    (assign x idx v)[i]? = if i ∈ idx then some v else x[i]? := by
  induction idx generalizing x with
  | nil => rfl
  | cons j idx ih =>
    show (assign (x.set j v) idx v)[i]? = _
    rw [ih _ (by rwa [List.length_set])]
    by_cases hji : j = i
    · subst hji
      rw [List.getElem?_set_self hi, if_pos List.mem_cons_self]
      exact ite_self _
    · rw [List.getElem?_set_ne hji]
      exact if_congr (List.mem_cons.trans (or_iff_right fun e => hji e.symm)).symm rfl rfl

theorem mem_arange (n step i : Nat) (hs : 0 < step) : i ∈ arange n step ↔ i < n ∧ step ∣ i := by
  unfold arange
  rw [List.mem_map]
  constructor
  · rintro ⟨k, hk, rfl⟩
    refine ⟨?_, Dvd.intro_left k rfl⟩
    have h1 := (Nat.le_div_iff_mul_le hs).mp (List.mem_range.mp hk)
    rw [Nat.succ_mul] at h1
    omega
  · rintro ⟨hi, k, rfl⟩
    refine ⟨k, List.mem_range.mpr ((Nat.le_div_iff_mul_le hs).mpr ?_), Nat.mul_comm k step⟩
    rw [Nat.succ_mul, Nat.mul_comm k step]
    omega

/-- position `i` is marked by an assumed error rate `r`: `r` is given and non-zero, the step
`int(1/r)` is positive, and `i` is a multiple of it -/
def marks (rate : Option Rat) (i : Nat) : Bool :=
  match rate with
  | none => false
  | some r => decide (r ≠ 0) && decide (0 < truncInt (1 / r)) && decide ((truncInt (1 / r)).toNat ∣ i)

/-- the only way the index computation fails: a non-zero rate with `int(1/rate) = 0`, i.e. `|rate| > 1`
(`np.arange(..., step=0)` raises ZeroDivisionError) -/
def rateOk (rate : Option Rat) : Prop := ∀ r, rate = some r → r ≠ 0 → truncInt (1 / r) ≠ 0

theorem marks_some (r : Rat) (i : Nat) :
    marks (some r) i = true ↔ r ≠ 0 ∧ 0 < truncInt (1 / r) ∧ (truncInt (1 / r)).toNat ∣ i := by
  simp [marks, and_assoc]

theorem rateIdx_ok (n : Nat) (rate : Option Rat) (h : rateOk rate) :
    ∃ idx, rateIdx n rate = .ok idx ∧ ∀ i, i ∈ idx ↔ i < n ∧ marks rate i = true := by
  cases rate with
  | none => exact ⟨[], rfl, fun i => ⟨fun hi => (nomatch hi), fun hi => (nomatch hi.2)⟩⟩
  | some r =>
    by_cases hr : r = 0
    · exact ⟨[], if_pos hr, fun i => ⟨fun hi => (nomatch hi), fun hi => absurd hr ((marks_some r i).mp hi.2).1⟩⟩
    · have h0 := h r rfl hr
      simp only [marks_some, rateIdx, if_neg hr, if_neg h0, and_iff_right hr]
      rcases lt_or_gt_of_ne h0 with hneg | hpos
      · exact ⟨[], if_pos hneg, fun i => ⟨fun hi => (nomatch hi), fun hi => absurd hi.2.1 (by omega)⟩⟩
      · refine ⟨_, if_neg (by omega), fun i => ?_⟩
        rw [mem_arange n _ i (by omega), and_iff_right hpos]

theorem rateIdx_err (n : Nat) (rate : Option Rat) (h : ¬ rateOk rate) :
    rateIdx n rate = .error (.nm .zerodiv) := by
  simp only [rateOk, not_forall, Decidable.not_not] at h
  obtain ⟨r, rfl, h0, h1⟩ := h
  simp only [rateIdx, if_neg h0, if_pos h1]

/-- **C16, comparison population entry by entry.**  `x = big*ones(N); x[rate_1_i] = small;
x[rate_2_i] = 0`: entry `i` is `0` if `rate_2` marks `i`; else `small` if `rate_1` marks `i`; else `big`
(the second overwrite wins, exactly the order of the code). -/
theorem comparisonPop_spec (n : Nat) (rate1 rate2 : Option Rat) (small big : Rat)
    (h1 : rateOk rate1) (h2 : rateOk rate2) :
    ∃ x, comparisonPop n rate1 rate2 small big = .ok x ∧ x.length = n ∧
      ∀ i, i < n → x[i]? = some (if marks rate2 i then 0 else if marks rate1 i then small else big) := by
  obtain ⟨i1, e1, m1⟩ := rateIdx_ok n rate1 h1
  obtain ⟨i2, e2, m2⟩ := rateIdx_ok n rate2 h2
  have hl : (assign (List.replicate n big) i1 small).length = n := by rw [assign_length, List.length_replicate]
  refine ⟨assign (assign (List.replicate n big) i1 small) i2 0, by rw [comparisonPop, e1, e2]; rfl,
    by rw [assign_length, hl], fun i hi => ?_⟩
  rw [assign_getElem? _ _ _ _ (hl.symm ▸ hi), assign_getElem? _ _ _ _ (by rwa [List.length_replicate]),
    List.getElem?_replicate, if_pos hi]
  simp only [m1, m2, hi, true_and]
  cases marks rate2 i <;> cases marks rate1 i <;> rfl

theorem comparisonPop_ok_iff (n : Nat) (rate1 rate2 : Option Rat) (small big : Rat) :
    (∃ x, comparisonPop n rate1 rate2 small big = .ok x) ↔ rateOk rate1 ∧ rateOk rate2 := by
  constructor
  · rintro ⟨x, hx⟩
    by_cases h1 : rateOk rate1
    · refine ⟨h1, by_contra fun h2 => ?_⟩
      obtain ⟨i1, e1, _⟩ := rateIdx_ok n rate1 h1
      rw [comparisonPop, e1, rateIdx_err n rate2 h2] at hx
      cases hx
    · rw [comparisonPop, rateIdx_err n rate1 h1] at hx
      cases hx
  · rintro ⟨h1, h2⟩
    obtain ⟨x, hx, _⟩ := comparisonPop_spec n rate1 rate2 small big h1 h2
    exact ⟨x, hx⟩

theorem truncInt_inv_rate (r : Rat) (h0 : 0 < r) (h1 : r ≤ 1) :
    truncInt (1 / r) = (1 / r).floor ∧ 1 ≤ (1 / r).floor := by
  refine ⟨if_neg (not_lt.mpr (one_div_pos.mpr h0).le), Rat.le_floor_iff.mpr ?_⟩
  rw [Int.cast_one]
  exact one_le_one_div h0 h1

theorem rateOk_of_unit (r : Rat) (h0 : 0 ≤ r) (h1 : r ≤ 1) : rateOk (some r) := by
  intro q hq hne
  cases hq
  have hpos : 0 < r := lt_of_le_of_ne h0 (Ne.symm hne)
  have := truncInt_inv_rate r hpos h1
  omega

theorem rateOk_none : rateOk none := by intro r h; cases h

theorem marks_unit (r : Rat) (h0 : 0 < r) (h1 : r ≤ 1) (i : Nat) :
    marks (some r) i = true ↔ ((1 / r).floor.toNat ∣ i) := by
  obtain ⟨e, hge⟩ := truncInt_inv_rate r h0 h1
  rw [marks_some, e]
  exact ⟨fun h => h.2.2, fun h => ⟨h0.ne', by omega, h⟩⟩

theorem makeOverstatement_spec (ub margin overs : Rat) (hub : ub ≠ 0) (hd : 2 - margin / ub ≠ 0) :
    makeOverstatement ub margin overs = .ok ((1 - overs / ub) / (2 - margin / ub)) := by
  simp [makeOverstatement, hub, hd]

/-- **C16, assumed data (comparison)**, assertion level: for CARD_COMPARISON and ONEAUDIT the data the
estimate is computed from are: `0` where `rate_2` marks the position, else the one-vote-overstatement
value where `rate_1` (default `(1 - margin)/2`) marks it, else the error-free value. -/
theorem assumed_population_comparison (a : Assertion) (m : Rat) (rate1 rate2 : Option Rat) (n : Nat)
    (hN : a.cfg.N = some n) (hat : a.auditType = .cardComparison ∨ a.auditType = .oneaudit)
    (x : List Rat) (hx : assumedPopulation a m rate1 rate2 = .ok x) :
    ∃ small big, makeOverstatement a.upperBound m (1 / 2) = .ok small ∧
      makeOverstatement a.upperBound m 0 = .ok big ∧ x.length = n ∧
      ∀ i, i < n → x[i]? = some (if marks rate2 i then 0
                                else if marks (some (rate1.getD ((1 - m) / 2))) i then small else big) := by
  have hp : (a.auditType == AuditType.polling) = false := by
    rcases hat with h | h <;> simp [h]
  unfold assumedPopulation at hx
  simp only [hp, Bool.false_eq_true, ↓reduceIte, hN] at hx
  cases hb : makeOverstatement a.upperBound m 0 with
  | error e => simp only [hb, bind, Except.bind, reduceCtorEq] at hx
  | ok big =>
    cases hs : makeOverstatement a.upperBound m (1 / 2) with
    | error e => simp only [hb, hs, bind, Except.bind, reduceCtorEq] at hx
    | ok small =>
      have hx' : comparisonPop n (some (rate1.getD ((1 - m) / 2))) rate2 small big = .ok x := by
        rcases hat with h | h <;> simpa only [hb, hs, bind, Except.bind, h] using hx
      have hok := (comparisonPop_ok_iff _ _ _ _ _).mp ⟨x, hx'⟩
      obtain ⟨x', e', hl, hv⟩ := comparisonPop_spec n _ rate2 small big hok.1 hok.2
      cases hx'.symm.trans e'
      exact ⟨small, big, rfl, rfl, hl, hv⟩

/-- **C16, assumed data (polling).** For POLLING (not IRV, tally given) the data are the reported
tallies interleaved: `tally[loser]` zeros, `N - tally[loser] - tally[winner]` halves and `tally[winner]`
values equal to the assorter's upper bound. -/
theorem assumed_population_polling (a : Assertion) (m : Rat) (rate1 rate2 : Option Rat) (n : Nat)
    (hN : a.cfg.N = some n) (hat : a.auditType = .polling) (hirv : a.irv = false)
    (tl : List (String × Int)) (ht : a.tally = some tl) (hne : tl ≠ []) (n0 nBig : Int)
    (h0 : tl.lookup a.loser = some n0) (hb : tl.lookup a.winner = some nBig) :
    assumedPopulation a m rate1 rate2 =
      interleaveValues n0 ((n : Int) - n0 - nBig) nBig 0 (1 / 2) a.upperBound := by
  unfold assumedPopulation pollingPop
  cases tl with
  | nil => exact absurd rfl hne
  | cons p tl' =>
    simp [hat, hN, hirv, ht, h0, hb, bind, Except.bind, pure, Except.pure]

/-- `Assertion.find_sample_size` with `data=None` is `NonnegMean.sample_size` at `alpha = risk_limit` on
the assumed population; with data, on the data -/
theorem find_eq (sqrtF : Rat → Rat) (a : Assertion) (m : Rat) (hm : a.margin = some m) (hpos : 0 < m)
    (data : Option (List Rat)) (pfx : Bool) (rate1 rate2 : Option Rat)
    (reps : Option (List (List Rat))) (q : Rat) :
    assertionFindSampleSize sqrtF a data pfx rate1 rate2 reps q =
      (match data with
       | some d => liftNM (sampleSize sqrtF a.cfg a.test d a.riskLimit reps pfx q)
       | none =>
         match assumedPopulation a m rate1 rate2 with
         | .ok x => liftNM (sampleSize sqrtF a.cfg a.test x a.riskLimit reps pfx q)
         | .error e => .error e) := by
  unfold assertionFindSampleSize
  simp only [hm, gt_iff_lt, hpos, not_true_eq_false, ↓reduceIte]
  cases data with
  | some d => rfl
  | none =>
    cases assumedPopulation a m rate1 rate2 <;> rfl

theorem liftNM_ok_iff {α} (r : Except NM.Err α) (v : α) : liftNM r = .ok v ↔ r = .ok v := by
  cases r <;> simp [liftNM]

/-- **C16, estimate without data.** Without pilot data and without simulation the
estimate of an assertion is `k` iff the assumed population `x` exists and `k` is the first position at
which the test's history on `x` (tiled to `N`; `x` itself when it has length `N`, which it has for the
comparison populations) is at most the contest's risk limit, `N` if it never is. -/
theorem find_det_first_crossing (sqrtF : Rat → Rat) (a : Assertion) (m : Rat) (hm : a.margin = some m)
    (hpos : 0 < m) (pfx : Bool) (rate1 rate2 : Option Rat) (q : Rat) (k : Nat) :
    assertionFindSampleSize sqrtF a none pfx rate1 rate2 none q = .ok k ↔
      ∃ n x p h, a.cfg.N = some n ∧ assumedPopulation a m rate1 rate2 = .ok x ∧ x ≠ [] ∧
        run sqrtF a.cfg a.test (tileTo x n) = .ok (p, h) ∧ k = firstCrossing h a.riskLimit n := by
  rw [find_eq sqrtF a m hm hpos]
  cases hx : assumedPopulation a m rate1 rate2 with
  | error e => simp
  | ok x =>
    simp only [liftNM_ok_iff, det_first_crossing]
    constructor
    · rintro ⟨n, p, h, h1, h2, h3, h4⟩
      exact ⟨n, x, p, h, h1, rfl, h2, h3, h4⟩
    · rintro ⟨n, _, p, h, h1, h2, h3, h4, h5⟩
      cases h2
      exact ⟨n, p, h, h1, h3, h4, h5⟩

/-- for CARD_COMPARISON / ONEAUDIT the assumed population has length `N`, so no tiling happens: the
estimate is the first crossing of the test's history on the assumed population itself -/
theorem find_det_comparison (sqrtF : Rat → Rat) (a : Assertion) (m : Rat) (hm : a.margin = some m)
    (hpos : 0 < m) (hat : a.auditType = .cardComparison ∨ a.auditType = .oneaudit)
    (n : Nat) (hN : a.cfg.N = some n) (hn : 0 < n)
    (pfx : Bool) (rate1 rate2 : Option Rat) (q : Rat) (k : Nat) :
    assertionFindSampleSize sqrtF a none pfx rate1 rate2 none q = .ok k ↔
      ∃ x p h, assumedPopulation a m rate1 rate2 = .ok x ∧
        run sqrtF a.cfg a.test x = .ok (p, h) ∧ k = firstCrossing h a.riskLimit n := by
  rw [find_det_first_crossing sqrtF a m hm hpos]
  have htile : ∀ x, assumedPopulation a m rate1 rate2 = .ok x → x ≠ [] ∧ tileTo x n = x := fun x h2 => by
    obtain ⟨_, _, _, _, hl, _⟩ := assumed_population_comparison a m rate1 rate2 n hN hat x h2
    have h3 : x ≠ [] := List.ne_nil_of_length_pos (hl ▸ hn)
    exact ⟨h3, hl ▸ tileTo_self x h3⟩
  constructor
  · rintro ⟨n', x, p, h, h1, h2, -, h4, h5⟩
    cases hN.symm.trans h1
    exact ⟨x, p, h, h2, (htile x h2).2 ▸ h4, h5⟩
  · rintro ⟨x, p, h, h2, h4, h5⟩
    exact ⟨n, x, p, h, hN, h2, (htile x h2).1, (htile x h2).2.symm ▸ h4, h5⟩

/-! ### simulation with a prefix that already crosses the risk limit -/

theorem firstCrossing_of_take (h : List XR) (alpha : Rat) (n m i : Nat) (hi : i < (h.take m).length)
    (hp : XR.le (h.take m)[i] (.fin alpha) = true)
    (hlt : ∀ j (hj : j < i), XR.le ((h.take m)[j]'(Nat.lt_trans hj hi)) (.fin alpha) = false) :
    firstCrossing h alpha n = i + 1 :=
  firstCrossing_eq_of_first h alpha n i (by rw [List.length_take] at hi; omega)
    (by rwa [List.getElem_take] at hp) (fun j hj => by have := hlt j hj; rwa [List.getElem_take] at this)

/-- `int(np.quantile(sams, q))` of a constant sample is that constant, for every `q ≤ 1` (numpy
rejects `q` outside `[0, 1]`) -/
theorem quantileInt_const (r c : Nat) (hr : 0 < r) (q : Rat) (hq : q ≤ 1) :
    quantileInt (List.replicate r c) q = c := by
  -- both interpolation points lie inside the sample, because `(r - 1) * q < r`
  have hlo : (((r - 1 : Nat) : Rat) * q).floor < (r : Int) :=
    Rat.floor_lt_iff.mpr ((mul_le_of_le_one_right (Nat.cast_nonneg _) hq).trans_lt
      (by rw [Int.cast_natCast]; exact Nat.cast_lt.mpr (Nat.sub_one_lt hr.ne')))
  have hget : ∀ k, k < r → (List.replicate r c).getD k 0 = c := fun k hk => by
    rw [List.getD_eq_getElem?_getD, List.getElem?_replicate, if_pos hk]; rfl
  unfold quantileInt
  rw [List.perm_replicate.mp (List.mergeSort_perm (List.replicate r c) _)]
  simp only [List.length_replicate, if_neg hr.ne']
  rw [hget _ (by omega), hget _ (by omega), sub_self, mul_zero, add_zero]
  exact congrArg Int.toNat (Rat.floor_intCast c)

/-- **C16, crossing prefix.**  Let the supplied data `x` be used as a prefix.  Hypothesis `hcausal`
(non-anticipation of the test's history, property C05, stated here for the specific test and
configuration): on every simulated population `x ++ y` the test succeeds and the first `|x|` entries of
its history are the same list `hx` ("the history of the prefix, continued").  If `hx` first reaches
`≤ alpha` at (0-based) index `i`, then for every non-empty list of random tails and every quantile
`q ≤ 1` the simulation-based estimate is `i + 1`: seed, repetitions and quantile are irrelevant. -/
theorem prefix_crossing (sqrtF : Rat → Rat) (cfg : Cfg) (test : Test) (x : List Rat) (alpha : Rat)
    (n : Nat) (hN : cfg.N = some n) (hx : List XR) (tails : List (List Rat)) (hne : tails ≠ [])
    (hcausal : ∀ y ∈ tails, ∃ p h, run sqrtF cfg test (x ++ y) = .ok (p, h) ∧ h.take x.length = hx)
    (i : Nat) (hi : i < hx.length) (hp : XR.le hx[i] (.fin alpha) = true)
    (hlt : ∀ j (hj : j < i), XR.le (hx[j]'(Nat.lt_trans hj hi)) (.fin alpha) = false)
    (q : Rat) (hq : q ≤ 1) :
    sampleSize sqrtF cfg test x alpha (some tails) true q = .ok (i + 1) := by
  unfold sampleSize
  simp only [hN, ↓reduceIte]
  have hall : ∀ y ∈ tails,
      (do let (_, hist) ← run sqrtF cfg test (x ++ y); pure (firstCrossing hist alpha n) : Except NM.Err Nat)
        = .ok (i + 1) := by
    intro y hy
    obtain ⟨p, h, hr, ht⟩ := hcausal y hy
    subst ht
    rw [hr]
    show Except.ok (firstCrossing h alpha n) = Except.ok (i + 1)
    rw [firstCrossing_of_take h alpha n x.length i hi hp hlt]
  rw [mapM_const tails _ (i + 1) hall]
  show Except.ok (quantileInt (List.replicate tails.length (i + 1)) q) = Except.ok (i + 1)
  rw [quantileInt_const _ _ (List.length_pos_of_ne_nil hne) q hq]

/-- the same at the level of `Assertion.find_sample_size` (this is what `Audit.find_sample_size` calls
with `prefix=True` once MVRs are available): if the data already cross the contest's risk limit at
position `i + 1`, every simulation-based estimate is `i + 1` -/
theorem find_prefix_crossing (sqrtF : Rat → Rat) (a : Assertion) (m : Rat) (hm : a.margin = some m)
    (hpos : 0 < m) (x : List Rat) (rate1 rate2 : Option Rat)
    (n : Nat) (hN : a.cfg.N = some n) (hx : List XR) (tails : List (List Rat)) (hne : tails ≠ [])
    (hcausal : ∀ y ∈ tails, ∃ p h, run sqrtF a.cfg a.test (x ++ y) = .ok (p, h) ∧ h.take x.length = hx)
    (i : Nat) (hi : i < hx.length) (hp : XR.le hx[i] (.fin a.riskLimit) = true)
    (hlt : ∀ j (hj : j < i), XR.le (hx[j]'(Nat.lt_trans hj hi)) (.fin a.riskLimit) = false)
    (q : Rat) (hq : q ≤ 1) :
    assertionFindSampleSize sqrtF a (some x) true rate1 rate2 (some tails) q = .ok (i + 1) := by
  rw [find_eq sqrtF a m hm hpos]
  show liftNM _ = _
  rw [prefix_crossing sqrtF a.cfg a.test x a.riskLimit n hN hx tails hne hcausal i hi hp hlt q hq]
  rfl

/-- the per-population form: for EVERY tail the first crossing of `x ++ tail` is that of the prefix -/
theorem prefix_crossing_tail (sqrtF : Rat → Rat) (cfg : Cfg) (test : Test) (x y : List Rat) (alpha : Rat)
    (n : Nat) (p : XR) (h : List XR) (_hr : run sqrtF cfg test (x ++ y) = .ok (p, h))
    (i : Nat) (hi : i < (h.take x.length).length) (hp : XR.le (h.take x.length)[i] (.fin alpha) = true)
    (hlt : ∀ j (hj : j < i), XR.le ((h.take x.length)[j]'(Nat.lt_trans hj hi)) (.fin alpha) = false) :
    firstCrossing h alpha n = i + 1 :=
  firstCrossing_of_take h alpha n x.length i hi hp hlt

/-! #### `hcausal` for Kaplan-Markov -/

/-- the p-value history of `kaplan_markov` on a sample `z` -/
def kmHist (cfg : Cfg) (z : List Rat) : List XR :=
  (XR.cumprod (z.map fun a => (XR.fin (cfg.t + cfg.kw.g.getD 0)) / (XR.fin (a + cfg.kw.g.getD 0)))).map
    (fun p => XR.npmin p 1)

theorem km_run (sqrtF : Rat → Rat) (cfg : Cfg) (z : List Rat) (hz : z ≠ []) (hnn : ∀ v ∈ z, 0 ≤ v) :
    ∃ p, run sqrtF cfg .km z = .ok (p, kmHist cfg z) := by
  have hany : z.any (· < 0) = false :=
    List.any_eq_false.mpr fun v hv => by rw [decide_eq_true_eq]; exact not_lt.mpr (hnn v hv)
  have hemp : ∀ f : Rat → XR, (XR.cumprod (z.map f)).isEmpty = false := fun f => by
    rw [List.isEmpty_eq_false_iff, ← List.length_pos_iff, XR.cumprod, length_cumprodFrom, List.length_map]
    exact List.length_pos_of_ne_nil hz
  unfold run kaplanMarkov
  simp only [hany, Bool.false_eq_true, ↓reduceIte, hemp]
  exact ⟨_, rfl⟩

theorem kmHist_take (cfg : Cfg) (x y : List Rat) : (kmHist cfg (x ++ y)).take x.length = kmHist cfg x := by
  unfold kmHist XR.cumprod
  rw [List.map_append, ← List.map_take]
  exact congrArg _ (by simpa only [List.length_map] using cumprodFrom_append_take 1 (x.map _) (y.map _))

/-- **C16, crossing prefix, Kaplan-Markov.**
`prefix_crossing` for Kaplan-Markov, without any hypothesis about the test: if the Kaplan-Markov
history of the (non-negative, non-empty) pilot `x` first reaches `≤ alpha` at index `i`, every
simulation-based estimate with prefix `x` is `i + 1` — for all non-negative tails, all numbers of
repetitions `≥ 1` and all quantiles `q ≤ 1`. -/
theorem prefix_crossing_km (sqrtF : Rat → Rat) (cfg : Cfg) (x : List Rat) (alpha : Rat) (n : Nat)
    (hN : cfg.N = some n) (hx0 : x ≠ []) (hxnn : ∀ v ∈ x, 0 ≤ v)
    (tails : List (List Rat)) (hne : tails ≠ []) (htnn : ∀ y ∈ tails, ∀ v ∈ y, 0 ≤ v)
    (i : Nat) (hi : i < (kmHist cfg x).length) (hp : XR.le (kmHist cfg x)[i] (.fin alpha) = true)
    (hlt : ∀ j (hj : j < i), XR.le ((kmHist cfg x)[j]'(Nat.lt_trans hj hi)) (.fin alpha) = false)
    (q : Rat) (hq : q ≤ 1) :
    sampleSize sqrtF cfg .km x alpha (some tails) true q = .ok (i + 1) := by
  apply prefix_crossing sqrtF cfg .km x alpha n hN (kmHist cfg x) tails hne _ i hi hp hlt q hq
  intro y hy
  obtain ⟨p, hr⟩ := km_run sqrtF cfg (x ++ y) (List.append_ne_nil_of_left_ne_nil hx0 y)
    fun v hv => (List.mem_append.mp hv).elim (hxnn v) (htnn y hy v)
  exact ⟨p, _, hr, kmHist_take cfg x y⟩

/-- non-vacuity of `prefix_crossing_km` (and so of `prefix_crossing`): `t = 1/2`, `g = 1/10`, pilot
`[1, 1, 1, 0]`, `alpha = 1/4`: the history `6/11, 36/121, 216/1331, ...` first is `≤ 1/4` at index 2, so the
estimate is 3 for the two tails below (and any others), quantile 9/10 -/
example : sampleSize sqrtRat (Cfg.init false false 1 (some 12) (1/2) true { g := some (1/10) }) .km
    [1, 1, 1, 0] (1/4) (some [[0, 0, 0, 0, 0, 0, 0, 0], [1, 0, 1, 1, 0, 1, 1, 1]]) true (9/10) = .ok 3 := by
  apply prefix_crossing_km sqrtRat _ [1, 1, 1, 0] (1/4) 12 rfl (by simp) (by decide +kernel) _ (by simp)
    (by decide +kernel) 2 (by decide +kernel) (by decide +kernel) (by decide +kernel) (9/10) (by norm_num)

/-! ### the maximum over a contest's assertions -/

/-- the estimate `Contest.find_sample_size` requests for one assertion -/
def contestItemEstimate (sqrtF : Rat → Rat) (ctype : AuditType) (hasMvr : Bool) (rate1 rate2 : Option Rat)
    (q : Rat) (it : Item) : Except SS.Err Nat :=
  assertionFindSampleSize sqrtF it.a
    (if hasMvr then some it.mvrData else if ctype == .oneaudit then some it.cvrData else none)
    false rate1 rate2 it.tails q

/-- the estimate `Audit.find_sample_size` requests for one (unproved) assertion -/
def auditItemEstimate (sqrtF : Rat → Rat) (ctype : AuditType) (hasMvr : Bool) (rate1 rate2 : Option Rat)
    (q : Rat) (it : Item) : Except SS.Err Nat :=
  if hasMvr then assertionFindSampleSize sqrtF it.a (some it.mvrData) true none none it.tails q
  else assertionFindSampleSize sqrtF it.a (if ctype == .oneaudit then some it.cvrData else none)
    false rate1 rate2 it.tails q

/-- the size a contest gets from the estimates `l` of its assertions: their maximum, 0 when there are none -/
def maxOf (l : List Nat) : Nat := l.foldl max 0

theorem maxOf_spec (l : List Nat) :
    (∀ s ∈ l, s ≤ maxOf l) ∧ (l = [] → maxOf l = 0) ∧ (l ≠ [] → maxOf l ∈ l) := by
  obtain ⟨-, hub, hatt⟩ := foldl_max_spec l 0
  refine ⟨hub, fun h => by rw [h]; rfl, fun hne => hatt.elim (fun h0 => ?_) id⟩
  -- the maximum is 0: then every element is 0
  obtain ⟨b, hb⟩ := List.exists_mem_of_ne_nil l hne
  have hb0 : b = maxOf l := Nat.le_antisymm (hub b hb) (h0.le.trans (Nat.zero_le b))
  exact hb0 ▸ hb

/-- **C16, contest maximum.** `Contest.find_sample_size` is the maximum of the estimates of its assertions
(`0` if there are none); if an assertion's estimate raises, the contest raises (the first such error) -/
theorem contest_is_max (sqrtF : Rat → Rat) (ctype : AuditType) (hasMvr : Bool) (items : List Item)
    (rate1 rate2 : Option Rat) (q : Rat) :
    contestFindSampleSize sqrtF ctype hasMvr items rate1 rate2 q =
      (items.mapM (contestItemEstimate sqrtF ctype hasMvr rate1 rate2 q)).map maxOf :=
  foldlM_max_eq (contestItemEstimate sqrtF ctype hasMvr rate1 rate2 q) items 0

theorem contest_is_max_ok (sqrtF : Rat → Rat) (ctype : AuditType) (hasMvr : Bool) (items : List Item)
    (rate1 rate2 : Option Rat) (q : Rat) (sizes : List Nat)
    (h : items.mapM (contestItemEstimate sqrtF ctype hasMvr rate1 rate2 q) = .ok sizes) :
    contestFindSampleSize sqrtF ctype hasMvr items rate1 rate2 q = .ok (maxOf sizes) := by
  rw [contest_is_max, h]; rfl

/-- `step` is the loop body as the model writes it, `f` the estimate for one assertion -/
theorem foldlM_unproved_max {ε} (f : Item → Except ε Nat) (step : Nat → Item → Except ε Nat)
    (hstep : ∀ acc it, step acc it = if it.proved then pure acc else do let s ← f it; pure (max acc s))
    (items : List Item) (acc : Nat) :
    items.foldlM step acc =
      ((items.filter (fun it => !it.proved)).mapM f).map (fun sizes => sizes.foldl max acc) := by
  rw [← foldlM_max_eq]
  induction items generalizing acc with
  | nil => rfl
  | cons it items ih =>
    rw [List.foldlM_cons, hstep]
    cases hp : it.proved with
    | true =>
      rw [if_pos rfl, List.filter_cons_of_neg (by simp [hp])]
      exact ih acc
    | false =>
      rw [if_neg Bool.false_ne_true, List.filter_cons_of_pos (by simp [hp]), List.foldlM_cons]
      cases f it with
      | error e => rfl
      | ok s => exact ih _

/-- **C16, contest maximum in the audit loop.** The new size `Audit.find_sample_size` assigns to a contest is the
maximum over its assertions that are not yet proved -/
theorem audit_contest_is_max (sqrtF : Rat → Rat) (ctype : AuditType) (hasMvr : Bool) (items : List Item)
    (rate1 rate2 : Option Rat) (q : Rat) :
    auditContestNewSize sqrtF ctype hasMvr items rate1 rate2 q =
      ((items.filter (fun it => !it.proved)).mapM
        (auditItemEstimate sqrtF ctype hasMvr rate1 rate2 q)).map maxOf :=
  foldlM_unproved_max _ _ (fun acc it => by cases hasMvr <;> rfl) items 0

/-! ### several contests in one call of `Audit.find_sample_size` -/

/-- the estimate `Audit.find_sample_size` requests for one unproved assertion, including the ONEAudit
branch (assumed errors written into the data built from all CVRs) -/
def auditItemEstimateInj (sqrtF : Rat → Rat) (ctype : AuditType) (hasMvr : Bool) (rate1 rate2 : Option Rat)
    (q : Rat) (it : Item) : Except SS.Err Nat :=
  if hasMvr then assertionFindSampleSize sqrtF it.a (some it.mvrData) true none none it.tails q
  else if ctype == .oneaudit then do
    let data ← oneauditInject it.cvrData rate1 rate2 it.a.upperBound it.a.margin
    assertionFindSampleSize sqrtF it.a (some data) false rate1 rate2 it.tails q
  else assertionFindSampleSize sqrtF it.a none false rate1 rate2 it.tails q

theorem auditInj_is_max (sqrtF : Rat → Rat) (ctype : AuditType) (hasMvr : Bool) (items : List Item)
    (rate1 rate2 : Option Rat) (q : Rat) :
    auditContestNewSizeInj sqrtF ctype hasMvr items rate1 rate2 q =
      ((items.filter (fun it => !it.proved)).mapM
        (auditItemEstimateInj sqrtF ctype hasMvr rate1 rate2 q)).map maxOf := by
  refine foldlM_unproved_max _ _ (fun acc it => ?_) items 0
  cases hasMvr
  · cases ctype
    case oneaudit =>
      simp only [auditItemEstimateInj, beq_self_eq_true, Bool.false_eq_true, ↓reduceIte, bind_assoc]
    all_goals rfl
  · rfl

theorem auditInj_single {sqrtF : Rat → Rat} {hasMvr : Bool} (ctype : AuditType) (a : Assertion)
    (rate1 rate2 : Option Rat) (q : Rat) (s : Nat)
    (h : auditItemEstimateInj sqrtF ctype hasMvr rate1 rate2 q { a := a } = .ok s) :
    auditContestNewSizeInj sqrtF ctype hasMvr [{ a := a }] rate1 rate2 q = .ok s :=
  (auditInj_is_max ..).trans (congrArg (Except.map maxOf) ((mapM_ok_iff_forall₂ _ _ [s]).mpr (.cons h .nil)))

/-- outside the ONEAudit-without-MVRs branch this is the function `audit_contest_is_max` is about -/
theorem auditInj_eq (sqrtF : Rat → Rat) (ctype : AuditType) (hasMvr : Bool) (items : List Item)
    (rate1 rate2 : Option Rat) (q : Rat) (h : hasMvr = true ∨ ctype ≠ .oneaudit) :
    auditContestNewSizeInj sqrtF ctype hasMvr items rate1 rate2 q =
      auditContestNewSize sqrtF ctype hasMvr items rate1 rate2 q := by
  rw [auditInj_is_max, audit_contest_is_max]
  congr 2
  funext it
  rcases h with rfl | h
  · rfl
  · cases ctype <;> first | exact absurd rfl h | rfl

/-- **C16, contests do not interact.** `Audit.find_sample_size` on several contests assigns to each contest the value
its own assertions determine (`auditContestNewSizeInj` of that contest alone) — position by position, so
the result for a contest does not depend on the other contests in the call -/
theorem audit_per_contest (sqrtF : Rat → Rat) (hasMvr : Bool) (contests : List AContest)
    (rate1 rate2 : Option Rat) (q : Rat) (sizes : List Nat) :
    auditFindSampleSizes sqrtF hasMvr contests rate1 rate2 q = .ok sizes ↔
      List.Forall₂ (fun c s => auditContestNewSizeInj sqrtF c.ctype hasMvr c.items rate1 rate2 q = .ok s)
        contests sizes :=
  mapM_ok_iff_forall₂ _ contests sizes

/-- **C16, order of the contests.** If the call succeeds for the contests in one order it
succeeds in every other order, and in both every contest is paired with the value it has on its own -/
theorem audit_order_irrelevant (sqrtF : Rat → Rat) (hasMvr : Bool) (cs cs' : List AContest)
    (hperm : cs.Perm cs') (rate1 rate2 : Option Rat) (q : Rat) (sizes : List Nat)
    (h : auditFindSampleSizes sqrtF hasMvr cs rate1 rate2 q = .ok sizes) :
    ∃ sizes', auditFindSampleSizes sqrtF hasMvr cs' rate1 rate2 q = .ok sizes' ∧
      (∀ c s, (c, s) ∈ cs.zip sizes → auditContestNewSizeInj sqrtF c.ctype hasMvr c.items rate1 rate2 q = .ok s) ∧
      (∀ c s, (c, s) ∈ cs'.zip sizes' → auditContestNewSizeInj sqrtF c.ctype hasMvr c.items rate1 rate2 q = .ok s) := by
  obtain ⟨sizes', hs'⟩ := (mapM_isOk_iff _ cs').mpr fun c hc =>
    (mapM_isOk_iff _ cs).mp ⟨sizes, h⟩ c (hperm.mem_iff.mpr hc)
  exact ⟨sizes', hs', fun _ _ => List.forall₂_zip ((audit_per_contest ..).mp h),
    fun _ _ => List.forall₂_zip ((audit_per_contest ..).mp hs')⟩

/-- the value returned without style information is the largest contest estimate -/
theorem auditTotalNoStyle_spec (sizes : List Nat) (h : sizes ≠ []) :
    auditTotalNoStyle sizes = .ok (maxOf sizes) := by
  cases sizes with
  | nil => exact absurd rfl h
  | cons s rest => simp [auditTotalNoStyle, maxOf]

/-! ### `interleave_values` -/

def valOf (small med big : Rat) : Cls → Rat
  | .small => small
  | .med => med
  | .big => big

def stOf (i : Cls → Nat) (r : Cls → Rat) : IState := ⟨i .small, i .med, i .big, r .small, r .med, r .big⟩

/-- write a value of class `c`, advance its counter, recompute its ratio, then loop `k` times: the loop body of
`interleave_values` after the choice and, from the all-zero counters, its start -/
def placeThen (n : Cls → Nat) (v : Cls → Rat) (k : Nat) (i : Cls → Nat) (r : Cls → Rat) (c : Cls) :
    Except SS.Err (List Rat) := do
  let q ← ratio (n c) (i c + 1)
  let rest ← ivLoop (n .small) (n .med) (n .big) (v .small) (v .med) (v .big) k
    (stOf (Function.update i c (i c + 1)) (Function.update r c q))
  pure (v c :: rest)

theorem ivLoop_succ (n : Cls → Nat) (v : Cls → Rat) (k : Nat) (i : Cls → Nat) (r : Cls → Rat) :
    ivLoop (n .small) (n .med) (n .big) (v .small) (v .med) (v .big) (k + 1) (stOf i r) =
      placeThen n v k i r (choose (r .small) (r .med) (r .big)) := by
  unfold ivLoop
  dsimp only [stOf]
  cases choose (r .small) (r .med) (r .big) <;> rfl

/-- loop invariant of `interleave_values`: no counter exceeds the requested number, and the ratio of a class is
non-negative and positive exactly while the class has values left (the code's `r_* = (n - i)/n`, `0` for `n = 0`) -/
def Inv (n i : Cls → Nat) (r : Cls → Rat) : Prop := ∀ c, i c ≤ n c ∧ 0 ≤ r c ∧ (0 < r c ↔ i c < n c)

theorem ratio_spec (n i : Nat) (hn : n ≠ 0) (hi : i ≤ n) :
    ∃ q, ratio (n : Int) i = .ok q ∧ 0 ≤ q ∧ (0 < q ↔ i < n) := by
  have hn' : (0 : Rat) < ((n : Int) : Rat) := Int.cast_pos.mpr (Int.natCast_pos.mpr (Nat.pos_of_ne_zero hn))
  have hi' : (0 : Rat) ≤ (((n : Int) - (i : Int) : Int) : Rat) :=
    Int.cast_nonneg (Int.sub_nonneg_of_le (Int.ofNat_le.mpr hi))
  refine ⟨_, if_neg (Int.natCast_ne_zero.mpr hn), div_nonneg hi' hn'.le, ?_⟩
  rw [div_pos_iff_of_pos_right hn', Int.cast_pos]
  exact Int.sub_pos.trans Int.ofNat_lt

/-- the cascade of comparisons picks a class with the largest ratio; if some ratio is positive (and `r_big` is not
negative) the chosen one is positive: an exhausted class is never chosen while another class still has values left -/
theorem choose_pos (r : Cls → Rat) (h2 : 0 ≤ r .big) (hp : ∃ c, 0 < r c) :
    0 < r (choose (r .small) (r .med) (r .big)) := by
  unfold choose
  split_ifs with hSB hMS hMB
  · exact (h2.trans_lt hSB).trans hMS
  · exact h2.trans_lt hSB
  · exact h2.trans_lt hMB
  · obtain ⟨c, hc⟩ := hp
    cases c
    · exact hc.trans_le (not_lt.mp hSB)
    · exact hc.trans_le (not_lt.mp hMB)
    · exact hc

theorem sum_update_succ (i : Cls → Nat) (c : Cls) :
    Function.update i c (i c + 1) .small + Function.update i c (i c + 1) .med + Function.update i c (i c + 1) .big =
      i .small + i .med + i .big + 1 := by
  cases c <;> simp only [Function.update_apply, reduceCtorEq, ↓reduceIte] <;> omega

/-- `res` is a list of `k` values that, from the counters `i`, completes the requested numbers: `n d - i d` values of
each class `d` -/
def Places (n : Cls → Nat) (v : Cls → Rat) (i : Cls → Nat) (k : Nat) (res : Except SS.Err (List Rat)) : Prop :=
  ∃ cs : List Cls, res = .ok (cs.map v) ∧ cs.length = k ∧ ∀ d, cs.count d = n d - i d

/-- what `k` rounds of the loop do is a hypothesis (`hloop`): this is the induction step of `ivLoop_spec` and, with
`ivLoop_spec` for `hloop`, the start of `interleave_values` -/
theorem placeThen_spec (n : Cls → Nat) (v : Cls → Rat) (k : Nat) (i : Cls → Nat) (r : Cls → Rat) (c : Cls)
    (inv : Inv n i r) (hc : i c < n c)
    (hsum : i .small + i .med + i .big + (k + 1) = n .small + n .med + n .big)
    (hloop : ∀ i' r', Inv n i' r' → i' .small + i' .med + i' .big + k = n .small + n .med + n .big →
      Places n v i' k (ivLoop (n .small) (n .med) (n .big) (v .small) (v .med) (v .big) k (stOf i' r'))) :
    Places n v i (k + 1) (placeThen n v k i r c) := by
  obtain ⟨q, hq, hq0⟩ := ratio_spec (n c) (i c + 1) (Nat.zero_lt_of_lt hc).ne' hc
  have inv' : Inv n (Function.update i c (i c + 1)) (Function.update r c q) := by
    intro d
    by_cases hd : d = c
    · subst hd
      rw [Function.update_self, Function.update_self]
      exact ⟨hc, hq0⟩
    · rw [Function.update_of_ne hd, Function.update_of_ne hd]
      exact inv d
  obtain ⟨cs, hcs, hl, hcount⟩ := hloop _ _ inv' (by rw [sum_update_succ, Nat.add_assoc, Nat.add_comm 1 k]; exact hsum)
  refine ⟨c :: cs, ?_, by rw [List.length_cons, hl], fun d => ?_⟩
  · simp only [placeThen, hq, hcs, bind, Except.bind, pure, Except.pure, List.map_cons]
  · rw [List.count_cons, hcount]
    by_cases hd : d = c
    · subst hd
      rw [Function.update_self, beq_self_eq_true, if_pos rfl, Nat.sub_add_eq, Nat.sub_add_cancel (Nat.sub_pos_of_lt hc)]
    · rw [Function.update_of_ne hd, if_neg (by simpa using Ne.symm hd)]
      rfl

theorem ivLoop_spec (n : Cls → Nat) (v : Cls → Rat) (k : Nat) (i : Cls → Nat) (r : Cls → Rat) (inv : Inv n i r)
    (hsum : i .small + i .med + i .big + k = n .small + n .med + n .big) :
    Places n v i k (ivLoop (n .small) (n .med) (n .big) (v .small) (v .med) (v .big) k (stOf i r)) := by
  induction k generalizing i r with
  | zero =>
    -- nothing is left to place: every counter has reached its number
    have h : n .small ≤ i .small ∧ n .med ≤ i .med ∧ n .big ≤ i .big := by
      have hS := (inv .small).1
      have hM := (inv .med).1
      have hB := (inv .big).1
      omega
    exact ⟨[], rfl, rfl, fun d => (Nat.sub_eq_zero_of_le (by cases d; exacts [h.1, h.2.1, h.2.2])).symm⟩
  | succ k ih =>
    rw [ivLoop_succ]
    refine placeThen_spec n v k i r _ inv ((inv _).2.2.mp (choose_pos r (inv .big).2.1 ?_)) hsum ih
    -- some class has values left, since `k + 1` positions are still to be filled
    have : i .small < n .small ∨ i .med < n .med ∨ i .big < n .big := by omega
    rcases this with h | h | h <;> exact ⟨_, (inv _).2.2.mpr h⟩

/-- `interleave_values` on non-negative counts, not all zero, never raises (in particular never
divides by zero) and places exactly `n_small` / `n_med` / `n_big` positions of each class -/
theorem interleave_classes (nS nM nB : Nat) (hpos : 0 < nS + nM + nB) (small med big : Rat) :
    ∃ cs : List Cls,
      interleaveValues (nS : Int) (nM : Int) (nB : Int) small med big = .ok (cs.map (valOf small med big)) ∧
      cs.length = nS + nM + nB ∧ cs.count .small = nS ∧ cs.count .med = nM ∧ cs.count .big = nB := by
  -- the start is a step of the loop from the all-zero counters, for the first non-empty class
  let n : Cls → Nat := fun | .small => nS | .med => nM | .big => nB
  let r0 : Cls → Rat := fun c => if (n c : Int) ≠ 0 then 1 else 0
  have hstart : ∃ c, 0 < n c ∧ interleaveValues nS nM nB small med big =
      placeThen n (valOf small med big) (((nS : Int) + nM + nB).toNat - 1) (fun _ => 0) r0 c := by
    unfold interleaveValues
    rw [if_neg (by omega), if_neg (by omega)]
    rcases Nat.eq_zero_or_pos nS with hS | hS
    · rcases Nat.eq_zero_or_pos nM with hM | hM
      · exact ⟨.big, by rwa [hS, hM, Nat.zero_add] at hpos,
          by rw [if_neg (by rw [hS]; decide), if_neg (by rw [hM]; decide)]; rfl⟩
      · exact ⟨.med, hM, by rw [if_neg (by rw [hS]; decide), if_pos (Int.natCast_ne_zero.mpr hM.ne')]; rfl⟩
    · exact ⟨.small, hS, by rw [if_pos (Int.natCast_ne_zero.mpr hS.ne')]; rfl⟩
  obtain ⟨c, hc, hstart⟩ := hstart
  have inv : Inv n (fun _ => 0) r0 := fun d => by
    rcases Nat.eq_zero_or_pos (n d) with h | h
    · have h0 : r0 d = 0 := if_neg (by rw [h]; decide)
      rw [h0, h]
      exact ⟨le_rfl, le_rfl, iff_of_false (lt_irrefl _) (lt_irrefl _)⟩
    · have h1 : r0 d = 1 := if_pos (Int.natCast_ne_zero.mpr h.ne')
      rw [h1]
      exact ⟨Nat.zero_le _, zero_le_one, iff_of_true one_pos h⟩
  obtain ⟨cs, hcs, hl, hcount⟩ := placeThen_spec n (valOf small med big) (((nS : Int) + nM + nB).toNat - 1) _ _ c
    inv hc (by show 0 + 0 + 0 + (_ + 1) = nS + nM + nB; omega) (ivLoop_spec n _ _)
  exact ⟨cs, hstart.trans hcs, by omega, hcount .small, hcount .med, hcount .big⟩

/-- **C16, `interleave_values` counts.** For all `n_small, n_med, n_big ≥ 0`, not all zero, and pairwise distinct
values, `interleave_values` returns `n_small + n_med + n_big` values of which exactly `n_small` equal
`small`, `n_med` equal `med` and `n_big` equal `big`. -/
theorem interleave_counts (nS nM nB : Nat) (hpos : 0 < nS + nM + nB) (small med big : Rat)
    (hsm : small ≠ med) (hsb : small ≠ big) (hmb : med ≠ big) :
    ∃ x, interleaveValues (nS : Int) (nM : Int) (nB : Int) small med big = .ok x ∧
      x.length = nS + nM + nB ∧ x.count small = nS ∧ x.count med = nM ∧ x.count big = nB := by
  obtain ⟨cs, hx, hl, k1, k2, k3⟩ := interleave_classes nS nM nB hpos small med big
  have hinj : Function.Injective (valOf small med big) := fun c d h => by
    cases c <;> cases d <;> first | rfl | exact absurd h ‹_› | exact absurd h.symm ‹_›
  have hc := List.count_map_of_injective cs _ hinj
  exact ⟨_, hx, by rw [List.length_map, hl], (hc .small).trans k1, (hc .med).trans k2, (hc .big).trans k3⟩

/-- the excluded input: all counts zero raises IndexError (`x[0] = big` on an empty array) -/
theorem interleave_all_zero (small med big : Rat) :
    interleaveValues 0 0 0 small med big = .error (.nm .index) := by
  simp [interleaveValues]

/-- non-vacuity / the repository's own test (`test_interleave_values`): 5 zeros, 3 halves, 6 ones -/
example : interleaveValues 5 3 6 0 (1/2) 1 = .ok [0, 1, 1/2, 1, 0, 1, 1/2, 0, 1, 0, 1, 1/2, 0, 1] := by
  decide +kernel

/-- `n_big = 0` (finding F14 of DESIGN.md §6: `r_big = 1` unconditionally divides by zero here) -/
example : interleaveValues 3 2 0 0 (1/2) 1 = .ok [0, 1/2, 0, 1/2, 0] := by decide +kernel

/-! ### concrete assertions -/

/-- an assertion of a 12-card contest: ALPHA with fixed alternative, tally A=7, B=3 (2 other cards) -/
def exA (ty : AuditType) (u eta : Rat) : Assertion :=
  { auditType := ty, irv := false, tally := some [("A", 7), ("B", 3)], winner := "A", loser := "B",
    upperBound := 1, margin := some (1/3), riskLimit := 1/4,
    cfg := Cfg.init false false u (some 12) (1/2) true { eta := some eta }, test := .alpha .fixedAlt }

/-- comparison: `rate_1 = 1/3` (every 3rd card a one-vote overstatement), `rate_2 = 1/5` (every 5th a
two-vote overstatement, written last): `small = 3/10`, `big = 3/5` -/
example : assumedPopulation (exA .cardComparison (6/5) (11/10)) (1/3) (some (1/3)) (some (1/5)) =
    .ok [0, 3/5, 3/5, 3/10, 3/5, 0, 3/10, 3/5, 3/5, 3/10, 0, 3/5] := by decide +kernel

example : marks (some (1/5)) 10 = true ∧ marks (some (1/3)) 10 = false ∧ marks (some (1/3)) 9 = true ∧
    marks (some 0) 0 = false ∧ marks none 0 = false := by decide +kernel

/-- polling: 3 zeros (loser), 2 halves, 7 ones (winner), interleaved -/
example : assumedPopulation (exA .polling 1 (3/4)) (1/3) none none =
    interleaveValues 3 2 7 0 (1/2) 1 := by decide +kernel

/-- the polling estimate is 9, whatever error rates are passed (they are not read for polling) -/
theorem exA_polling_estimate (rate1 rate2 : Option Rat) :
    assertionFindSampleSize sqrtRat (exA .polling 1 (3/4)) none false rate1 rate2 none (1/2) = .ok 9 := by
  rw [find_eq sqrtRat _ (1/3) rfl (by norm_num),
    assumed_population_polling _ _ rate1 rate2 12 rfl rfl rfl _ rfl (List.cons_ne_nil _ _) 3 7 rfl rfl]
  decide +kernel

/-- the comparison estimate is 12: the history never crosses 1/4 -/
theorem exA_comparison_estimate :
    assertionFindSampleSize sqrtRat (exA .cardComparison (6/5) (11/10)) none false (some (1/3)) (some (1/5)) none
      (1/2) = .ok 12 := by decide +kernel

example : assertionFindSampleSize sqrtRat (exA .polling 1 (3/4)) none false none none none (1/2) = .ok 9 :=
  exA_polling_estimate none none

/-- the contest made of both reports the larger estimate, 12 -/
example : contestFindSampleSize sqrtRat .polling false
    [{ a := exA .polling 1 (3/4) }, { a := exA .cardComparison (6/5) (11/10) }] (some (1/3)) (some (1/5)) (1/2)
    = .ok 12 :=
  contest_is_max_ok _ _ _ _ _ _ _ [9, 12] ((mapM_ok_iff_forall₂ _ _ _).mpr
    (.cons (exA_polling_estimate _ _) (.cons exA_comparison_estimate .nil)))

/-- with the second assertion already proved, the audit-level maximum ignores it -/
example : auditContestNewSize sqrtRat .polling false
    [{ a := exA .polling 1 (3/4) }, { a := exA .cardComparison (6/5) (11/10), proved := true }]
    (some (1/3)) (some (1/5)) (1/2) = .ok 9 :=
  (audit_contest_is_max ..).trans (congrArg (Except.map maxOf)
    ((mapM_ok_iff_forall₂ _ _ [9]).mpr (.cons (exA_polling_estimate _ _) .nil)))

/-- two contests in one call: the tight comparison contest first (12), the polling contest second (9):
the second keeps its own value 9 (a running maximum would report 12), and swapping the order swaps the
results -/
example : auditFindSampleSizes sqrtRat false
    [{ ctype := .cardComparison, items := [{ a := exA .cardComparison (6/5) (11/10) }] },
     { ctype := .polling, items := [{ a := exA .polling 1 (3/4) }] }] (some (1/3)) (some (1/5)) (1/2)
    = .ok [12, 9] :=
  (audit_per_contest ..).mpr (.cons (auditInj_single _ _ _ _ _ _ exA_comparison_estimate)
    (.cons (auditInj_single _ _ _ _ _ _ (exA_polling_estimate _ _)) .nil))

example : auditFindSampleSizes sqrtRat false
    [{ ctype := .polling, items := [{ a := exA .polling 1 (3/4) }] },
     { ctype := .cardComparison, items := [{ a := exA .cardComparison (6/5) (11/10) }] }] (some (1/3)) (some (1/5)) (1/2)
    = .ok [9, 12] :=
  (audit_per_contest ..).mpr (.cons (auditInj_single _ _ _ _ _ _ (exA_polling_estimate _ _))
    (.cons (auditInj_single _ _ _ _ _ _ exA_comparison_estimate) .nil))

/-- ONEAudit error injection: every 2nd value a one-vote overstatement (`3/10`), then every 4th a two-vote
overstatement (`overs = 1` gives 0 for upper bound 1) -/
example : oneauditInject [3/5, 3/5, 3/5, 3/5, 3/5, 3/5] (some (1/2)) (some (1/4)) 1 (some (1/3)) =
    .ok [0, 3/5, 3/10, 3/5, 0, 3/5] := by decide +kernel

end Shangrla.C16
