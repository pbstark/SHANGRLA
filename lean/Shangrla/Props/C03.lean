/-
  C03 — comparison audits test the right null hypothesis (overstatement reduction).

  Theorems are about `Shangrla.Overstatement.*`, the literal model of
  `Assorter.set_tally_pool_means`, `Assorter.mean`, `Assertion.set_margin_from_cvrs`, `Assorter.overstatement`,
  `Assertion.overstatement_assorter` and `Assertion.mvrs_to_data` that the driver executes.  The raw assorter is a
  parameter: `c.a = A(cvr)`, `m.a = A(mvr)` are arbitrary rationals (assumed in `[0,u]` where that is needed).

  "Cards under audit": the CVRs passing the style filter (`has_contest` under style-based sampling, all
  cards otherwise); the margin, the pool means and `mvrs_to_data(use_all=True)` all use this same filter.
-/
import Shangrla.Lemmas.Overstatement

namespace Shangrla.C03
open Shangrla Shangrla.Overstatement

/-- the cards under audit -/
def aud (useStyle : Bool) (cvrs : List Cvr) : List Cvr := cvrs.filter (passes useStyle)

/-- the (MVR, CVR) pairs under audit, in order -/
def audPairs (useStyle : Bool) (mvrs : List Mvr) (cvrs : List Cvr) : List (Mvr × Cvr) :=
  (mvrs.zip cvrs).filter (fun p => passes useStyle p.2)

/-- `A` applied to the manual records of the cards under audit, with an unfindable (phantom) card counted as 0
and, under style-based sampling, a manual record lacking the contest counted as 0 (`mvrAssort`) -/
def mvrA (useStyle : Bool) (mvrs : List Mvr) (cvrs : List Cvr) : List Rat :=
  (audPairs useStyle mvrs cvrs).map (fun p => mvrAssort useStyle p.1)

/-- What the code scores a CVR under audit: its pool's mean when the card is pooled and means are installed
(the mean of `A` over exactly the pooled cards of that pool passing the same filter), else 1/2 for a phantom
and `A(cvr)` otherwise. -/
def score (useStyle : Bool) (cvrs : List Cvr) (means : Option Means) (c : Cvr) : Rat :=
  if usesPool means c then
    tot (pooledAud useStyle cvrs) c.tallyPool / (cnt (pooledAud useStyle cvrs) c.tallyPool : Rat)
  else ownScore c

/-- `A'`: 1/2 for a phantom CVR that is not scored through a pool, `A(cvr)` otherwise.
A POOLED phantom CVR contributes its own value `A(cvr)` — whatever the assorter returns
for the phantom record, not the constant 1/2 — to its pool's total (`set_tally_pool_means` L2512-2513 calls
`self.assort(c)` without looking at `c.phantom`), and is itself scored by that pool's mean. -/
def Aprime (means : Option Means) (c : Cvr) : Rat :=
  if c.phantom && !usesPool means c then 1 / 2 else c.a

theorem cvrAssort_score {useStyle : Bool} {cvrs : List Cvr} {means : Option Means}
    (hm : MeansFrom useStyle cvrs means) (c : Cvr) (hc : c ∈ aud useStyle cvrs) :
    cvrAssort means c = .ok (XR.fin (score useStyle cvrs means c)) := by
  obtain ⟨hcm, hcp⟩ := List.mem_filter.mp hc
  unfold score
  cases hup : usesPool means c
  · exact cvrAssort_own means c hup
  · cases hm with
    | unset => cases hup.symm.trans (Bool.and_false _)
    | set keys d hd =>
      have hpool : c.pool = true := (usesPool_some d c).symm.trans hup
      exact cvrAssort_pool d c hpool _ (poolMeans_lookup hd c hcm hcp hpool).2

theorem Aprime_eq (means : Option Means) (c : Cvr) :
    Aprime means c = if usesPool means c then c.a else ownScore c := by
  unfold Aprime ownScore
  cases c.phantom <;> cases usesPool means c <;> rfl

theorem aud_filter_usesPool (useStyle : Bool) (cvrs : List Cvr) (d : Means) :
    (aud useStyle cvrs).filter (fun c => decide (usesPool (some d) c = true)) = pooledAud useStyle cvrs := by
  unfold aud pooledAud
  rw [List.filter_filter]
  apply List.filter_congr
  intro c _
  rw [usesPool_some, Bool.decide_eq_true, Bool.and_comm]

/-- pooled cards contribute their pool mean, and the pool means sum back to the pool totals because each mean
is over exactly the pooled cards that pass the same filter -/
theorem sum_score {useStyle : Bool} {cvrs : List Cvr} {means : Option Means}
    (hm : MeansFrom useStyle cvrs means) :
    ((aud useStyle cvrs).map (score useStyle cvrs means)).sum = ((aud useStyle cvrs).map (Aprime means)).sum := by
  rw [funext (Aprime_eq means)]
  unfold score
  rw [List.sum_map_ite, List.sum_map_ite]
  congr 1
  cases hm with
  | unset =>
    have : ∀ l : List Cvr, l.filter (fun c => decide (usesPool none c = true)) = [] := fun l =>
      List.filter_eq_nil_iff.mpr fun c _ => by rw [usesPool, Option.isSome_none, Bool.and_false]; decide
    rw [this]
    rfl
  | set keys d hd =>
    rw [aud_filter_usesPool]
    apply group_sum (fun c : Cvr => c.tallyPool) (fun c => c.a)
      (fun p => tot (pooledAud useStyle cvrs) p / (cnt (pooledAud useStyle cvrs) p : Rat)) _ _ (Nat.le_refl _)
    intro c hc
    have hne : (cnt (pooledAud useStyle cvrs) c.tallyPool : Rat) ≠ 0 :=
      Nat.cast_ne_zero.mpr (Nat.ne_of_gt (cnt_pos hc))
    exact mul_div_cancel₀ _ hne

/-- **C03, sum of the CVR scores.**  Over the cards under audit the CVR scores used by the overstatement add up to
`Σ A'(C_i)` (`A'` is `Aprime`; the reason is at `sum_score`). -/
theorem cvr_assort_sum {useStyle : Bool} {cvrs : List Cvr} {means : Option Means}
    (hm : MeansFrom useStyle cvrs means) :
    ∃ s : Cvr → Rat,
      (∀ c ∈ aud useStyle cvrs, cvrAssort means c = .ok (XR.fin (s c))) ∧
      ((aud useStyle cvrs).map s).sum = ((aud useStyle cvrs).map (Aprime means)).sum :=
  ⟨score useStyle cvrs means, cvrAssort_score hm, sum_score hm⟩

/-! ### the sample handed to the test by `mvrs_to_data(use_all=True)` on the whole population -/

theorem contributes_all (useStyle : Bool) (threshold : Option Nat) (c : Cvr) :
    contributes useStyle true threshold c = .ok (passes useStyle c) := by
  unfold contributes passes
  cases useStyle <;> cases c.hasContest <;> rfl

theorem audPairs_snd (useStyle : Bool) (mvrs : List Mvr) (cvrs : List Cvr) (hlen : mvrs.length = cvrs.length) :
    (audPairs useStyle mvrs cvrs).map Prod.snd = aud useStyle cvrs := by
  unfold audPairs aud
  have : (fun p : Mvr × Cvr => passes useStyle p.2) = (passes useStyle) ∘ Prod.snd := rfl
  rw [this, ← List.filter_map, List.map_snd_zip (by omega)]

theorem sum_ovA {α : Type} (v u : Rat) (f g : α → Rat) (l : List α) :
    (l.map (fun p => ovA v u (f p) (g p))).sum
      = ((l.length : Rat) - ((l.map f).sum - (l.map g).sum) / u) / (2 - v / u) := by
  induction l with
  | nil => simp
  | cons a l ih =>
    simp only [List.map_cons, List.sum_cons, List.length_cons]
    rw [ih]
    unfold ovA
    push_cast
    ring

/-- the algebra of the reduction: `n` cards with CVR total `Sa` (so `v = 2·Sa/n − 1`) and MVR total `Sm` -/
theorem mean_ovA_identity {n Sa Sm u v : Rat} (hn : n ≠ 0) (hu : u ≠ 0) (hD : 2 * u - v ≠ 0)
    (hv : v = 2 * (Sa / n) - 1) :
    (n - (Sa - Sm) / u) / (2 - v / u) / n - 1 / 2 = (2 * (Sm / n) - 1) / (2 * (2 * u - v)) := by
  have hSa : Sa = (v + 1) * n / 2 := by rw [hv]; field_simp; ring
  have hd : 2 - v / u = (2 * u - v) / u := by field_simp
  rw [hSa, hd]
  field_simp
  ring

theorem le_half_iff {x y D : Rat} (hD : 0 < D) (h : x - 1 / 2 = (2 * y - 1) / (2 * D)) :
    x ≤ 1 / 2 ↔ y ≤ 1 / 2 := by
  rw [← sub_nonpos, h, div_le_iff₀ (mul_pos two_pos hD), zero_mul, sub_nonpos, le_div_iff₀' two_pos]

theorem comparison_core (useStyle : Bool) (u : Rat) (cvrs : List Cvr) (mvrs : List Mvr) (means : Option Means)
    (threshold : Option Nat)
    (hm : MeansFrom useStyle cvrs means)
    (hlen : mvrs.length = cvrs.length) (hu : 0 < u)
    (ha : ∀ c ∈ cvrs, c.a ≤ u)
    (hne : aud useStyle cvrs ≠ [])
    (hph : ∀ c ∈ aud useStyle cvrs, c.phantom = true → usesPool means c = false → c.a = 1 / 2) :
    ∃ (v : Rat) (B : List Rat),
      marginFromCvrs useStyle cvrs = XR.fin v ∧
      compData (XR.fin v) u useStyle true threshold means mvrs cvrs = .ok (B.map XR.fin) ∧
      B.length = (aud useStyle cvrs).length ∧
      (mvrA useStyle mvrs cvrs).length = (aud useStyle cvrs).length ∧
      v < 2 * u ∧
      B.sum / (B.length : Rat) - 1 / 2
        = (2 * ((mvrA useStyle mvrs cvrs).sum / ((mvrA useStyle mvrs cvrs).length : Rat)) - 1) / (2 * (2 * u - v)) := by
  set A := aud useStyle cvrs
  have hnpos : (0 : Rat) < A.length := Nat.cast_pos.mpr (List.length_pos_iff.mpr hne)
  set Sa : Rat := (A.map (fun c => c.a)).sum
  set v : Rat := 2 * (Sa / A.length) - 1
  -- the margin is at most `2u − 1` because the assorter mean is at most `u`
  have hmean : (A.map (fun c => c.a)).sum / ((A.map (fun c => c.a)).length : Rat) ≤ u :=
    mean_le (fun x hx => by obtain ⟨c, hc, rfl⟩ := List.mem_map.mp hx; exact ha c (List.mem_filter.mp hc).1)
      (mt List.map_eq_nil_iff.mp hne)
  rw [List.length_map] at hmean
  have hv : v < 2 * u := (sub_one_lt _).trans_le (mul_le_mul_of_nonneg_left hmean zero_le_two)
  have hune : u ≠ 0 := ne_of_gt hu
  have hden : 2 - v / u ≠ 0 := ne_of_gt (two_sub_div_pos hu hv)
  set P := audPairs useStyle mvrs cvrs
  have hPsnd : P.map Prod.snd = A := audPairs_snd useStyle mvrs cvrs hlen
  have hPlen : P.length = A.length := by rw [← hPsnd, List.length_map]
  refine ⟨v, P.map (fun p => ovA v u (score useStyle cvrs means p.2) (mvrAssort useStyle p.1)),
    marginFromCvrs_fin hne, ?_, by rw [List.length_map, hPlen], by rw [mvrA, List.length_map, hPlen], hv, ?_⟩
  · rw [compData_eq_mapM (XR.fin v) u useStyle true threshold means (passes useStyle) mvrs cvrs (Nat.le_of_eq hlen)
      (fun p _ => contributes_all useStyle threshold p.2), List.map_map]
    apply mapM_eq_map
    intro p hp
    have hp2 : p.2 ∈ A := hPsnd ▸ List.mem_map_of_mem (f := Prod.snd) hp
    exact overstatementAssorter_fin hune hden (passes_iff.mp (List.mem_filter.mp hp2).2) (cvrAssort_score hm p.2 hp2)
  · -- the scores of the CVRs under audit add up to `Sa`: a phantom outside a pool has `A = 1/2`
    have hscore : (P.map (fun p => score useStyle cvrs means p.2)).sum = Sa := by
      have : P.map (fun p => score useStyle cvrs means p.2) = A.map (score useStyle cvrs means) := by
        rw [← hPsnd, List.map_map]; rfl
      rw [this, sum_score hm]
      congr 1
      apply List.map_congr_left
      intro c hc
      unfold Aprime
      split
      · rename_i h
        rw [Bool.and_eq_true, Bool.not_eq_true'] at h
        exact (hph c hc h.1 h.2).symm
      · rfl
    rw [sum_ovA, hscore, List.length_map, mvrA, List.length_map, hPlen]
    exact mean_ovA_identity (ne_of_gt hnpos) hune (ne_of_gt (sub_pos.mpr hv)) rfl

/-- **C03.**  For every CVR list (phantoms, pooled or not, any pool labelling, any subset of cards pooled),
every list of manual records for the same cards (any discrepancies, missing contests, any subset unfindable),
style on or off, card comparison and ONEAudit alike, with the margin `v = 2·mean A(cvr) − 1`
(`set_margin_from_cvrs`) and the pool means (`set_tally_pool_means`) computed by the model from those CVRs
under the same filter:
the overstatement-assorter values `B` that `mvrs_to_data(use_all=True)` returns for the whole population
— one per card under audit — satisfy `mean B − 1/2 = (2·mean M − 1) / (2·(2u − v))`, where `M` (`mvrA`) is the
assorter applied to the manual records with a phantom counted 0 and, under style, a record lacking the contest
counted 0.  Hypothesis `hph`: a phantom CVR *outside* a pool has `A = 1/2` (it is a non-vote for every shipped
assorter once `make_phantoms` has listed the contest on it with no votes); a pooled phantom needs no hypothesis. -/
theorem overstatement_identity (ty : AuditType) (hty : ty = .cardComparison ∨ ty = .oneaudit)
    (useStyle : Bool) (u : Rat) (cvrs : List Cvr) (mvrs : List Mvr) (means : Option Means)
    (threshold : Option Nat)
    (hm : MeansFrom useStyle cvrs means)
    (hlen : mvrs.length = cvrs.length) (hu : 0 < u)
    (ha : ∀ c ∈ cvrs, c.a ≤ u)
    (hne : aud useStyle cvrs ≠ [])
    (hph : ∀ c ∈ aud useStyle cvrs, c.phantom = true → usesPool means c = false → c.a = 1 / 2) :
    ∃ (v : Rat) (B : List Rat),
      setMarginFromCvrs 1 useStyle ty u cvrs = .ok (XR.fin v, XR.fin (2 / (2 - v / u))) ∧
      mvrsToData ty useStyle true threshold (XR.fin v) u means mvrs cvrs
        = .ok (B.map XR.fin, XR.fin (2 / (2 - v / u))) ∧
      B.length = (aud useStyle cvrs).length ∧
      (mvrA useStyle mvrs cvrs).length = (aud useStyle cvrs).length ∧
      0 < 2 * u - v ∧
      B.sum / (B.length : Rat) - 1 / 2
        = (2 * ((mvrA useStyle mvrs cvrs).sum / ((mvrA useStyle mvrs cvrs).length : Rat)) - 1) / (2 * (2 * u - v)) := by
  obtain ⟨v, B, h1, h2, h3, h4, h5, h6⟩ := comparison_core useStyle u cvrs mvrs means threshold hm hlen hu ha hne hph
  have hU := testU_fin (ne_of_gt hu) (ne_of_gt (two_sub_div_pos hu h5))
  refine ⟨v, B, ?_, ?_, h3, h4, sub_pos.mpr h5, h6⟩
  · rw [setMarginFromCvrs_one, h1, testUFor_comparison hty, hU]
    rfl
  · rw [mvrsToData_comparison hty, h2, hU]
    rfl

/-- **C03, corollary.**  Under the hypotheses of `overstatement_identity`: the mean of the overstatement
assorter is at most 1/2 exactly when the mean of the assorter over the manual records is at most 1/2.  So
rejecting "mean(B) ≤ 1/2" is rejecting "the assertion is false". -/
theorem reject_equiv (ty : AuditType) (hty : ty = .cardComparison ∨ ty = .oneaudit)
    (useStyle : Bool) (u : Rat) (cvrs : List Cvr) (mvrs : List Mvr) (means : Option Means)
    (threshold : Option Nat)
    (hm : MeansFrom useStyle cvrs means)
    (hlen : mvrs.length = cvrs.length) (hu : 0 < u)
    (ha : ∀ c ∈ cvrs, c.a ≤ u)
    (hne : aud useStyle cvrs ≠ [])
    (hph : ∀ c ∈ aud useStyle cvrs, c.phantom = true → usesPool means c = false → c.a = 1 / 2) :
    ∃ (v : Rat) (B : List Rat),
      marginFromCvrs useStyle cvrs = XR.fin v ∧
      mvrsToData ty useStyle true threshold (XR.fin v) u means mvrs cvrs
        = .ok (B.map XR.fin, XR.fin (2 / (2 - v / u))) ∧
      (B.sum / (B.length : Rat) ≤ 1 / 2
        ↔ (mvrA useStyle mvrs cvrs).sum / ((mvrA useStyle mvrs cvrs).length : Rat) ≤ 1 / 2) := by
  obtain ⟨v, B, h1, h2, _, _, h5, h6⟩ := comparison_core useStyle u cvrs mvrs means threshold hm hlen hu ha hne hph
  refine ⟨v, B, h1, ?_, le_half_iff (sub_pos.mpr h5) h6⟩
  rw [mvrsToData_comparison hty, h2, testU_fin (ne_of_gt hu) (ne_of_gt (two_sub_div_pos hu h5))]
  rfl

/-! ### Non-vacuity: a concrete population satisfying every hypothesis, and the identity on it

Style on, five cards: a pooled card (A = 1), a pooled phantom (A = 1/2), an unpooled card (A = 0), a pooled card
that does not list the contest (not under audit), an unpooled phantom (A = 1/2).  Manual records: a
discrepancy, an unfindable card, a record lacking the contest, (unused), a vote for the winner. -/

def exCvrs : List Cvr :=
  [ { hasContest := true,  phantom := false, pool := true,  tallyPool := some "p1", a := 1,     sampleNum := 3 },
    { hasContest := true,  phantom := true,  pool := true,  tallyPool := some "p1", a := 1 / 2, sampleNum := 1 },
    { hasContest := true,  phantom := false, pool := false, tallyPool := none,      a := 0,     sampleNum := 4 },
    { hasContest := false, phantom := false, pool := true,  tallyPool := some "p1", a := 1 / 2, sampleNum := 2 },
    { hasContest := true,  phantom := true,  pool := false, tallyPool := none,      a := 1 / 2, sampleNum := 5 } ]

def exMvrs : List Mvr :=
  [ { hasContest := true,  phantom := false, a := 0 },
    { hasContest := false, phantom := true,  a := 1 / 2 },
    { hasContest := false, phantom := false, a := 1 / 2 },
    { hasContest := false, phantom := false, a := 1 / 2 },
    { hasContest := true,  phantom := false, a := 1 } ]

/-- the pool mean is over the two pooled cards that list the contest: (1 + 1/2)/2 -/
def exMeans : Means := [(some "p1", XR.fin (3 / 4))]

example : MeansFrom true exCvrs (some exMeans) := MeansFrom.set none exMeans (by decide +kernel)
example : exMvrs.length = exCvrs.length := rfl
example : ∀ c ∈ exCvrs, c.a ≤ 1 := by decide +kernel
example : aud true exCvrs ≠ [] := by decide +kernel
example : ∀ c ∈ aud true exCvrs, c.phantom = true → usesPool (some exMeans) c = false → c.a = 1 / 2 := by
  decide +kernel
-- margin 0; B = [1/8, 1/8, 1/2, 3/4]: mean B - 1/2 = -1/8 = (2 * (1/4) - 1) / (2 * (2 - 0))
example : setMarginFromCvrs 1 true .oneaudit 1 exCvrs = .ok (XR.fin 0, XR.fin 1) := by decide +kernel
example : mvrsToData .oneaudit true true none (XR.fin 0) 1 (some exMeans) exMvrs exCvrs
    = .ok ([1 / 8, 1 / 8, 1 / 2, 3 / 4].map XR.fin, XR.fin 1) := by decide +kernel
example : mvrA true exMvrs exCvrs = [0, 0, 0, 1] := by decide +kernel

/-- The hypothesis `hph` is not superfluous: a hand-made phantom CVR that carries a vote (`A = 1`) outside a
pool enters the margin with 1 but the overstatement with 1/2; here `v = 1`, `mean M = 1/2` (`mvrA`), so the right-hand
side is 0 while `mean B − 1/2 = 1/4`. -/
example :
    let cvrs : List Cvr := [ { hasContest := true, phantom := false, pool := false, tallyPool := none, a := 1, sampleNum := 1 },
                             { hasContest := true, phantom := true,  pool := false, tallyPool := none, a := 1, sampleNum := 2 } ]
    let mvrs : List Mvr := [ { hasContest := true, phantom := false, a := 1 }, { hasContest := false, phantom := true, a := 1 / 2 } ]
    marginFromCvrs true cvrs = XR.fin 1 ∧
    mvrsToData .cardComparison true true none (XR.fin 1) 1 none mvrs cvrs = .ok ([1, 1 / 2].map XR.fin, XR.fin 2) ∧
    mvrA true mvrs cvrs = [1, 0] := by decide +kernel

end Shangrla.C03
