/-
  C06 — data handed to a test always lie inside the bound the test is told.

  Theorems are about `Shangrla.Overstatement.mvrsToData`, `setPValuesU`, `testUFor`, `setMarginFromCvrs`,
  the literal model of `Assertion.mvrs_to_data`, of the `u` that
  `Assertion.set_p_values` / `set_margin_from_cvrs` / `set_all_margins_from_cvrs` install in the test.
  The raw assorter is a parameter: the theorems hold for EVERY assignment of assorter values in `[0,u]`
  (`u` = the assorter's `upper_bound`).

  Guards (the raising inputs are not data handed to a test; they are part of the correspondence):
  `sample_threshold = None` compared under style ⇒ `TypeError`; a pool label missing from the dict ⇒ `KeyError`;
  fewer CVRs than MVRs ⇒ `IndexError`; unsupported audit type ⇒ `NotImplementedError`.
-/
import Shangrla.Lemmas.Overstatement

namespace Shangrla.C06
open Shangrla Shangrla.Overstatement

/-- **C06, polling.**  For polling audits the data are the assorter values of the manual records and the
bound returned with them is the assorter's own bound: every entry lies in `[0,u]`. -/
theorem data_in_bound_polling (useStyle useAll : Bool) (threshold : Option Nat) (margin : XR) (u : Rat)
    (means : Option Means) (mvrs : List Mvr) (cvrs : List Cvr)
    (hm : ∀ m ∈ mvrs, 0 ≤ m.a ∧ m.a ≤ u) :
    ∃ d : List Rat,
      mvrsToData .polling useStyle useAll threshold margin u means mvrs cvrs = .ok (d.map XR.fin, XR.fin u) ∧
      ∀ x ∈ d, 0 ≤ x ∧ x ≤ u := by
  refine ⟨mvrs.map (fun m => m.a), by rw [List.map_map]; rfl, ?_⟩
  intro x hx
  obtain ⟨m, hm', rfl⟩ := List.mem_map.mp hx
  exact hm m hm'

/-- the hypothesis on the dict of pool means: the mean found for a pooled sampled card that passes the style
filter is a number in `[0,u]` -/
def MeansInBound (useStyle : Bool) (u : Rat) (means : Option Means) (cvrs : List Cvr) : Prop :=
  ∀ d, means = some d → ∀ c ∈ cvrs, c.pool = true → passes useStyle c = true →
    ∀ x, d.lookup c.tallyPool = some x → ∃ q, x = XR.fin q ∧ 0 ≤ q ∧ q ≤ u

theorem ovA_range {v u ca ma : Rat} (hu : 0 < u) (hv : v < 2 * u) (hca : 0 ≤ ca ∧ ca ≤ u) (hma : 0 ≤ ma ∧ ma ≤ u) :
    0 ≤ ovA v u ca ma ∧ ovA v u ca ma ≤ 2 / (2 - v / u) := by
  have hD := two_sub_div_pos hu hv
  -- the extremes are a CVR scored `u` with an MVR scored 0, and the reverse
  have h0 : ovA v u u 0 = 0 := by rw [ovA, sub_zero, div_self hu.ne', sub_self, zero_div]
  have h2 : ovA v u 0 u = 2 / (2 - v / u) := by
    rw [ovA, zero_sub, neg_div, div_self hu.ne', sub_neg_eq_add, one_add_one_eq_two]
  exact ⟨h0 ▸ ovA_mono hu hD hca.2 hma.1, h2 ▸ ovA_mono hu hD hca.1 hma.2⟩

theorem mvrAssort_range (useStyle : Bool) (m : Mvr) (u : Rat) (hu : 0 < u) (hm : 0 ≤ m.a ∧ m.a ≤ u) :
    0 ≤ mvrAssort useStyle m ∧ mvrAssort useStyle m ≤ u := by
  unfold mvrAssort
  split
  · exact ⟨le_refl _, le_of_lt hu⟩
  · exact hm

theorem pair_in_bound {v u : Rat} {useStyle : Bool} {means : Option Means} {m : Mvr} {c : Cvr} {b : XR}
    (hu : 0 < u) (hhalf : 1 / 2 ≤ u) (hv : v < 2 * u)
    (hc : 0 ≤ c.a ∧ c.a ≤ u) (hm : 0 ≤ m.a ∧ m.a ≤ u)
    (hmeans : ∀ d, means = some d → c.pool = true → passes useStyle c = true →
        ∀ x, d.lookup c.tallyPool = some x → ∃ q, x = XR.fin q ∧ 0 ≤ q ∧ q ≤ u)
    (h : overstatementAssorter (XR.fin v) u useStyle means m c = .ok b) :
    ∃ q, b = XR.fin q ∧ 0 ≤ q ∧ q ≤ 2 / (2 - v / u) := by
  obtain ⟨hpass, x, hx⟩ := overstatementAssorter_ok h
  have hca : ∃ ca, x = XR.fin ca ∧ 0 ≤ ca ∧ ca ≤ u := by
    cases hup : usesPool means c
    · rw [cvrAssort_own means c hup] at hx
      cases hx
      refine ⟨_, rfl, ?_⟩
      unfold ownScore
      split
      · exact ⟨by norm_num, hhalf⟩
      · exact hc
    · rw [usesPool, Bool.and_eq_true, Option.isSome_iff_exists] at hup
      obtain ⟨hpool, d, rfl⟩ := hup
      cases hl : d.lookup c.tallyPool with
      | none => rw [cvrAssort_pool_missing d c hpool hl] at hx; cases hx
      | some y =>
        rw [cvrAssort_pool d c hpool y hl] at hx
        cases hx
        exact hmeans d rfl hpool hpass x hl
  obtain ⟨ca, rfl, hca⟩ := hca
  rw [overstatementAssorter_fin hu.ne' (two_sub_div_pos hu hv).ne' (passes_iff.mp hpass) hx] at h
  cases h
  exact ⟨_, rfl, ovA_range hu hv hca (mvrAssort_range useStyle m u hu hm)⟩

/-- **C06, comparison audits (card comparison and ONEAudit).**  For every sample of (MVR, CVR) pairs, style on or
off, `use_all` or not, any threshold, every margin `v < 2·u` (in particular every assorter margin, which is at most
`2u − 1`, and all positive margins), all assorter values in `[0,u]`, and pool means in `[0,u]`: whenever
`mvrs_to_data` returns `(d, U)`, `U = 2/(2 − v/u)` and every entry of `d` is a number in `[0, U]`.
`1/2 ≤ u` (true of every assorter whose assertion can hold at all: plurality and IRV have `u = 1`, super-majority
`u = 1/(2·share)` with `share ≤ 1`) is needed because a phantom CVR is scored 1/2 whatever `u` is. -/
theorem data_in_bound_comparison (ty : AuditType) (hty : ty = .cardComparison ∨ ty = .oneaudit)
    (useStyle useAll : Bool) (threshold : Option Nat) (v u : Rat) (means : Option Means)
    (mvrs : List Mvr) (cvrs : List Cvr)
    (hu : 0 < u) (hhalf : 1 / 2 ≤ u) (hv : v < 2 * u)
    (hc : ∀ c ∈ cvrs, 0 ≤ c.a ∧ c.a ≤ u) (hm : ∀ m ∈ mvrs, 0 ≤ m.a ∧ m.a ≤ u)
    (hmeans : MeansInBound useStyle u means cvrs)
    (dx : List XR) (U : XR)
    (h : mvrsToData ty useStyle useAll threshold (XR.fin v) u means mvrs cvrs = .ok (dx, U)) :
    U = XR.fin (2 / (2 - v / u)) ∧
    ∃ d : List Rat, dx = d.map XR.fin ∧ ∀ x ∈ d, 0 ≤ x ∧ x ≤ 2 / (2 - v / u) := by
  rw [mvrsToData_comparison hty] at h
  obtain ⟨d0, hd0, h⟩ := map_eq_ok.mp h
  cases h
  refine ⟨testU_fin hu.ne' (two_sub_div_pos hu hv).ne', exists_map_fin dx fun b hb => ?_⟩
  obtain ⟨p, hp, hb⟩ := compData_mem mvrs cvrs hd0 b hb
  have hp' := List.of_mem_zip hp
  exact pair_in_bound hu hhalf hv (hc _ hp'.2) (hm _ hp'.1) (fun d hd => hmeans d hd p.2 hp'.2) hb

theorem meansInBound_of_poolMeans {useStyle : Bool} {u : Rat} {pop sample : List Cvr} {means : Option Means}
    (hm : MeansFrom useStyle pop means) (hsub : ∀ c ∈ sample, c ∈ pop)
    (hpop : ∀ c ∈ pop, 0 ≤ c.a ∧ c.a ≤ u) :
    MeansInBound useStyle u means sample := by
  intro d hd c hc hpool hpass x hx
  cases hm with
  | unset => cases hd
  | set keys d' hd' =>
    cases hd
    obtain ⟨hcnt, hl⟩ := poolMeans_lookup hd' c (hsub c hc) hpass hpool
    rw [hl] at hx
    cases hx
    refine ⟨_, rfl, ?_⟩
    -- `tot/cnt` is the mean of the assorter over the cards of the pool, a non-empty list of values in `[0,u]`
    unfold cnt at hcnt
    unfold tot cnt
    rw [← List.length_map (fun c : Cvr => c.a)] at hcnt ⊢
    have hin : ∀ x ∈ ((pooledAud useStyle pop).filter (fun c' => decide (c'.tallyPool = c.tallyPool))).map
        (fun c => c.a), 0 ≤ x ∧ x ≤ u := by
      intro x hx
      obtain ⟨c', hc', rfl⟩ := List.mem_map.mp hx
      exact hpop c' (List.mem_filter.mp (List.mem_filter.mp hc').1).1
    exact ⟨mean_nonneg fun x hx => (hin x hx).1,
      mean_le (fun x hx => (hin x hx).2) (List.ne_nil_of_length_pos hcnt)⟩

/-- **C06, ONEAudit end to end.**  With the pool means computed by `set_tally_pool_means` from the CVR list `pop`
(assorter values in `[0,u]`) and any sample of cards of `pop`: the data lie in `[0, 2/(2 − v/u)]`. -/
theorem data_in_bound_oneaudit (ty : AuditType) (hty : ty = .cardComparison ∨ ty = .oneaudit)
    (useStyle useAll : Bool) (threshold : Option Nat) (v u : Rat) (means : Option Means)
    (pop : List Cvr) (mvrs : List Mvr) (cvrs : List Cvr)
    (hu : 0 < u) (hhalf : 1 / 2 ≤ u) (hv : v < 2 * u)
    (hmf : MeansFrom useStyle pop means) (hsub : ∀ c ∈ cvrs, c ∈ pop)
    (hpop : ∀ c ∈ pop, 0 ≤ c.a ∧ c.a ≤ u) (hm : ∀ m ∈ mvrs, 0 ≤ m.a ∧ m.a ≤ u)
    (dx : List XR) (U : XR)
    (h : mvrsToData ty useStyle useAll threshold (XR.fin v) u means mvrs cvrs = .ok (dx, U)) :
    U = XR.fin (2 / (2 - v / u)) ∧
    ∃ d : List Rat, dx = d.map XR.fin ∧ ∀ x ∈ d, 0 ≤ x ∧ x ≤ 2 / (2 - v / u) :=
  data_in_bound_comparison ty hty useStyle useAll threshold v u means mvrs cvrs hu hhalf hv
    (fun c hc => hpop c (hsub c hc)) hm (meansInBound_of_poolMeans hmf hsub hpop) dx U h

/-- the condition of `mvrs_to_data`'s comprehension when no `None` is compared -/
def keeps (useStyle useAll : Bool) (t : Nat) (c : Cvr) : Bool :=
  !useStyle || (c.hasContest && (useAll || decide (c.sampleNum ≤ t)))

theorem contributes_some (useStyle useAll : Bool) (t : Nat) (c : Cvr) :
    contributes useStyle useAll (some t) c = .ok (keeps useStyle useAll t c) := by
  unfold contributes keeps
  cases useStyle <;> cases c.hasContest <;> cases useAll <;> rfl

theorem filter_general (ty : AuditType) (hty : ty = .cardComparison ∨ ty = .oneaudit) (useStyle useAll : Bool)
    (t : Nat) (margin : XR) (u : Rat) (means : Option Means) (mvrs : List Mvr) (cvrs : List Cvr)
    (hlen : mvrs.length ≤ cvrs.length) :
    mvrsToData ty useStyle useAll (some t) margin u means mvrs cvrs
      = (((mvrs.zip cvrs).filter (fun p => keeps useStyle useAll t p.2)).mapM
            (fun p => overstatementAssorter margin u useStyle means p.1 p.2)).map
          (fun d => (d, (2 : XR) / (2 - margin / XR.fin u))) := by
  rw [mvrsToData_comparison hty, compData_eq_mapM margin u useStyle useAll (some t) means (keeps useStyle useAll t)
    mvrs cvrs hlen (fun p _ => contributes_some useStyle useAll t p.2)]

/-- **C06, style filter.**  In a comparison audit under style-based sampling (threshold `t`), the data are the
overstatement-assorter values of exactly the pairs whose CVR lists the contest and whose sample number is `≤ t`,
in sample order: zip the samples, keep those pairs, apply `overstatement_assorter` to each. -/
theorem style_filter (ty : AuditType) (hty : ty = .cardComparison ∨ ty = .oneaudit) (t : Nat) (margin : XR)
    (u : Rat) (means : Option Means) (mvrs : List Mvr) (cvrs : List Cvr) (hlen : mvrs.length ≤ cvrs.length) :
    mvrsToData ty true false (some t) margin u means mvrs cvrs
      = (((mvrs.zip cvrs).filter (fun p => p.2.hasContest && decide (p.2.sampleNum ≤ t))).mapM
            (fun p => overstatementAssorter margin u true means p.1 p.2)).map
          (fun d => (d, (2 : XR) / (2 - margin / XR.fin u))) :=
  -- `keeps true false t c` reduces to `c.hasContest && decide (c.sampleNum ≤ t)`
  filter_general ty hty true false t margin u means mvrs cvrs hlen

/-- a contributing pair under style never raises `ValueError` (its CVR lists the contest) -/
theorem style_filter_no_valueError (t : Nat) (useAll : Bool) (c : Cvr) (h : keeps true useAll t c = true) :
    (true && !c.hasContest) = false := by
  cases hc : c.hasContest
  · rw [keeps, hc] at h
    cases h
  · rfl

/-- the guard (finding F20 of DESIGN.md §6):
with `sample_threshold = None`, style on and `use_all = False`, the first sampled
CVR that lists the contest makes `mvrs_to_data` raise `TypeError` — no data are handed to the test -/
theorem none_threshold_raises (margin : XR) (u : Rat) (means : Option Means) (m : Mvr) (ms : List Mvr)
    (c : Cvr) (cs : List Cvr) (hc : c.hasContest = true) :
    compData margin u true false none means (m :: ms) (c :: cs) = .error Err.TypeError := by
  simp [compData, contributes, hc, bind, Except.bind]

/-- **C06, the bound installed in the test.**  `set_p_values` installs exactly the `u` that `mvrs_to_data`
returned with the data (and installs nothing when `mvrs_to_data` raises); that `u` is the assorter's own bound
for polling and `2/(2 − v/u_assorter)` for comparison audits — the same value `set_margin_from_cvrs` and
`set_all_margins_from_cvrs` install (`testUFor`). -/
theorem installed_u (ty : AuditType) (useStyle : Bool) (threshold : Option Nat) (margin : XR) (u : Rat)
    (means : Option Means) (mvrs : List Mvr) (cvrs : List Cvr) :
    (∀ dx U, mvrsToData ty useStyle false threshold margin u means mvrs cvrs = .ok (dx, U) →
        setPValuesU ty useStyle threshold margin u means mvrs cvrs = .ok U ∧ testUFor ty margin u = .ok U) ∧
    (∀ e, mvrsToData ty useStyle false threshold margin u means mvrs cvrs = .error e →
        setPValuesU ty useStyle threshold margin u means mvrs cvrs = .error e) := by
  constructor
  · intro dx U h
    refine ⟨by rw [setPValuesU, h]; rfl, ?_⟩
    cases ty with
    | polling => cases h; rfl
    | other => cases h
    | cardComparison | oneaudit =>
      obtain ⟨d, _, h⟩ := bind_eq_ok h
      cases h
      rfl
  · intro e h
    rw [setPValuesU, h]
    rfl

theorem installed_u_value (v u : Rat) (hu : 0 < u) (hv : v < 2 * u) :
    testUFor .polling (XR.fin v) u = .ok (XR.fin u) ∧
    testUFor .cardComparison (XR.fin v) u = .ok (XR.fin (2 / (2 - v / u))) ∧
    testUFor .oneaudit (XR.fin v) u = .ok (XR.fin (2 / (2 - v / u))) ∧
    (∀ nStrata useStyle cvrs ty margin U, setMarginFromCvrs nStrata useStyle ty u cvrs = .ok (margin, U) →
        testUFor ty margin u = .ok U) := by
  have hU := testU_fin (v := v) hu.ne' (two_sub_div_pos hu hv).ne'
  exact ⟨rfl, congrArg _ hU, congrArg _ hU, fun _ _ _ _ _ _ h => (setMarginFromCvrs_ok h).2⟩

theorem installed_u_all (nStrata : Nat) (useStyle : Bool) (ty : AuditType) (u : Rat) (cvrs : List Cvr)
    (margin U mn : XR) (h : setAllMarginsFromCvrs nStrata useStyle ty u cvrs = .ok (margin, U, mn)) :
    testUFor ty margin u = .ok U ∧ margin = marginFromCvrs useStyle cvrs := by
  obtain ⟨⟨m0, u0⟩, hmu, h⟩ := bind_eq_ok h
  obtain ⟨u1, hu1, h⟩ := bind_eq_ok h
  cases h
  exact ⟨hu1, (setMarginFromCvrs_ok hmu).1⟩

/-! ### Non-vacuity: a ONEAudit sample (a pooled card, a phantom, a card lacking the contest, an unpooled card)
meeting `MeansInBound`, and what the model hands to the test on it -/

def exCvrs : List Cvr :=
  [ { hasContest := true,  phantom := false, pool := true,  tallyPool := some "p1", a := 1,     sampleNum := 3 },
    { hasContest := true,  phantom := true,  pool := false, tallyPool := none,      a := 1 / 2, sampleNum := 9 },
    { hasContest := false, phantom := false, pool := false, tallyPool := none,      a := 1 / 2, sampleNum := 1 },
    { hasContest := true,  phantom := false, pool := false, tallyPool := none,      a := 0,     sampleNum := 5 } ]

def exMvrs : List Mvr :=
  [ { hasContest := true,  phantom := false, a := 0 },
    { hasContest := false, phantom := true,  a := 1 / 2 },
    { hasContest := true,  phantom := false, a := 1 },
    { hasContest := true,  phantom := false, a := 1 } ]

def exMeans : Means := [(some "p1", XR.fin (3 / 4))]

example : MeansInBound true 1 (some exMeans) exCvrs := by
  intro d hd c hc hpool _ x hx
  cases hd
  have : ∀ c ∈ exCvrs, c.pool = true → exMeans.lookup c.tallyPool = some (XR.fin (3 / 4)) := by decide +kernel
  rw [this c hc hpool] at hx
  exact ⟨3 / 4, (Option.some.inj hx).symm, by norm_num, by norm_num⟩
-- threshold 5, margin 1/5: the cards with sample numbers 3 and 5 that list the contest contribute, in order;
-- the extremes 0 and 2/(2 - v/u) = 10/9 are attained up to the pool mean: [(1 - 3/4)/(9/5), (1 + 1)/(9/5)]
example : mvrsToData .oneaudit true false (some 5) (XR.fin (1 / 5)) 1 (some exMeans) exMvrs exCvrs
    = .ok ([5 / 36, 10 / 9].map XR.fin, XR.fin (10 / 9)) := by decide +kernel
example : setPValuesU .oneaudit true (some 5) (XR.fin (1 / 5)) 1 (some exMeans) exMvrs exCvrs = .ok (XR.fin (10 / 9)) := by
  decide +kernel
example : mvrsToData .polling true false none XR.nan 1 none exMvrs exCvrs
    = .ok ([0, 1 / 2, 1, 1].map XR.fin, XR.fin 1) := by decide +kernel

end Shangrla.C06
