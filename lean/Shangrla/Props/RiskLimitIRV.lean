/-
  C04 ∘ C14 ∘ C09 ∘ C01 for an instant-runoff (IRV) contest audited by ballot polling with RAIRE assertions.

  If the reported IRV winner is wrong — some possible IRV count of the ballots actually cast ends in another
  candidate — then at least one assertion of every `Sufficient` set (in particular of the set the modelled
  RAIRE search returns, C04) is false on the true ballots (§1, social-choice lemma of `RaireSocial`), the
  audit-side assorter of that assertion (`make_assertions_from_json`, C14) therefore averages at most 1/2 over
  the cards (§2 bridge between the two models of the generator's predicates, §3 null), and by
  `RiskLimit.audit_risk_limit_run` the audit is ever reported complete (C09) with probability at most the
  contest's risk limit (C01), whatever the other assertions and contests are (§4).
-/
import Shangrla.Props.RiskLimit
import Shangrla.Props.C04
import Shangrla.Props.C14

namespace Shangrla.RiskLimit
open Shangrla Shangrla.Ville Shangrla.Status Shangrla.AuditLoop
open Shangrla.Raire.Spec

/-! ### 1. a wrong IRV outcome makes some assertion of a sufficient set false on the true ballots -/

section Spec
variable {α : Type} [DecidableEq α] {D : Type}

/-- **Wrong outcome ⇒ false assertion.**  `S` excludes every elimination order of `cands` that ends in a
candidate other than `winner` (`Sufficient`); `mvrs` are the ballots actually cast (`none` = the card lacks the
contest), all well-formed; `π` is a possible IRV count of them (ties broken any way) that ends in a candidate
other than `winner`.  Then some `a ∈ S` is false on the true ballots: the tally it attributes to its winner
does not exceed the tally it attributes to its loser. -/
theorem irv_wrong_outcome_false_assertion (cands : List α) (hcands : cands.Nodup) (winner : α)
    (S : List (Raire.Assertion α D)) (hS : Sufficient cands winner S)
    (mvrs : List (Option (Raire.Ballot α))) (hwf : ∀ b ∈ mvrs.filterMap id, BallotWF b)
    (π : List α) (hπ : Alt cands winner π) (hv : validIRV (mvrs.filterMap id) π) :
    ∃ a ∈ S, (tallies mvrs a.kind a.winner a.loser a.eliminated).1
        ≤ (tallies mvrs a.kind a.winner a.loser a.eliminated).2 := by
  obtain ⟨a, ha, hc⟩ := hS π hπ
  exact ⟨a, ha, Raire.valid_not_contradicted mvrs hwf π (hπ.1.nodup_iff.2 hcands) hv
    a.kind a.winner a.loser a.eliminated hc⟩

/-- the same for the assertions the modelled RAIRE search returns from the reported cvrs `cvrs` (any
difficulty function, any fuel, result non-empty); `mvrs` are the true ballots -/
theorem raire_wrong_outcome_false_assertion [Raire.DiffOrd D] [Raire.DiffOrd.Lawful D]
    (asn : Nat → Nat → Nat → Nat → D) (C : Raire.Contest α) (cvrs : List (Option (Raire.Ballot α)))
    (winner : α) (hC : C.candidates.Nodup) (hn : 2 ≤ C.candidates.length) (fuel : Nat)
    (as : List (Raire.Assertion α D))
    (h : Raire.computeRaireAssertions asn C cvrs winner fuel = Raire.Res.ok as) (hne : as ≠ [])
    (mvrs : List (Option (Raire.Ballot α))) (hwf : ∀ b ∈ mvrs.filterMap id, BallotWF b)
    (π : List α) (hπ : Alt C.candidates winner π) (hv : validIRV (mvrs.filterMap id) π) :
    ∃ a ∈ as, (tallies mvrs a.kind a.winner a.loser a.eliminated).1
        ≤ (tallies mvrs a.kind a.winner a.loser a.eliminated).2 :=
  irv_wrong_outcome_false_assertion C.candidates hC winner as
    (C04.raire_sufficient asn C cvrs winner hC hn fuel as h hne) mvrs hwf π hπ hv

end Spec

/-! ### 2. the two models of the generator-side predicates agree

`Model/Raire.lean` (`Raire.ranking`, `voteForCand`, `nebVoteW`, `nebVoteL`, `tally`: `Nat`-valued, `Option Nat`
for the rank, `none` for a card without the contest) and `Model/IrvBallot.lean` (`IrvBallot.ranking`,
`voteForCand`, `nebWinner`, `nebLoser`, `nenWinner`, `nenLoser`: `Int`-valued, rank `-1`, the card a dict
`contest ↦ ballot`) model the same functions of raire_utils.py.  Both represent a ballot as the same type
`List (α × Nat)` (the dict `{candidate: 0-based index}` in insertion order), so the bridge is an equality for
every such list, not only for `genEnc r`: the card `cvr` of the IrvBallot model corresponds to the entry
`dget cvr cid : Option (Ballot α)` of the Raire model. -/

section Bridge
open Shangrla.IrvBallot
variable {κ α : Type} [DecidableEq κ] [DecidableEq α]

theorem lookup_eq_dget {ν : Type} (b : List (α × ν)) (c : α) : b.lookup c = dget b c := by
  induction b with
  | nil => rfl
  | cons p b ih =>
    rw [List.lookup_cons, dget, ← ih]
    by_cases h : p.1 = c
    · rw [if_pos h, h, beq_self_eq_true]
    · rw [if_neg h, beq_false_of_ne (Ne.symm h)]

/-- `ranking`: `none` ↔ `-1` -/
theorem ranking_bridge (c : α) (b : List (α × Nat)) :
    IrvBallot.ranking c b = match Raire.ranking c b with
      | none => -1
      | some k => (k : Int) := by
  unfold IrvBallot.ranking Raire.ranking
  rw [lookup_eq_dget]
  cases dget b c <;> rfl

/-- a rank that is there is not the `-1` of an unranked candidate -/
theorem natCast_beq_neg_one (k : Nat) : ((k : Int) == -1) = false :=
  beq_false_of_ne (by omega)

theorem voteForCand_bridge (c : α) (E : List α) (b : List (α × Nat)) :
    ((Raire.voteForCand c E b : Nat) : Int) = IrvBallot.voteForCand c E b := by
  unfold Raire.voteForCand IrvBallot.voteForCand
  rw [ranking_bridge]
  cases E.contains c
  · cases Raire.ranking c b with
    | none => rfl
    | some ci =>
      simp only [Bool.false_eq_true, if_false, natCast_beq_neg_one, bne, Int.ofNat_lt]
      split <;> rfl
  · rfl

theorem nebVoteW_bridge (cid : κ) (w : α) (cvr : GCvr κ α) :
    ((Raire.nebVoteW w (dget cvr cid) : Nat) : Int) = nebWinner cid w cvr := by
  unfold nebWinner
  cases dget cvr cid with
  | none => rfl
  | some b =>
    simp only [Raire.nebVoteW, ranking_bridge]
    cases Raire.ranking w b with
    | none => rfl
    | some k =>
      simp only [Option.some.injEq, beq_iff_eq, Int.natCast_eq_zero]
      split <;> rfl

theorem nebVoteL_bridge (cid : κ) (w l : α) (cvr : GCvr κ α) :
    ((Raire.nebVoteL w l (dget cvr cid) : Nat) : Int) = nebLoser cid w l cvr := by
  unfold nebLoser
  cases dget cvr cid with
  | none => rfl
  | some b =>
    simp only [Raire.nebVoteL, ranking_bridge]
    cases Raire.ranking l b with
    | none => rfl
    | some li =>
      cases Raire.ranking w b with
      | none => rfl
      | some wi =>
        simp only [bne, natCast_beq_neg_one, Bool.not_false, Bool.true_and, Bool.false_or, Int.ofNat_lt,
          decide_eq_true_eq]
        split <;> rfl

/-- the NEN verdict of a card, written with the Raire model's `voteForCand` -/
def nenVote (c : α) (E : List α) : Option (Raire.Ballot α) → Nat
  | none => 0
  | some b => Raire.voteForCand c E b

theorem nenVoteW_bridge (cid : κ) (w : α) (E : List α) (cvr : GCvr κ α) :
    ((nenVote w E (dget cvr cid) : Nat) : Int) = nenWinner cid w E cvr := by
  unfold nenWinner
  cases dget cvr cid with
  | none => rfl
  | some b => exact voteForCand_bridge w E b

theorem nenVoteL_bridge (cid : κ) (l : α) (E : List α) (cvr : GCvr κ α) :
    ((nenVote l E (dget cvr cid) : Nat) : Int) = nenLoser cid l E cvr := by
  unfold nenLoser
  cases dget cvr cid with
  | none => rfl
  | some b => exact voteForCand_bridge l E b

/-- the ballots of contest `cid` on the cards, as the Raire model (and `Raire.Spec.tallies`) takes them -/
def trueBallots {β : Type} (cid : κ) (ps : List (β × GCvr κ α)) : List (Option (Raire.Ballot α)) :=
  ps.map (fun p => dget p.2 cid)

/-- The two tallies `Raire.Spec.tallies` recomputes for an NEB / NEN comparison from the ballots on the cards are the
sums of the IrvBallot model's `is_vote_for_winner` / `is_vote_for_loser` verdicts over the cards. -/
theorem tallies_bridge {β : Type} (cid : κ) (ps : List (β × GCvr κ α)) (w l : α) (E : List α) :
    (((tallies (trueBallots cid ps) .neb w l E).1 : Nat) : Int) = (ps.map (fun p => nebWinner cid w p.2)).sum ∧
    (((tallies (trueBallots cid ps) .neb w l E).2 : Nat) : Int) = (ps.map (fun p => nebLoser cid w l p.2)).sum ∧
    (((tallies (trueBallots cid ps) .nen w l E).1 : Nat) : Int) = (ps.map (fun p => nenWinner cid w E p.2)).sum ∧
    (((tallies (trueBallots cid ps) .nen w l E).2 : Nat) : Int) = (ps.map (fun p => nenLoser cid l E p.2)).sum := by
  have hnen : ∀ c, Raire.tally ((trueBallots cid ps).filterMap id) c E
      = ((trueBallots cid ps).map (nenVote c E)).sum := by
    intro c
    rw [Raire.sum_cvrs_eq _ (nenVote c E) rfl]
    rfl
  refine ⟨?_, ?_, ?_, ?_⟩
  · simp only [tallies, trueBallots, List.map_map]
    exact cast_sum_map ps _ _ (fun p _ => nebVoteW_bridge cid w p.2)
  · simp only [tallies, trueBallots, List.map_map]
    exact cast_sum_map ps _ _ (fun p _ => nebVoteL_bridge cid w l p.2)
  · simp only [tallies, hnen]
    simp only [trueBallots, List.map_map]
    exact cast_sum_map ps _ _ (fun p _ => nenVoteW_bridge cid w E p.2)
  · simp only [tallies, hnen]
    simp only [trueBallots, List.map_map]
    exact cast_sum_map ps _ _ (fun p _ => nenVoteL_bridge cid l E p.2)

/-- the generator-side ballot of an aligned card (C14: the same finite map as `{c ↦ k}` for a duplicate-free
ranking) is well-formed in the sense of `RaireSpec`: no candidate twice, no position twice -/
theorem aligned_wf {cid : κ} {cands : List α} {p : Votes κ α × GCvr κ α} (h : C14.Aligned cid cands p)
    {b : Raire.Ballot α} (hb : dget p.2 cid = some b) : BallotWF b := by
  rcases h with ⟨_, h⟩ | ⟨r, g, hnd, _, _, hg, h1, h2, h3⟩
  · rw [h] at hb; cases hb
  · obtain rfl : g = b := Option.some.inj (hg.symm.trans hb)
    -- `g` is a rearrangement of `genEnc r`, whose positions are `0, 1, …`
    have hperm : List.Perm g (genEnc r) :=
      (List.perm_ext_iff_of_nodup (C14.nodup_of_keys_nodup h1) (C14.nodup_of_keys_nodup h2)).2 h3
    refine ⟨h1, (hperm.map (·.2)).nodup_iff.2 ?_⟩
    rw [genEnc, C14.encFrom_eq_zipIdx, List.zipIdx_map_snd]
    exact List.nodup_range'

theorem trueBallots_wf {cid : κ} {cands : List α} {ps : List (Votes κ α × GCvr κ α)}
    (h : ∀ p ∈ ps, C14.Aligned cid cands p) : ∀ b ∈ (trueBallots cid ps).filterMap id, BallotWF b := by
  intro b hb
  simp only [trueBallots, List.mem_filterMap, List.mem_map, id] at hb
  obtain ⟨o, ⟨p, hp, rfl⟩, ho⟩ := hb
  exact aligned_wf (h p hp) ho

end Bridge

/-! ### 3. a failed tally comparison makes the audit-side assorter average at most 1/2 -/

section Null
open Shangrla.IrvBallot
variable {κ α : Type} [DecidableEq κ] [DecidableEq α]

theorem half_range {W L : Int} (hW : W = 0 ∨ W = 1) (hL : L = 0 ∨ L = 1) :
    0 ≤ ((W - L + 1 : Int) : ℚ) / 2 ∧ ((W - L + 1 : Int) : ℚ) / 2 ≤ 1 := by
  rcases hW with rfl | rfl <;> rcases hL with rfl | rfl <;> decide +kernel

theorem nebAssort_range (votes : Votes κ α) (cid : κ) (w l : α) :
    0 ≤ nebAssort votes cid w l ∧ nebAssort votes cid w l ≤ 1 := by
  refine half_range ?_ ?_
  · unfold nebWinnerFunc
    split
    · exact Or.inr rfl
    · exact Or.inl rfl
  · unfold nebLoserFunc rcvLfuncWo
    dsimp only
    split
    · exact Or.inr rfl
    · split
      · exact Or.inr rfl
      · exact Or.inl rfl

theorem nenAssort_range (votes : Votes κ α) (cid : κ) (w l : α) (remn : List α) :
    0 ≤ nenAssort votes cid w l remn ∧ nenAssort votes cid w l remn ≤ 1 :=
  half_range (C14.rcvVoteforCand_zero_or_one votes cid w remn) (C14.rcvVoteforCand_zero_or_one votes cid l remn)

theorem sum_of_tally {π : Type} (ps : List π) (assort : π → ℚ) (gw gl : π → Int)
    (h1 : ∀ p ∈ ps, assort p = ((gw p - gl p + 1 : Int) : ℚ) / 2) :
    (ps.map assort).sum
      = ((((ps.map gw).sum : Int) : ℚ) - (((ps.map gl).sum : Int) : ℚ) + (ps.length : ℚ)) / 2 := by
  rw [List.map_congr_left h1, C14.sum_half]
  push_cast
  ring

/-- the assorter `make_assertions_from_json` builds for a RAIRE assertion of kind `k`, as a function of the
card (audit-side record, generator-side record); only the audit-side record is read -/
def irvAssort (cid : κ) (cands : List α) (k : Raire.Kind) (w l : α) (E : List α) :
    Votes κ α × GCvr κ α → ℚ :=
  fun p => match k with
    | .neb => nebAssort p.1 cid w l
    | .nen => nenAssort p.1 cid w l (remnOf cands E)

theorem irvAssort_range (cid : κ) (cands : List α) (k : Raire.Kind) (w l : α) (E : List α)
    (p : Votes κ α × GCvr κ α) : 0 ≤ irvAssort cid cands k w l E p ∧ irvAssort cid cands k w l E p ≤ 1 := by
  cases k
  · exact nebAssort_range p.1 cid w l
  · exact nenAssort_range p.1 cid w l _

/-- `Σ A_r = (W − L + n)/2` with `W`, `L` the two tallies the RAIRE assertion compares, recomputed on the ballots of
the cards -/
theorem irvAssort_sum (cid : κ) (cands : List α) (k : Raire.Kind) (w l : α) (E : List α)
    (hwl : k = .nen → w ∈ cands ∧ l ∈ cands)
    (ps : List (Votes κ α × GCvr κ α)) (h : ∀ p ∈ ps, C14.Aligned cid cands p) :
    (ps.map (irvAssort cid cands k w l E)).sum
      = (((tallies (trueBallots cid ps) k w l E).1 : ℚ) - ((tallies (trueBallots cid ps) k w l E).2 : ℚ)
          + (ps.length : ℚ)) / 2 := by
  obtain ⟨b1, b2, b3, b4⟩ := tallies_bridge cid ps w l E
  cases k with
  | neb =>
    rw [sum_of_tally ps (irvAssort cid cands .neb w l E) (fun p => nebWinner cid w p.2)
      (fun p => nebLoser cid w l p.2) (fun p hp => (h p hp).nebAssort_eq w l), ← b1, ← b2,
      Int.cast_natCast, Int.cast_natCast]
  | nen =>
    obtain ⟨hw, hl⟩ := hwl rfl
    rw [sum_of_tally ps (irvAssort cid cands .nen w l E) (fun p => nenWinner cid w E p.2)
      (fun p => nenLoser cid l E p.2) (fun p hp => (h p hp).nenAssort_eq hw hl E), ← b3, ← b4,
      Int.cast_natCast, Int.cast_natCast]

theorem irv_assertion_null (cid : κ) (cands : List α) (k : Raire.Kind) (w l : α) (E : List α)
    (hwl : k = .nen → w ∈ cands ∧ l ∈ cands)
    (ps : List (Votes κ α × GCvr κ α)) (h : ∀ p ∈ ps, C14.Aligned cid cands p)
    (hfail : (tallies (trueBallots cid ps) k w l E).1 ≤ (tallies (trueBallots cid ps) k w l E).2) :
    (ps.map (irvAssort cid cands k w l E)).sum ≤ (ps.length : ℚ) * (1 / 2) := by
  rw [irvAssort_sum cid cands k w l E hwl ps h, half_le_mul_iff, sub_nonpos]
  exact Nat.cast_le.2 hfail

/-- **NEB null.**  If the generator-side comparison of "`w` never eliminated before `l`" fails on the cards (tally of
`is_vote_for_winner` ≤ tally of `is_vote_for_loser`), the audit's assorter values over the cards sum to at most
`n/2`. -/
theorem irv_assertion_null_neb (cid : κ) (cands : List α) (w l : α) (ps : List (Votes κ α × GCvr κ α))
    (h : ∀ p ∈ ps, C14.Aligned cid cands p)
    (hfail : (ps.map (fun p => nebWinner cid w p.2)).sum ≤ (ps.map (fun p => nebLoser cid w l p.2)).sum) :
    (ps.map (fun p => nebAssort p.1 cid w l)).sum ≤ (ps.length : ℚ) * (1 / 2) := by
  obtain ⟨b1, b2, -⟩ := tallies_bridge cid ps w l []
  exact irv_assertion_null cid cands .neb w l [] (fun h => nomatch h) ps h (Int.ofNat_le.1 (b1 ▸ b2 ▸ hfail))

/-- **NEN null.**  Same for "`w` is not eliminated next when exactly `E` are gone (`l` has fewer votes)", with
`remaining = [c for c in cands if c not in E]` as `make_assertions_from_json` computes it, `w`, `l ∈ cands`, any
`E`; the alignment hypothesis includes that every ranked candidate is a listed candidate. -/
theorem irv_assertion_null_nen (cid : κ) (cands E : List α) (w l : α) (hw : w ∈ cands) (hl : l ∈ cands)
    (ps : List (Votes κ α × GCvr κ α)) (h : ∀ p ∈ ps, C14.Aligned cid cands p)
    (hfail : (ps.map (fun p => nenWinner cid w E p.2)).sum ≤ (ps.map (fun p => nenLoser cid l E p.2)).sum) :
    (ps.map (fun p => nenAssort p.1 cid w l (remnOf cands E))).sum ≤ (ps.length : ℚ) * (1 / 2) := by
  obtain ⟨-, -, b3, b4⟩ := tallies_bridge cid ps w l E
  exact irv_assertion_null cid cands .nen w l E (fun _ => ⟨hw, hl⟩) ps h (Int.ofNat_le.1 (b3 ▸ b4 ▸ hfail))

end Null

/-! ### 4. the risk limit -/

section Risk
open Shangrla.IrvBallot
variable {κ α : Type} [DecidableEq κ] [DecidableEq α]

/-- **Risk limit of a ballot-polling audit of an IRV contest, one false RAIRE assertion.**  `cards` are the cards
cast, each with the audit's reading `p.1` of the card and the same ranking in the generator's encoding `p.2`
(`C14.Aligned`).  Contest `c` of the audit has an assertion `a` whose data are the assorter
`make_assertions_from_json` builds for the RAIRE assertion `(k, w, l, E)` on the drawn card (for NEN, `w`, `l ∈ cands`)
and whose test is a shipped `NonnegMean` test with `N = |cards|`, `t = 1/2`, `u = 1`, inside its documented range.
If the assertion's comparison (`Raire.Spec.tallies`) fails on the ballots of the cards, the audit is ever reported
complete with probability at most `c.riskLimit`. -/
theorem irv_polling_risk_limit (data : String → String → (Votes κ α × GCvr κ α) → ℚ)
    (T : String → String → SeqTest) (s : State) (c : Contest) (hc : c ∈ s) (a : Assertion)
    (ha : a ∈ c.assertions) (cards : List (Votes κ α × GCvr κ α)) (cid : κ) (cands : List α)
    (k : Raire.Kind) (w l : α) (E : List α) (hwl : k = .nen → w ∈ cands ∧ l ∈ cands)
    (hal : ∀ p ∈ cards, C14.Aligned cid cands p)
    (hdata : data c.id a.name = irvAssort cid cands k w l E)
    (sqrtF : ℚ → ℚ) (cfg : NM.Cfg) (test : NM.Test)
    (hN : cfg.N = some cards.length) (ht : cfg.t = 1 / 2) (hu : cfg.u = 1)
    (hT : T c.id a.name = NM.run sqrtF cfg test)
    (hdoc : C01.DocumentedFinite sqrtF cfg test)
    (hr0 : 0 < c.riskLimit) (hr1 : c.riskLimit < 1)
    (hwrong : (tallies (trueBallots cid cards) k w l E).1 ≤ (tallies (trueBallots cid cards) k w l E).2) :
    hitG (auditComplete data T s) cards.length cards [] ≤ c.riskLimit := by
  apply audit_risk_limit_run data T s c hc a ha cards sqrtF cfg test hN hT hdoc hr0 hr1
  · intro x _
    rw [hdata, hu]
    exact irvAssort_range cid cands k w l E x
  · rw [hdata, ht]
    exact irv_assertion_null cid cands k w l E hwl cards hal hwrong

/-- **one false NEB assertion**: the WINNER_ONLY assorter of "`w` NEB `l`", the failed comparison stated with the
generator-side verdicts `is_vote_for_winner` / `is_vote_for_loser` -/
theorem irv_polling_risk_limit_neb (data : String → String → (Votes κ α × GCvr κ α) → ℚ)
    (T : String → String → SeqTest) (s : State) (c : Contest) (hc : c ∈ s) (a : Assertion)
    (ha : a ∈ c.assertions) (cards : List (Votes κ α × GCvr κ α)) (cid : κ) (cands : List α) (w l : α)
    (hal : ∀ p ∈ cards, C14.Aligned cid cands p)
    (hdata : data c.id a.name = fun p => nebAssort p.1 cid w l)
    (sqrtF : ℚ → ℚ) (cfg : NM.Cfg) (test : NM.Test)
    (hN : cfg.N = some cards.length) (ht : cfg.t = 1 / 2) (hu : cfg.u = 1)
    (hT : T c.id a.name = NM.run sqrtF cfg test)
    (hdoc : C01.DocumentedFinite sqrtF cfg test)
    (hr0 : 0 < c.riskLimit) (hr1 : c.riskLimit < 1)
    (hwrong : (cards.map (fun p => nebWinner cid w p.2)).sum ≤ (cards.map (fun p => nebLoser cid w l p.2)).sum) :
    hitG (auditComplete data T s) cards.length cards [] ≤ c.riskLimit := by
  obtain ⟨b1, b2, -⟩ := tallies_bridge cid cards w l []
  exact irv_polling_risk_limit data T s c hc a ha cards cid cands .neb w l [] (fun h => nomatch h) hal hdata
    sqrtF cfg test hN ht hu hT hdoc hr0 hr1 (Int.ofNat_le.1 (b1 ▸ b2 ▸ hwrong))

/-- **one false NEN assertion** (`remaining = [c for c in cands if c not in E]`, `w`, `l ∈ cands`, any `E`) -/
theorem irv_polling_risk_limit_nen (data : String → String → (Votes κ α × GCvr κ α) → ℚ)
    (T : String → String → SeqTest) (s : State) (c : Contest) (hc : c ∈ s) (a : Assertion)
    (ha : a ∈ c.assertions) (cards : List (Votes κ α × GCvr κ α)) (cid : κ) (cands E : List α) (w l : α)
    (hw : w ∈ cands) (hl : l ∈ cands)
    (hal : ∀ p ∈ cards, C14.Aligned cid cands p)
    (hdata : data c.id a.name = fun p => nenAssort p.1 cid w l (remnOf cands E))
    (sqrtF : ℚ → ℚ) (cfg : NM.Cfg) (test : NM.Test)
    (hN : cfg.N = some cards.length) (ht : cfg.t = 1 / 2) (hu : cfg.u = 1)
    (hT : T c.id a.name = NM.run sqrtF cfg test)
    (hdoc : C01.DocumentedFinite sqrtF cfg test)
    (hr0 : 0 < c.riskLimit) (hr1 : c.riskLimit < 1)
    (hwrong : (cards.map (fun p => nenWinner cid w E p.2)).sum ≤ (cards.map (fun p => nenLoser cid l E p.2)).sum) :
    hitG (auditComplete data T s) cards.length cards [] ≤ c.riskLimit := by
  obtain ⟨-, -, b3, b4⟩ := tallies_bridge cid cards w l E
  exact irv_polling_risk_limit data T s c hc a ha cards cid cands .nen w l E (fun _ => ⟨hw, hl⟩) hal hdata
    sqrtF cfg test hN ht hu hT hdoc hr0 hr1 (Int.ofNat_le.1 (b3 ▸ b4 ▸ hwrong))

/-- every assertion of the RAIRE set `S` is audited: it is one of contest `c`'s assertions in the audit state,
its data are the assorter `make_assertions_from_json` builds for it, and its test is a shipped `NonnegMean`
test with `N = n`, `t = 1/2`, `u = 1` inside its documented range -/
def Audited {D : Type} (data : String → String → (Votes κ α × GCvr κ α) → ℚ) (T : String → String → SeqTest)
    (c : Contest) (cid : κ) (cands : List α) (n : Nat) (S : List (Raire.Assertion α D)) : Prop :=
  ∀ r ∈ S, ∃ a ∈ c.assertions,
    data c.id a.name = irvAssort cid cands r.kind r.winner r.loser r.eliminated ∧
    ∃ (sqrtF : ℚ → ℚ) (cfg : NM.Cfg) (test : NM.Test),
      cfg.N = some n ∧ cfg.t = 1 / 2 ∧ cfg.u = 1 ∧ T c.id a.name = NM.run sqrtF cfg test ∧
      C01.DocumentedFinite sqrtF cfg test

/-- **Risk limit of a RAIRE ballot-polling audit of an IRV contest.**
* `cands` (duplicate-free) are the contest's candidates, `winner` the reported winner, `S` a set of NEB/NEN
  assertions that excludes every elimination order ending in another candidate (`Sufficient`), the winner and
  loser of every NEN member being candidates;
* `cards` are the cards cast: `p.1` what the audit reads on the card, `p.2` the same ranking in the generator's
  encoding (`C14.Aligned`: a duplicate-free ranking of listed candidates, or the contest absent on both);
* every member of `S` is audited in contest `c` of the audit state `s` (`Audited`), `0 < c.riskLimit < 1`;
* the reported winner is wrong: some possible IRV count `π` of the ballots on the cards (at every round a
  candidate with a smallest tally is eliminated, ties broken any way) ends in a candidate other than `winner`.

Then, whatever the other assertions, contests and tests are and however often the status is looked at while
the cards are drawn in uniformly random order without replacement, the audit is EVER reported complete with
probability at most `c.riskLimit`. -/
theorem irv_wrong_winner_risk_limit {D : Type} (data : String → String → (Votes κ α × GCvr κ α) → ℚ)
    (T : String → String → SeqTest) (s : State) (c : Contest) (hc : c ∈ s)
    (hr0 : 0 < c.riskLimit) (hr1 : c.riskLimit < 1)
    (cid : κ) (cands : List α) (hcands : cands.Nodup) (winner : α)
    (S : List (Raire.Assertion α D)) (hS : Sufficient cands winner S)
    (hSc : ∀ r ∈ S, r.kind = .nen → r.winner ∈ cands ∧ r.loser ∈ cands)
    (cards : List (Votes κ α × GCvr κ α)) (hal : ∀ p ∈ cards, C14.Aligned cid cands p)
    (haud : Audited data T c cid cands cards.length S)
    (π : List α) (hπ : Alt cands winner π) (hv : validIRV ((trueBallots cid cards).filterMap id) π) :
    hitG (auditComplete data T s) cards.length cards [] ≤ c.riskLimit := by
  obtain ⟨r, hr, hfalse⟩ := irv_wrong_outcome_false_assertion cands hcands winner S hS
    (trueBallots cid cards) (trueBallots_wf hal) π hπ hv
  obtain ⟨a, ha, hdata, sqrtF, cfg, test, hN, ht, hu, hT, hdoc⟩ := haud r hr
  exact irv_polling_risk_limit data T s c hc a ha cards cid cands r.kind r.winner r.loser r.eliminated
    (hSc r hr) hal hdata sqrtF cfg test hN ht hu hT hdoc hr0 hr1 hfalse

/-- the NEN assertions the modelled search returns compare candidates of the contest (`C04.raire_true`): the side
condition `hSc` of `irv_wrong_winner_risk_limit` -/
theorem raire_nen_candidates {D : Type} [Raire.DiffOrd D] [Raire.DiffOrd.Lawful D]
    (asn : Nat → Nat → Nat → Nat → D) (C : Raire.Contest α) (cvrs : List (Option (Raire.Ballot α)))
    (winner : α) (hC : C.candidates.Nodup) (hn : 2 ≤ C.candidates.length) (fuel : Nat)
    (as : List (Raire.Assertion α D))
    (h : Raire.computeRaireAssertions asn C cvrs winner fuel = Raire.Res.ok as) :
    ∀ r ∈ as, r.kind = .nen → r.winner ∈ C.candidates ∧ r.loser ∈ C.candidates := fun r hr _ =>
  let ⟨hw, hl, _⟩ := (C04.raire_true asn C cvrs winner hC hn fuel as h r hr).2
  ⟨hw, hl⟩

/-- **The same for the assertions the modelled RAIRE search returns** (`compute_raire_assertions` on the
REPORTED cvrs `cvrs`, any difficulty function with a lawful order, any fuel, result non-empty): if every
returned assertion is audited and the ballots on the cards have a possible IRV count ending in a candidate other
than the reported winner, the audit is ever reported complete with probability at most `c.riskLimit`. -/
theorem raire_wrong_winner_risk_limit {D : Type} [Raire.DiffOrd D] [Raire.DiffOrd.Lawful D]
    (data : String → String → (Votes κ α × GCvr κ α) → ℚ)
    (T : String → String → SeqTest) (s : State) (c : Contest) (hc : c ∈ s)
    (hr0 : 0 < c.riskLimit) (hr1 : c.riskLimit < 1)
    (asn : Nat → Nat → Nat → Nat → D) (C : Raire.Contest α) (cvrs : List (Option (Raire.Ballot α)))
    (winner : α) (hC : C.candidates.Nodup) (hn : 2 ≤ C.candidates.length) (fuel : Nat)
    (as : List (Raire.Assertion α D))
    (h : Raire.computeRaireAssertions asn C cvrs winner fuel = Raire.Res.ok as) (hne : as ≠ [])
    (cid : κ) (cards : List (Votes κ α × GCvr κ α)) (hal : ∀ p ∈ cards, C14.Aligned cid C.candidates p)
    (haud : Audited data T c cid C.candidates cards.length as)
    (π : List α) (hπ : Alt C.candidates winner π) (hv : validIRV ((trueBallots cid cards).filterMap id) π) :
    hitG (auditComplete data T s) cards.length cards [] ≤ c.riskLimit :=
  irv_wrong_winner_risk_limit data T s c hc hr0 hr1 cid C.candidates hC winner as
    (C04.raire_sufficient asn C cvrs winner hC hn fuel as h hne)
    (raire_nen_candidates asn C cvrs winner hC hn fuel as h) cards hal haud π hπ hv

end Risk

/-! ### `validIRV` as a check -/

section Rounds
variable {α : Type} [DecidableEq α]

/-- round by round; `pre`: the candidates eliminated so far -/
def irvRounds (ballots : List (Raire.Ballot α)) : List α → List α → Bool
  | _, [] => true
  | pre, x :: post =>
    post.all (fun y => Raire.tally ballots x pre ≤ Raire.tally ballots y pre) && irvRounds ballots (pre ++ [x]) post

theorem irvRounds_sound (ballots : List (Raire.Ballot α)) : ∀ (rest pre0 : List α),
    irvRounds ballots pre0 rest = true → ∀ pre x post, rest = pre ++ x :: post →
      ∀ y ∈ post, Raire.tally ballots x (pre0 ++ pre) ≤ Raire.tally ballots y (pre0 ++ pre)
  | [], _, _, pre, _, _, h, _, _ => by cases pre <;> cases h
  | x0 :: rest, pre0, hr, [], x, post, h, y, hy => by
    obtain ⟨rfl, rfl⟩ := List.cons.inj h
    rw [irvRounds, Bool.and_eq_true, List.all_eq_true] at hr
    rw [List.append_nil]
    exact of_decide_eq_true (hr.1 y hy)
  | x0 :: rest, pre0, hr, p0 :: pre, x, post, h, y, hy => by
    obtain ⟨rfl, h'⟩ := List.cons.inj h
    rw [irvRounds, Bool.and_eq_true] at hr
    have := irvRounds_sound ballots rest (pre0 ++ [x0]) hr.2 pre x post h' y hy
    rwa [List.append_assoc, List.singleton_append] at this

theorem validIRV_of_rounds {ballots : List (Raire.Ballot α)} {π : List α} (h : irvRounds ballots [] π = true) :
    validIRV ballots π :=
  fun pre x post hπ y hy => irvRounds_sound ballots π [] h pre x post hπ y hy

end Rounds

/-! ### 5. non-vacuity

The contest of C04's example: candidates 0, 1, 2; reported cvrs 4 x (0,1), 3 x (1,2), 2 x (2,1), reported winner 1,
for which the modelled RAIRE search returns NEB(1, 2) and NEN(1, 0 | 2 eliminated).  The five cards actually
cast are 3 x (0,1), (1,2), (2,1): candidate 2 is eliminated first, then 1, and 0 wins — the reported winner is
wrong.  Both returned assertions are false on the true ballots (1 v 1 and 2 v 3). -/

section example_
open Shangrla.IrvBallot Shangrla.NM

/-- a card holding the ranking `r`: what the audit reads, and the generator's encoding of the same ranking -/
def cardI (r : List Nat) : Votes String Nat × GCvr String Nat :=
  (fromVote (auditEnc r) "c", [("c", genEnc r)])

def cardsI : List (Votes String Nat × GCvr String Nat) :=
  [cardI [0, 1], cardI [0, 1], cardI [0, 1], cardI [1, 2], cardI [2, 1]]

theorem aligned_card {κ α : Type} [DecidableEq κ] [DecidableEq α] {cid : κ} {cands r : List α}
    (hnd : r.Nodup) (hsub : ∀ a ∈ r, a ∈ cands) :
    C14.Aligned cid cands (fromVote (auditEnc r) cid, [(cid, genEnc r)]) :=
  Or.inr ⟨r, genEnc r, hnd, hsub, C14.dget_cons_self .., C14.dget_cons_self .., C14.SameMap.refl_genEnc r hnd⟩

theorem cardsI_aligned : ∀ p ∈ cardsI, C14.Aligned "c" [0, 1, 2] p := by
  intro p hp
  simp only [cardsI, List.mem_cons, List.not_mem_nil, or_false] at hp
  rcases hp with rfl | rfl | rfl | rfl | rfl <;> exact aligned_card (by decide) (by decide)

def cfgI : Cfg := { N := some 5, u := 1, t := 1/2, randomOrder := true, kw := { eta := some (3/4) } }
def dataI : String → String → (Votes String Nat × GCvr String Nat) → ℚ := fun _ name =>
  if name = "neb" then irvAssort "c" [0, 1, 2] .neb 1 2 [] else irvAssort "c" [0, 1, 2] .nen 1 0 [2]
def TI : String → String → SeqTest := fun _ _ => NM.run sqrtRat cfgI (.alpha .fixedAlt)
def sI : State := [{ id := "c", riskLimit := 9/10, assertions := [{ name := "neb" }, { name := "nen" }] }]

theorem cfgI_documented : C01.DocumentedFinite sqrtRat cfgI (.alpha .fixedAlt) :=
  documentedFinite_alpha_fixed (by decide +kernel) rfl rfl

/-- the hypotheses of `irv_assertion_null_nen` hold for NEN(1, 0 | 2 eliminated) on the five cards
(generator-side tallies 2 v 3), so the assorter values sum to at most 5/2 -/
example : (cardsI.map (fun p => nenAssort p.1 "c" 1 0 (remnOf [0, 1, 2] [2]))).sum ≤ ((5 : Nat) : ℚ) * (1 / 2) :=
  irv_assertion_null_nen "c" [0, 1, 2] [2] 1 0 (by decide) (by decide) cardsI cardsI_aligned (by decide +kernel)

/-- the hypotheses of `irv_assertion_null_neb` hold for NEB(1, 2) on the five cards (tallies 1 v 1) -/
example : (cardsI.map (fun p => nebAssort p.1 "c" 1 2)).sum ≤ ((5 : Nat) : ℚ) * (1 / 2) :=
  irv_assertion_null_neb "c" [0, 1, 2] 1 2 cardsI cardsI_aligned (by decide +kernel)

/-- the hypotheses of `irv_polling_risk_limit_nen` are satisfiable -/
example : hitG (auditComplete dataI TI sI) 5 cardsI [] ≤ 9/10 :=
  irv_polling_risk_limit_nen dataI TI sI _ (List.mem_singleton.2 rfl) { name := "nen" }
    (List.mem_cons_of_mem _ List.mem_cons_self)
    cardsI "c" [0, 1, 2] [2] 1 0 (by decide) (by decide) cardsI_aligned rfl sqrtRat cfgI (.alpha .fixedAlt)
    rfl rfl rfl rfl cfgI_documented (by decide +kernel) (by decide +kernel) (by decide +kernel)

/-- `[2, 1, 0]` is a possible IRV count of the five true ballots (tallies 1 ≤ 1, 1 ≤ 3; then 2 ≤ 3) -/
theorem validIRV_cardsI : validIRV ((trueBallots "c" cardsI).filterMap id) [2, 1, 0] :=
  validIRV_of_rounds (by decide +kernel)

/-- reading a result `[NEB, NEN]` of the modelled RAIRE search off its `C04.summary` -/
theorem summary_two {res : Raire.Res (List (Raire.Assertion Nat Nat))} {w1 l1 w2 l2 : Nat} {E1 E2 : List Nat}
    {t1 t2 : Nat × Nat × Nat}
    (hs : C04.summary res = some [(true, w1, l1, E1, t1), (false, w2, l2, E2, t2)]) :
    ∃ a1 a2, res = .ok [a1, a2] ∧
      (a1.kind = .neb ∧ a1.winner = w1 ∧ a1.loser = l1 ∧ a1.eliminated = E1) ∧
      a2.kind = .nen ∧ a2.winner = w2 ∧ a2.loser = l2 ∧ a2.eliminated = E2 := by
  cases res with
  | ok as =>
    simp only [C04.summary, Option.some.injEq, List.map_eq_cons_iff, List.map_eq_nil_iff, Prod.mk.injEq] at hs
    obtain ⟨a1, _, rfl, ⟨k1, hw1, hl1, he1, -⟩, a2, _, rfl, ⟨k2, hw2, hl2, he2, -⟩, rfl⟩ := hs
    refine ⟨a1, a2, rfl, ⟨by simpa using k1, hw1, hl1, he1⟩, ?_, hw2, hl2, he2⟩
    cases hk : a2.kind
    · rw [hk] at k2; cases k2
    · rfl
  | fuel => simp [C04.summary] at hs
  | err e => simp [C04.summary] at hs

/-- every hypothesis of `raire_wrong_winner_risk_limit` is satisfiable — the RAIRE output for the
reported cvrs of C04's example (non-empty), both returned assertions audited, and true ballots whose IRV count
ends in candidate 0 rather than the reported winner 1 -/
example : hitG (auditComplete dataI TI sI) 5 cardsI [] ≤ 9/10 := by
  obtain ⟨a1, a2, h, ⟨hk1, hw1, hl1, -⟩, hk2, hw2, hl2, he2⟩ := summary_two C04.summary_run1
  refine raire_wrong_winner_risk_limit dataI TI sI _ (List.mem_singleton.2 rfl) (by decide +kernel)
    (by decide +kernel) C04.asnEx C04.CEx C04.cvrsEx 1 (by decide) (by decide) 100 [a1, a2] h (by simp)
    "c" cardsI cardsI_aligned ?_ [2, 1, 0] ⟨by decide, [2, 1], 0, rfl, by decide⟩ validIRV_cardsI
  intro r hr
  simp only [List.mem_cons, List.not_mem_nil, or_false] at hr
  rcases hr with rfl | rfl
  · refine ⟨{ name := "neb" }, List.mem_cons_self, ?_, sqrtRat, cfgI, .alpha .fixedAlt, rfl, rfl, rfl, rfl,
      cfgI_documented⟩
    rw [hk1, hw1, hl1]
    rfl
  · refine ⟨{ name := "nen" }, List.mem_cons_of_mem _ List.mem_cons_self, ?_, sqrtRat, cfgI, .alpha .fixedAlt,
      rfl, rfl, rfl, rfl, cfgI_documented⟩
    rw [hk2, hw2, hl2, he2]
    rfl

/-- the event bounded by 9/10 above really happens: with this (deliberately lax) risk limit the audit of the wrong
outcome is reported complete with probability 1/4 (kernel-computed over the 120 orders) -/
theorem example_irv_exact : hitG (auditComplete dataI TI sI) 5 cardsI [] = 1/4 := by decide +kernel

end example_

end Shangrla.RiskLimit
