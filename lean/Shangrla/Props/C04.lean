/-
  C04 — RAIRE assertions, if any, are true of the CVRs and exclude every other winner.

  Theorems are about `Shangrla.Raire.computeRaireAssertionsG gap`, the literal model of
  `shangrla/raire/raire.py::compute_raire_assertions` that the driver executes, for every `agap` test `gap`,
  and about its instance `computeRaireAssertions` (agap = 0, the default), for every
  difficulty function `asn` into a type with a lawful total preorder (`DiffOrd.Lawful`), every ballot
  profile, every duplicate-free candidate list of length ≥ 2, every reported winner, every diving hint
  and every fuel; `raire_terminates` shows that `raireFuel` iterations always suffice and that no
  exception exit is reached.  The vocabulary of the statements (`holds`, `Fam`, `Sufficient`, `Alt`, `contradicts`) is
  that of the namespace `Raire.Spec`.
-/
import Shangrla.Lemmas.RaireMain
import Shangrla.Lemmas.RaireSocial

namespace Shangrla.C04
open Shangrla.Raire Shangrla.Raire.Spec

-- fixed statements of this file stand in a section with instance arguments they do not all use
set_option linter.unusedSectionVars false

variable {α : Type} [DecidableEq α] {D : Type} [DiffOrd D] [DiffOrd.Lawful D]

/-! ### `find_best_audit` at one node (FBA-sound, FBA-min of DESIGN.md Appendix F), the social-choice lemma, subsumption -/

/-- the assertion `find_best_audit` returns at a tail is a true assertion, the estimate is its difficulty, and it
contradicts every complete order ending in the tail -/
theorem fba_sound (asn : Nat → Nat → Nat → Nat → D) (C : Contest α) (hC : C.candidates.Nodup)
    (cvrs : List (Option (Ballot α))) (tail : List α) (hnd : tail.Nodup)
    (hsub : ∀ y ∈ tail, y ∈ C.candidates) (a : Assertion α D)
    (h : (findBestAudit asn C (cvrs.filterMap id) (nebTable asn C cvrs) tail).1 = some a) :
    Fam asn C cvrs a ∧
    (findBestAudit asn C (cvrs.filterMap id) (nebTable asn C cvrs) tail).2 = Diff.fin a.difficulty ∧
    (∀ π, π.Perm C.candidates → tail <:+ π → contradicts a π) :=
  let ⟨h1, h2, h3, _⟩ := Raire.fba_sound asn C hC cvrs tail hnd hsub a h
  ⟨h1, h2, h3⟩

/-- the estimate of `find_best_audit` is `inf` iff no examined assertion exists, otherwise it is below the
difficulty of every examined assertion -/
theorem fba_min (asn : Nat → Nat → Nat → Nat → D) (C : Contest α) (ballots : List (Ballot α))
    (nebs : NebTable α D) (tail : List α) :
    ((findBestAudit asn C ballots nebs tail).2 = Diff.inf ↔ ∀ x ∈ candAt asn C ballots nebs tail, x = none) ∧
    (∀ b, some b ∈ candAt asn C ballots nebs tail →
      Diff.le (findBestAudit asn C ballots nebs tail).2 (Diff.fin b.difficulty) = true) :=
  ⟨(fba_inf_iff asn C ballots nebs tail).trans (fba_none_iff asn C ballots nebs tail),
    fun b hb => fba_estimate_le asn C ballots nebs tail b hb⟩

/-- **Social-choice lemma**: a possible IRV count of well-formed ballots is contradicted by no true
assertion; hence no set of true assertions can exclude a candidate who can win the count -/
theorem valid_order_not_excluded (asn : Nat → Nat → Nat → Nat → D) (C : Contest α)
    (cvrs : List (Option (Ballot α))) (hwf : ∀ b ∈ cvrs.filterMap id, BallotWF b) (π : List α)
    (hnd : π.Nodup) (hv : validIRV (cvrs.filterMap id) π) (a : Assertion α D) (ha : Fam asn C cvrs a) :
    ¬ contradicts a π :=
  valid_not_contradicted_fam asn C cvrs hwf π hnd hv a ha

/-- the subsumption tests are sound (each of the four NEB branches and the NEN suffix test): an
assertion that subsumes `o` contradicts every order ending in a tail `o` was recorded to rule out -/
theorem subsumes_sound (cands : List α) (f o : Assertion α D) (hg : Good cands f)
    (hfro : ∀ r ∈ f.rulesOut, CoversTail cands f r) (horo : ∀ r ∈ o.rulesOut, CoversTail cands o r)
    (h : subsumes f o = true) : o.kind = .nen ∧ ∀ t ∈ o.rulesOut, CoversTail cands f t :=
  Raire.subsumes_sound hg hfro horo h

/-! ### the result of the generator, for every allowed gap (raire.py L158-163)

`computeRaireAssertionsG gap` is the generator whose main loop starts with the test
`agap > 0 and lowerbound > 0 and max_on_frontier - lowerbound <= agap` (the float test being the parameter `gap`).
`GapOK gap`: the test is false when the largest estimate on the frontier is `inf` (`inf - lowerbound` is `inf` or
`nan`; true of the Python test for every finite `agap`).  Soundness, sufficiency, "empty exactly when", absence of
exceptions and termination hold for EVERY such test: they do not depend on when, or whether, the early exit is taken.
(Optimality, C15, is stated for `agap = 0`; what it becomes for a positive `agap` is `C15.raire_near_optimal_gap`.) -/

/-- **C04, truth, for every `agap`:** every returned assertion holds on the CVRs and is a member of the family
of true assertions. -/
theorem raire_true_gap (gap : Diff D → Diff D → Bool) (hgap : GapOK gap)
    (asn : Nat → Nat → Nat → Nat → D) (C : Contest α) (cvrs : List (Option (Ballot α)))
    (winner : α) (hC : C.candidates.Nodup) (hn : 2 ≤ C.candidates.length) (fuel : Nat)
    (as : List (Assertion α D)) (h : computeRaireAssertionsG gap asn C cvrs winner fuel = Res.ok as) :
    ∀ a ∈ as, holds cvrs a ∧ Fam asn C cvrs a := fun a ha =>
  have hf := ((computeG_spec asn C cvrs winner hgap hC hn h).2 (List.ne_nil_of_mem ha)).1 a ha
  ⟨hf.2.2.2.2.1, hf⟩

/-- **C04, sufficiency, for every `agap`:** a non-empty result excludes every alternative winner. -/
theorem raire_sufficient_gap (gap : Diff D → Diff D → Bool) (hgap : GapOK gap)
    (asn : Nat → Nat → Nat → Nat → D) (C : Contest α) (cvrs : List (Option (Ballot α)))
    (winner : α) (hC : C.candidates.Nodup) (hn : 2 ≤ C.candidates.length) (fuel : Nat)
    (as : List (Assertion α D)) (h : computeRaireAssertionsG gap asn C cvrs winner fuel = Res.ok as)
    (hne : as ≠ []) : ∀ π, Alt C.candidates winner π → ∃ a ∈ as, contradicts a π :=
  ((computeG_spec asn C cvrs winner hgap hC hn h).2 hne).2

/-- **C04, "empty exactly when", for every `agap`:** the result is empty exactly when no set of true NEB/NEN
assertions excludes every alternative winner. -/
theorem raire_empty_iff_gap (gap : Diff D → Diff D → Bool) (hgap : GapOK gap)
    (asn : Nat → Nat → Nat → Nat → D) (C : Contest α) (cvrs : List (Option (Ballot α)))
    (winner : α) (hC : C.candidates.Nodup) (hn : 2 ≤ C.candidates.length) (fuel : Nat)
    (as : List (Assertion α D)) (h : computeRaireAssertionsG gap asn C cvrs winner fuel = Res.ok as) :
    as = [] ↔ ¬ ∃ S : List (Assertion α D), (∀ a ∈ S, Fam asn C cvrs a) ∧ Sufficient C.candidates winner S := by
  obtain ⟨h1, h2⟩ := computeG_spec asn C cvrs winner hgap hC hn h
  constructor
  · intro h0 ⟨S, hS1, hS2⟩
    obtain ⟨π, hπ, hbad⟩ := h1 h0
    obtain ⟨a, ha, hc⟩ := hS2 π hπ
    exact hbad a (hS1 a ha) hc
  · intro himp
    apply Classical.byContradiction
    intro hne
    exact himp ⟨as, h2 hne⟩

/-- **C04, "in particular", for every `agap`:** a reported winner who is not the unique possible IRV winner
gets the empty list. -/
theorem wrong_winner_empty_gap (gap : Diff D → Diff D → Bool) (hgap : GapOK gap)
    (asn : Nat → Nat → Nat → Nat → D) (C : Contest α) (cvrs : List (Option (Ballot α)))
    (winner : α) (hC : C.candidates.Nodup) (hn : 2 ≤ C.candidates.length) (fuel : Nat)
    (as : List (Assertion α D)) (h : computeRaireAssertionsG gap asn C cvrs winner fuel = Res.ok as)
    (hwf : ∀ b ∈ cvrs.filterMap id, BallotWF b) (π : List α) (hπ : Alt C.candidates winner π)
    (hv : validIRV (cvrs.filterMap id) π) : as = [] :=
  -- no set of true assertions excludes `π`, the last candidate of which can win the count
  (raire_empty_iff_gap gap hgap asn C cvrs winner hC hn fuel as h).2 fun ⟨_, hS1, hS2⟩ =>
    let ⟨a, ha, hc⟩ := hS2 π hπ
    valid_not_contradicted_fam asn C cvrs hwf π (hπ.1.nodup_iff.2 hC) hv a (hS1 a ha) hc

/-- no exception exit is reached, for every `agap` -/
theorem raire_no_exception_gap (gap : Diff D → Diff D → Bool) (hgap : GapOK gap)
    (asn : Nat → Nat → Nat → Nat → D) (C : Contest α) (cvrs : List (Option (Ballot α)))
    (winner : α) (hC : C.candidates.Nodup) (hn : 2 ≤ C.candidates.length) (fuel : Nat) (e : Err) :
    computeRaireAssertionsG gap asn C cvrs winner fuel ≠ Res.err e :=
  computeG_no_err asn C cvrs winner hgap hC hn fuel e

/-- termination within `raireFuel` iterations, for every `agap` -/
theorem raire_terminates_gap (gap : Diff D → Diff D → Bool) (hgap : GapOK gap)
    (asn : Nat → Nat → Nat → Nat → D) (C : Contest α) (cvrs : List (Option (Ballot α)))
    (winner : α) (hC : C.candidates.Nodup) (hn : 2 ≤ C.candidates.length) (fuel : Nat)
    (hfuel : raireFuel C winner ≤ fuel) :
    ∃ as, computeRaireAssertionsG gap asn C cvrs winner fuel = Res.ok as :=
  computeG_terminates asn C cvrs winner hgap hC hn fuel hfuel

/-- **C04 in one statement, for every `agap`** (total correctness) -/
theorem raire_correct_gap (gap : Diff D → Diff D → Bool) (hgap : GapOK gap)
    (asn : Nat → Nat → Nat → Nat → D) (C : Contest α) (cvrs : List (Option (Ballot α)))
    (winner : α) (hC : C.candidates.Nodup) (hn : 2 ≤ C.candidates.length) (fuel : Nat)
    (hfuel : raireFuel C winner ≤ fuel) :
    ∃ as, computeRaireAssertionsG gap asn C cvrs winner fuel = Res.ok as ∧
      (∀ a ∈ as, holds cvrs a) ∧
      (as ≠ [] → ∀ π, Alt C.candidates winner π → ∃ a ∈ as, contradicts a π) ∧
      (as = [] ↔ ¬ ∃ S : List (Assertion α D), (∀ a ∈ S, Fam asn C cvrs a) ∧ Sufficient C.candidates winner S) := by
  obtain ⟨as, h⟩ := raire_terminates_gap gap hgap asn C cvrs winner hC hn fuel hfuel
  exact ⟨as, h, fun a ha => (raire_true_gap gap hgap asn C cvrs winner hC hn fuel as h a ha).1,
    raire_sufficient_gap gap hgap asn C cvrs winner hC hn fuel as h,
    raire_empty_iff_gap gap hgap asn C cvrs winner hC hn fuel as h⟩

/-! ### the default `agap = 0`: the instances at `noGap` -/

/-- the default `agap = 0` is the instance `noGap` (the definitions agree by unfolding) -/
theorem noGap_is_default (asn : Nat → Nat → Nat → Nat → D) (C : Contest α) (cvrs : List (Option (Ballot α)))
    (winner : α) (fuel : Nat) :
    computeRaireAssertions asn C cvrs winner fuel = computeRaireAssertionsG noGap asn C cvrs winner fuel := rfl

/-- **C04, truth.** Every returned assertion holds on the CVRs with exactly the tallies it reports, winner
strictly larger (it is a member of the family of true assertions, with the difficulty `asn` assigns). -/
theorem raire_true (asn : Nat → Nat → Nat → Nat → D) (C : Contest α) (cvrs : List (Option (Ballot α)))
    (winner : α) (hC : C.candidates.Nodup) (hn : 2 ≤ C.candidates.length) (fuel : Nat)
    (as : List (Assertion α D)) (h : computeRaireAssertions asn C cvrs winner fuel = Res.ok as) :
    ∀ a ∈ as, holds cvrs a ∧ Fam asn C cvrs a :=
  raire_true_gap noGap gapOK_noGap asn C cvrs winner hC hn fuel as h

/-- **C04, sufficiency.** If the result is non-empty, every complete elimination order that ends in a
candidate other than the reported winner is contradicted by at least one returned assertion. -/
theorem raire_sufficient (asn : Nat → Nat → Nat → Nat → D) (C : Contest α) (cvrs : List (Option (Ballot α)))
    (winner : α) (hC : C.candidates.Nodup) (hn : 2 ≤ C.candidates.length) (fuel : Nat)
    (as : List (Assertion α D)) (h : computeRaireAssertions asn C cvrs winner fuel = Res.ok as)
    (hne : as ≠ []) : ∀ π, Alt C.candidates winner π → ∃ a ∈ as, contradicts a π :=
  raire_sufficient_gap noGap gapOK_noGap asn C cvrs winner hC hn fuel as h hne

/-- **C04, "empty exactly when".** The result is the empty list exactly when no set of true NEB/NEN
assertions (all ordered pairs, all eliminated sets) excludes every alternative winner. -/
theorem raire_empty_iff (asn : Nat → Nat → Nat → Nat → D) (C : Contest α) (cvrs : List (Option (Ballot α)))
    (winner : α) (hC : C.candidates.Nodup) (hn : 2 ≤ C.candidates.length) (fuel : Nat)
    (as : List (Assertion α D)) (h : computeRaireAssertions asn C cvrs winner fuel = Res.ok as) :
    as = [] ↔ ¬ ∃ S : List (Assertion α D), (∀ a ∈ S, Fam asn C cvrs a) ∧ Sufficient C.candidates winner S :=
  raire_empty_iff_gap noGap gapOK_noGap asn C cvrs winner hC hn fuel as h

/-- the witness behind an empty result: a complete alternative order that no true assertion contradicts -/
theorem raire_empty_witness (asn : Nat → Nat → Nat → Nat → D) (C : Contest α) (cvrs : List (Option (Ballot α)))
    (winner : α) (hC : C.candidates.Nodup) (hn : 2 ≤ C.candidates.length) (fuel : Nat)
    (h : computeRaireAssertions asn C cvrs winner fuel = Res.ok []) :
    ∃ π, Alt C.candidates winner π ∧ ∀ a : Assertion α D, Fam asn C cvrs a → ¬ contradicts a π :=
  (compute_spec asn C cvrs winner hC hn h).1 rfl

/-- **C04, "in particular".** If the reported winner is not the unique possible IRV winner — some possible
IRV count of the (well-formed) ballots ends in another candidate — the generator returns the empty list. -/
theorem wrong_winner_empty (asn : Nat → Nat → Nat → Nat → D) (C : Contest α) (cvrs : List (Option (Ballot α)))
    (winner : α) (hC : C.candidates.Nodup) (hn : 2 ≤ C.candidates.length) (fuel : Nat)
    (as : List (Assertion α D)) (h : computeRaireAssertions asn C cvrs winner fuel = Res.ok as)
    (hwf : ∀ b ∈ cvrs.filterMap id, BallotWF b) (π : List α) (hπ : Alt C.candidates winner π)
    (hv : validIRV (cvrs.filterMap id) π) : as = [] :=
  wrong_winner_empty_gap noGap gapOK_noGap asn C cvrs winner hC hn fuel as h hwf π hπ hv

/-- the generator raises none of the exceptions the model represents: the frontier is never empty at
`max(...)` / `frontier.nodes[0]`, every dive finds a remaining candidate, and at the end every frontier node
carries an assertion; only termination (fuel) is left open -/
theorem raire_no_exception (asn : Nat → Nat → Nat → Nat → D) (C : Contest α) (cvrs : List (Option (Ballot α)))
    (winner : α) (hC : C.candidates.Nodup) (hn : 2 ≤ C.candidates.length) (fuel : Nat) (e : Err) :
    computeRaireAssertions asn C cvrs winner fuel ≠ Res.err e :=
  raire_no_exception_gap noGap gapOK_noGap asn C cvrs winner hC hn fuel e

/-- **Termination and no exception.** The search terminates: with `raireFuel C winner` (or more)
iterations of the main loop allowed, the model returns a list — it neither runs out of fuel nor reaches
one of its exception exits. (`raireFuel` is a strict upper bound of the initial value of a measure that
strictly decreases in every iteration; it is astronomically larger than what is needed in practice.) -/
theorem raire_terminates (asn : Nat → Nat → Nat → Nat → D) (C : Contest α) (cvrs : List (Option (Ballot α)))
    (winner : α) (hC : C.candidates.Nodup) (hn : 2 ≤ C.candidates.length) (fuel : Nat)
    (hfuel : raireFuel C winner ≤ fuel) : ∃ as, computeRaireAssertions asn C cvrs winner fuel = Res.ok as :=
  raire_terminates_gap noGap gapOK_noGap asn C cvrs winner hC hn fuel hfuel

/-- **C04 in one statement** (total correctness): for enough fuel the generator returns a list `as`; every
member is a true assertion with exactly the tallies it reports; if `as` is non-empty it excludes every
alternative winner; and `as` is empty exactly when no set of true assertions does. -/
theorem raire_correct (asn : Nat → Nat → Nat → Nat → D) (C : Contest α) (cvrs : List (Option (Ballot α)))
    (winner : α) (hC : C.candidates.Nodup) (hn : 2 ≤ C.candidates.length) (fuel : Nat)
    (hfuel : raireFuel C winner ≤ fuel) :
    ∃ as, computeRaireAssertions asn C cvrs winner fuel = Res.ok as ∧
      (∀ a ∈ as, holds cvrs a) ∧
      (as ≠ [] → ∀ π, Alt C.candidates winner π → ∃ a ∈ as, contradicts a π) ∧
      (as = [] ↔ ¬ ∃ S : List (Assertion α D), (∀ a ∈ S, Fam asn C cvrs a) ∧ Sufficient C.candidates winner S) :=
  raire_correct_gap noGap gapOK_noGap asn C cvrs winner hC hn fuel hfuel

/-! ### Non-vacuity: a concrete contest (tests of the statements' hypotheses, not of the theorems)

Three candidates 0, 1, 2; ballots 4 x (0,1), 3 x (1,2), 2 x (2,1): candidate 2 is eliminated first and
1 beats 0 by 5 to 4. Difficulty `total * 1000 / margin` into `Nat` (a lawful order). -/

def asnEx (w l _o t : Nat) : Nat := t * 1000 / (w - l)
def balEx (l : List Nat) : Option (Ballot Nat) := some l.zipIdx
def cvrsEx : List (Option (Ballot Nat)) :=
  List.replicate 4 (balEx [0, 1]) ++ List.replicate 3 (balEx [1, 2]) ++ List.replicate 2 (balEx [2, 1])
def CEx : Contest Nat := { candidates := [0, 1, 2], totBallots := 9, outcome := [] }
/-- (is NEB, winner, loser, eliminated, tallies, difficulty) of each returned assertion -/
def summary (r : Res (List (Assertion Nat Nat))) :
    Option (List (Bool × Nat × Nat × List Nat × Nat × Nat × Nat)) :=
  match r with
  | Res.ok as => some (as.map fun a =>
      (a.kind == .neb, a.winner, a.loser, a.eliminated, a.votesW, a.votesL, a.difficulty))
  | _ => none

theorem ok_of_summary {r : Res (List (Assertion Nat Nat))} {x xs} (h : summary r = some (x :: xs)) :
    ∃ as, r = Res.ok as ∧ as ≠ [] := by
  match r, h with
  | Res.ok (a :: as), _ => exact ⟨a :: as, rfl, List.cons_ne_nil a as⟩

-- `DecidableEq` instance search fails on the seven-fold product of `summary` (the instance term doubles in size
-- with every component); given this instance for the last four components it succeeds
local instance : DecidableEq (List Nat × Nat × Nat × Nat) := inferInstance

-- fuel 100, and 100000 for the four candidates further down: the result is the same for every fuel at which the search
-- does not run out; `raireFuel`, which always suffices, is 113 for `CEx`
theorem summary_run1 : summary (computeRaireAssertions asnEx CEx cvrsEx 1 100) =
    some [(true, 1, 2, [], 3, 2, 9000), (false, 1, 0, [2], 5, 4, 9000)] := by decide +kernel

-- reported winner 1 (correct): NEB(1,2) with 3 > 2 and NEN(1,0 | 2 eliminated) with 5 > 4
example : summary (computeRaireAssertions asnEx CEx cvrsEx 1 100) =
    some [(true, 1, 2, [], 3, 2, 9000), (false, 1, 0, [2], 5, 4, 9000)] := summary_run1
-- reported winner 0 (wrong): no audit possible
example : summary (computeRaireAssertions asnEx CEx cvrsEx 0 100) = some [] := by decide +kernel
-- the hypotheses of `raire_sufficient` are satisfiable: it applies to the first run
example : ∃ as, computeRaireAssertions asnEx CEx cvrsEx 1 100 = Res.ok as ∧ as ≠ [] ∧
    ∀ π, Alt CEx.candidates 1 π → ∃ a ∈ as, contradicts a π :=
  let ⟨as, h, hne⟩ := ok_of_summary summary_run1
  ⟨as, h, hne, raire_sufficient asnEx CEx cvrsEx 1 (by decide) (by decide) 100 as h hne⟩
-- the fuel bound of `raire_terminates` for this contest
example : raireFuel CEx 1 = 113 := by rfl
-- a gap test on this `Nat`-valued example: `mx - lb <= 5000` on finite values, false otherwise (`GapOK`)
def gapEx : Diff Nat → Diff Nat → Bool
  | Diff.fin m, Diff.fin l => decide (m - l ≤ 5000)
  | _, _ => false
example : GapOK gapEx := fun l => by cases l <;> rfl
-- four candidates, 30 ballots, reported winner 2: the gap exit fires before the search is finished and the
-- result is a different, costlier (largest difficulty 10000 instead of 7500) but still sufficient set
def cvrsEx4 : List (Option (Ballot Nat)) :=
  List.replicate 12 (balEx [0, 1, 2, 3]) ++ List.replicate 6 (balEx [1, 2, 0]) ++ List.replicate 5 (balEx [2, 3, 1]) ++
  List.replicate 4 (balEx [3, 2, 1, 0]) ++ List.replicate 3 (balEx [2, 0])
def CEx4 : Contest Nat := { candidates := [0, 1, 2, 3], totBallots := 30, outcome := [] }
example : summary (computeRaireAssertions asnEx CEx4 cvrsEx4 2 100000) =
    some [(true, 2, 3, [], 8, 4, 7500), (false, 2, 0, [1, 3], 18, 12, 5000), (false, 2, 1, [3], 12, 6, 5000),
      (false, 0, 1, [3], 12, 6, 5000), (false, 0, 3, [], 12, 4, 3750)] := by decide +kernel
theorem summary_run4G : summary (computeRaireAssertionsG gapEx asnEx CEx4 cvrsEx4 2 100000) =
    some [(true, 0, 3, [], 12, 9, 10000), (true, 2, 3, [], 8, 4, 7500), (false, 2, 0, [1, 3], 18, 12, 5000),
      (false, 2, 1, [3], 12, 6, 5000), (false, 0, 1, [3], 12, 6, 5000)] := by decide +kernel
example : summary (computeRaireAssertionsG gapEx asnEx CEx4 cvrsEx4 2 100000) =
    some [(true, 0, 3, [], 12, 9, 10000), (true, 2, 3, [], 8, 4, 7500), (false, 2, 0, [1, 3], 18, 12, 5000),
      (false, 2, 1, [3], 12, 6, 5000), (false, 0, 1, [3], 12, 6, 5000)] := summary_run4G
example : ∃ as, computeRaireAssertionsG gapEx asnEx CEx4 cvrsEx4 2 100000 = Res.ok as ∧ as ≠ [] ∧
    ∀ π, Alt CEx4.candidates 2 π → ∃ a ∈ as, contradicts a π :=
  let ⟨as, h, hne⟩ := ok_of_summary summary_run4G
  ⟨as, h, hne, raire_sufficient_gap gapEx (fun l => by cases l <;> rfl) asnEx CEx4 cvrsEx4 2
    (by decide) (by decide) 100000 as h hne⟩
-- hypothesis `hπ` of `wrong_winner_empty` for reported winner 0: the order 2, 0, 1 ends in another candidate
-- (hypothesis `hv`, that it is a possible IRV count, needs the round-by-round form of `validIRV`: `C04.strictEx`)
example : Alt CEx.candidates 0 [2, 0, 1] := ⟨by decide, [2, 0], 1, rfl, by decide⟩

end Shangrla.C04
