/-
  The audit-level risk limit when an assertion uses only SOME of the drawn cards (style-based sampling:
  `mvrs_to_data` keeps the cards that list the contest; C06/C07).

  `d : α → Option ℚ` gives the assertion's datum for a card, `none` when the card is not used for it.  Drawing
  the whole population in uniformly random order and looking only at the used cards is drawing the used cards in
  uniformly random order (`hitG_filterMap`): so a test that is sequentially valid on the sub-population of used
  cards bounds the probability that the audit is ever reported complete.
-/
import Shangrla.Props.RiskLimit

namespace Shangrla.RiskLimit
open Shangrla Shangrla.Ville Shangrla.Status Shangrla.AuditLoop

/-! ### draws as (picked item, rest) pairs -/

/-- every way to take one item out of a list, in index order -/
def picks {α : Type} : List α → List (α × List α)
  | [] => []
  | a :: R => (a, R) :: (picks R).map (fun x => (x.1, a :: x.2))

theorem picks_length {α : Type} : ∀ R : List α, (picks R).length = R.length
  | [] => rfl
  | a :: R => by simp [picks, picks_length R]

theorem picks_map_fst {α : Type} : ∀ R : List α, (picks R).map (·.1) = R
  | [] => rfl
  | a :: R => by simp [picks, List.map_map, Function.comp_def, picks_map_fst R]

theorem exists_pick {α : Type} : ∀ (R : List α) (b : α), b ∈ R → ∃ x ∈ picks R, x.1 = b
  | a :: R, b, hb => by
    rcases List.mem_cons.1 hb with rfl | hb
    · exact ⟨(b, R), List.mem_cons_self, rfl⟩
    · obtain ⟨y, hy, rfl⟩ := exists_pick R b hb
      exact ⟨(y.1, a :: y.2), List.mem_cons_of_mem _ (List.mem_map.2 ⟨y, hy, rfl⟩), rfl⟩

theorem mem_picks_perm {α : Type} : ∀ (R : List α) (x : α × List α), x ∈ picks R → (x.1 :: x.2).Perm R
  | [], x, hx => by simp [picks] at hx
  | a :: R, x, hx => by
    simp only [picks, List.mem_cons, List.mem_map] at hx
    rcases hx with rfl | ⟨y, hy, rfl⟩
    · exact List.Perm.refl _
    · exact (List.Perm.swap _ _ _).trans ((mem_picks_perm R y hy).cons a)

theorem mem_picks_length {α : Type} (R : List α) (x : α × List α) (hx : x ∈ picks R) : x.2.length + 1 = R.length :=
  (mem_picks_perm R x hx).length_eq

theorem sum_range_picks {α : Type} : ∀ (R : List α) (F : α → List α → ℚ),
    ((List.range R.length).map (fun i => match R[i]? with
      | some a => F a (R.eraseIdx i)
      | none => 0)).sum = ((picks R).map (fun x => F x.1 x.2)).sum
  | [], F => by simp [picks]
  | a :: R, F => by
    have ih := sum_range_picks R (fun b r => F b (a :: r))
    simp only [List.length_cons, List.range_succ_eq_map, List.map_cons, List.sum_cons, List.map_map, picks]
    -- index 0 is the pick `(a, R)`; the indices `i + 1` and the other picks are the two sides of `ih`
    exact congrArg (F a R + ·) ih

theorem hitG_succ {α : Type} (ev : List α → Bool) (fuel : Nat) (R h : List α) :
    hitG ev (fuel + 1) R h =
      if ev h then 1 else if R = [] then 0
      else ((picks R).map (fun x => hitG ev fuel x.2 (h ++ [x.1]))).sum / R.length := by
  rw [hitG]
  split
  · rfl
  · split
    · rfl
    · exact congrArg (· / _) (sum_range_picks R (fun a r => hitG ev fuel r (h ++ [a])))

/-! ### fuel beyond the number of remaining items changes nothing -/

theorem hitG_fuel {α : Type} (ev : List α → Bool) : ∀ (f1 f2 : Nat) (R h : List α), R.length ≤ f1 → R.length ≤ f2 →
    hitG ev f1 R h = hitG ev f2 R h := by
  intro f1
  induction f1 with
  | zero =>
    intro f2 R h h1 _
    obtain rfl := List.length_eq_zero_iff.mp (Nat.le_zero.mp h1)
    rw [hitG_nil, hitG_nil]
  | succ f1 ih =>
    intro f2 R h h1 h2
    cases f2 with
    | zero =>
      obtain rfl := List.length_eq_zero_iff.mp (Nat.le_zero.mp h2)
      rw [hitG_nil, hitG_nil]
    | succ f2 =>
      rw [hitG_succ, hitG_succ]
      congr 4
      apply List.map_congr_left
      intro x hx
      have := mem_picks_length R x hx
      exact ih f2 x.2 _ (by omega) (by omega)

theorem hitEv_fuel (ev : List ℚ → Bool) : ∀ (f1 f2 : Nat) (R h : List ℚ), R.length ≤ f1 → R.length ≤ f2 →
    hitEv ev f1 R h = hitEv ev f2 R h := by
  intro f1 f2 R h h1 h2
  rw [hitEv_eq_hitG, hitEv_eq_hitG]
  exact hitG_fuel ev f1 f2 R h h1 h2

/-- the recursion of `hitG` with the fuel kept -/
theorem sum_picks_hitG {α : Type} (ev : List α → Bool) (fuel : Nat) (R h : List α) (hf : R.length ≤ fuel)
    (he : ¬ ev h = true) :
    ((picks R).map (fun x => hitG ev fuel x.2 (h ++ [x.1]))).sum = (R.length : ℚ) * hitG ev fuel R h := by
  by_cases hR : R = []
  · subst hR; simp [picks]
  · have hpos : 0 < R.length := List.length_pos_iff.mpr hR
    obtain ⟨f, rfl⟩ : ∃ f, fuel = f + 1 := ⟨fuel - 1, by omega⟩
    have hn : (R.length : ℚ) ≠ 0 := by exact_mod_cast hpos.ne'
    rw [hitG_succ, if_neg he, if_neg hR, mul_div_cancel₀ _ hn]
    congr 1
    apply List.map_congr_left
    intro x hx
    have := mem_picks_length R x hx
    exact hitG_fuel ev _ _ _ _ (by omega) (by omega)

/-! ### the sub-population lemma -/

/-- splitting a sum over the draws of `R` into the draws of used cards (which are the draws of the
sub-population `R.filterMap d`) and the draws of unused cards (which leave the sub-population as it is) -/
theorem sum_picks_filterMapG {α β : Type} (d : α → Option β) : ∀ (R : List α) (F : Option β → List β → ℚ),
    ((picks R).map (fun x => F (d x.1) (x.2.filterMap d))).sum
      = ((R.length : ℚ) - ((R.filterMap d).length : ℚ)) * F none (R.filterMap d)
        + ((picks (R.filterMap d)).map (fun x => F (some x.1) x.2)).sum
  | [], F => by simp [picks]
  | a :: R, F => by
    cases hda : d a with
    | none =>
      have ih := sum_picks_filterMapG d R F
      simp only [picks, List.map_cons, List.sum_cons, List.map_map, Function.comp_def, hda, List.filterMap_cons,
        List.length_cons, Nat.cast_succ] at ih ⊢
      rw [ih]
      ring
    | some y =>
      have ih := sum_picks_filterMapG d R (fun o r => F o (y :: r))
      simp only [picks, List.map_cons, List.sum_cons, List.map_map, Function.comp_def, hda, List.filterMap_cons,
        List.length_cons, Nat.cast_succ] at ih ⊢
      rw [ih]
      ring

theorem sum_picks_filterMap {α : Type} (d : α → Option ℚ) : ∀ (R : List α) (c : List ℚ → ℚ) (Ψ : ℚ → List ℚ → ℚ),
    ((picks R).map (fun x => match d x.1 with
      | none => c (x.2.filterMap d)
      | some y => Ψ y (x.2.filterMap d))).sum
      = ((R.length : ℚ) - ((R.filterMap d).length : ℚ)) * c (R.filterMap d)
        + ((picks (R.filterMap d)).map (fun x => Ψ x.1 x.2)).sum :=
  fun R c Ψ => sum_picks_filterMapG d R (fun o r => match o with
    | none => c r
    | some y => Ψ y r)

/-- **drawing the population and looking at the used cards = drawing the used cards.**  An event that sees
the drawn cards only through the data of the used ones has, on the draw tree of the whole population, the
probability it has on the draw tree of the sub-population. -/
theorem hitG_filterMapG {α β : Type} (d : α → Option β) (ev : List β → Bool) :
    ∀ (fuel : Nat) (R h : List α) (fuel' : Nat), R.length ≤ fuel → (R.filterMap d).length ≤ fuel' →
      hitG (fun h => ev (h.filterMap d)) fuel R h = hitG ev fuel' (R.filterMap d) (h.filterMap d) := by
  intro fuel
  induction fuel with
  | zero =>
    intro R h fuel' h1 _
    obtain rfl := List.length_eq_zero_iff.mp (Nat.le_zero.mp h1)
    rw [hitG_nil, List.filterMap_nil, hitG_nil]
  | succ fuel ih =>
    intro R h fuel' h1 h2
    by_cases he : ev (h.filterMap d) = true
    · rw [hitG_of_ev (ev := fun h => ev (h.filterMap d)) he, hitG_of_ev he]
    by_cases hR : R = []
    · subst hR
      rw [hitG_nil, List.filterMap_nil, hitG_nil]
    have hn : (R.length : ℚ) ≠ 0 := by exact_mod_cast (List.length_pos_iff.mpr hR).ne'
    -- every branch, by the induction hypothesis, is a value on the sub-population with fuel `fuel'`
    have hbranch : ((picks R).map (fun x => hitG (fun h => ev (h.filterMap d)) fuel x.2 (h ++ [x.1]))).sum
        = ((picks R).map (fun x => hitG ev fuel' (x.2.filterMap d) (h.filterMap d ++ (d x.1).toList))).sum := by
      congr 1
      apply List.map_congr_left
      intro x hx
      have hl := mem_picks_length R x hx
      have hsub : (x.2.filterMap d).length ≤ (R.filterMap d).length :=
        ((List.sublist_cons_self x.1 x.2).filterMap d).length_le.trans_eq ((mem_picks_perm R x hx).filterMap d).length_eq
      rw [ih x.2 (h ++ [x.1]) fuel' (by omega) (by omega)]
      cases hdx : d x.1 <;> simp [List.filterMap_append, hdx]
    -- the draws of unused cards leave the value as it is; those of used cards add up to `|R'|` times it
    rw [hitG_succ, if_neg he, if_neg hR, div_eq_iff hn, hbranch,
      sum_picks_filterMapG d R (fun o r => hitG ev fuel' r (h.filterMap d ++ o.toList))]
    simp only [Option.toList_none, Option.toList_some, List.append_nil]
    rw [sum_picks_hitG ev fuel' (R.filterMap d) (h.filterMap d) h2 he]
    ring

theorem hitG_filterMap {α : Type} (d : α → Option ℚ) (ev : List ℚ → Bool) :
    ∀ (fuel : Nat) (R h : List α) (fuel' : Nat), R.length ≤ fuel → (R.filterMap d).length ≤ fuel' →
      hitG (fun h => ev (h.filterMap d)) fuel R h = hitEv ev fuel' (R.filterMap d) (h.filterMap d) := by
  intro fuel R h fuel' h1 h2
  rw [hitEv_eq_hitG]
  exact hitG_filterMapG d ev fuel R h fuel' h1 h2

theorem hitG_filterMap_le {α : Type} (d : α → Option ℚ) (ev₁ : List α → Bool) (ev : List ℚ → Bool)
    (himp : ∀ h, ev₁ h = true → ev (h.filterMap d) = true) (cards : List α) :
    hitG ev₁ cards.length cards [] ≤ hitEv ev (cards.filterMap d).length (cards.filterMap d) [] :=
  le_of_le_of_eq (hitG_mono _ _ himp _ _ _) (hitG_filterMap d ev _ cards [] _ (le_refl _) (le_refl _))

theorem take_filterMap_prefix {α β : Type} (d : α → Option β) : ∀ (L : List α) (m : Nat),
    ∃ k, (L.take k).filterMap d = (L.filterMap d).take m
  | [], m => ⟨0, by simp⟩
  | x :: L, 0 => ⟨0, by simp⟩
  | x :: L, m + 1 => by
    cases hx : d x with
    | none =>
      obtain ⟨k, hk⟩ := take_filterMap_prefix d L (m + 1)
      exact ⟨k + 1, by simp [hx, hk]⟩
    | some y =>
      obtain ⟨k, hk⟩ := take_filterMap_prefix d L m
      exact ⟨k + 1, by simp [hx, hk]⟩

/-! ### the audit when an assertion's datum exists only for the cards it uses (`Option` data) -/

theorem auditCompleteOpt_some {α : Type} (data : String → String → α → ℚ) (T : String → String → SeqTest)
    (s : State) (h : List α) :
    auditCompleteOpt (fun c n x => some (data c n x)) T s h = auditComplete data T s h := by
  unfold auditCompleteOpt auditComplete testOnOpt testOn
  simp [List.filterMap_eq_map']

/-- when every assertion reads its datum off the same view `d x` of a card (`none`: no assertion uses the card), the
style-based loop on the cards is the style-based loop on the views of the used cards -/
theorem auditCompleteOpt_bind {α β : Type} (d : α → Option β) (data : String → String → β → Option ℚ)
    (T : String → String → SeqTest) (s : State) (h : List α) :
    auditCompleteOpt (fun c n x => (d x).bind (data c n)) T s h = auditCompleteOpt data T s (h.filterMap d) := by
  unfold auditCompleteOpt testOnOpt
  simp only [List.filterMap_filterMap]

/-- the draw tree of the cards may be replaced by that of the views: on a concrete population, the views are
computed once -/
theorem hitG_auditCompleteOpt_bind {α β : Type} (d : α → Option β) (data : String → String → β → Option ℚ)
    (T : String → String → SeqTest) (s : State) (cards : List α) :
    hitG (auditCompleteOpt (fun c n x => (d x).bind (data c n)) T s) cards.length cards []
      = hitG (auditCompleteOpt data T s) (cards.filterMap d).length (cards.filterMap d) [] := by
  rw [show auditCompleteOpt (fun c n x => (d x).bind (data c n)) T s
    = fun h => auditCompleteOpt data T s (h.filterMap d) from funext (auditCompleteOpt_bind d data T s)]
  exact hitG_filterMapG d _ _ cards [] _ (le_refl _) (le_refl _)

theorem hitG_auditCompleteOpt_const {α : Type} (d : α → Option ℚ) (T : String → String → SeqTest) (s : State)
    (cards : List α) :
    hitG (auditCompleteOpt (fun _ _ => d) T s) cards.length cards []
      = hitG (auditCompleteOpt (fun _ _ q => some q) T s) (cards.filterMap d).length (cards.filterMap d) [] := by
  simpa only [Option.bind_fun_some] using hitG_auditCompleteOpt_bind d (fun _ _ q => some q) T s cards

theorem le_testOnOpt {α : Type} (data : String → String → α → Option ℚ) (T : String → String → SeqTest)
    (h : List α) (cid name : String) (alpha : ℚ) :
    XR.le (testOnOpt data T h cid name).1 (XR.fin alpha)
      = pLe (T cid name) alpha (h.filterMap (data cid name)) := by
  unfold testOnOpt pLe
  cases T cid name (h.filterMap (data cid name)) <;> rfl

theorem completeOpt_forces {α : Type} (data : String → String → α → Option ℚ) (T : String → String → SeqTest)
    (s : State) (c : Contest) (hc : c ∈ s) (a : Assertion) (ha : a ∈ c.assertions) (h : List α)
    (hcomp : auditCompleteOpt data T s h = true) :
    pLe (T c.id a.name) c.riskLimit (h.filterMap (data c.id a.name)) = true := by
  rw [← le_testOnOpt]
  exact ((C09.complete_after_set (testOnOpt data T h) s).1 hcomp c hc).2 a ha

/-- **Risk limit of the audit, style-based.**  As `audit_risk_limit`, each assertion using only the drawn
cards for which its `data` is `some _` (the cards listing its contest): if the test of one assertion of one
contest is sequentially valid on the sub-population of the cards it uses, the audit is ever reported complete
with probability at most that contest's risk limit. -/
theorem audit_risk_limit_style {α : Type} (data : String → String → α → Option ℚ)
    (T : String → String → SeqTest) (s : State) (c : Contest) (hc : c ∈ s) (a : Assertion)
    (ha : a ∈ c.assertions) (cards : List α)
    (hC01 : hitEv (pLe (T c.id a.name) c.riskLimit) (cards.filterMap (data c.id a.name)).length
      (cards.filterMap (data c.id a.name)) [] ≤ c.riskLimit) :
    hitG (auditCompleteOpt data T s) cards.length cards [] ≤ c.riskLimit :=
  le_trans (hitG_filterMap_le (data c.id a.name) _ _ (completeOpt_forces data T s c hc a ha) cards) hC01

theorem pLe_style_run_bound {α : Type} (d : α → Option ℚ) (T0 : SeqTest) (alpha : ℚ) (cards : List α)
    (sqrtF : ℚ → ℚ) (cfg : NM.Cfg) (test : NM.Test)
    (hN : cfg.N = some (cards.filterMap d).length) (hT : T0 = NM.run sqrtF cfg test)
    (hdoc : C01.DocumentedFinite sqrtF cfg test) (hr0 : 0 < alpha) (hr1 : alpha < 1)
    (hrange : ∀ v ∈ cards.filterMap d, 0 ≤ v ∧ v ≤ cfg.u)
    (hnull : (cards.filterMap d).sum ≤ ((cards.filterMap d).length : ℚ) * cfg.t) :
    hitG (fun h => pLe T0 alpha (h.filterMap d)) cards.length cards [] ≤ alpha :=
  le_trans (hitG_filterMap_le d _ _ (fun _ h => anyLe_of_pLe (hT ▸ h)) cards)
    (C01.C01_finite_run sqrtF cfg _ hN test hdoc alpha hr0 hr1 _ rfl hrange hnull)

/-- `audit_risk_limit_style` with `NonnegMean.test` in its documented range, `N` = the number of cards the assertion
uses -/
theorem audit_risk_limit_style_run {α : Type} (data : String → String → α → Option ℚ)
    (T : String → String → SeqTest) (s : State) (c : Contest) (hc : c ∈ s) (a : Assertion)
    (ha : a ∈ c.assertions) (cards : List α) (sqrtF : ℚ → ℚ) (cfg : NM.Cfg) (test : NM.Test)
    (hN : cfg.N = some (cards.filterMap (data c.id a.name)).length)
    (hT : T c.id a.name = NM.run sqrtF cfg test)
    (hdoc : C01.DocumentedFinite sqrtF cfg test)
    (hr0 : 0 < c.riskLimit) (hr1 : c.riskLimit < 1)
    (hrange : ∀ v ∈ cards.filterMap (data c.id a.name), 0 ≤ v ∧ v ≤ cfg.u)
    (hnull : (cards.filterMap (data c.id a.name)).sum
      ≤ ((cards.filterMap (data c.id a.name)).length : ℚ) * cfg.t) :
    hitG (auditCompleteOpt data T s) cards.length cards [] ≤ c.riskLimit :=
  le_trans (hitG_mono _ _ (completeOpt_forces data T s c hc a ha) _ _ _)
    (pLe_style_run_bound _ _ _ cards sqrtF cfg test hN hT hdoc hr0 hr1 hrange hnull)

/-! ### non-vacuity -/

section example_
open Shangrla.NM

/-- a card either lists the contest (with the values of assertions `a` and `b`) or does not -/
def dataS : String → String → Option (ℚ × ℚ) → Option ℚ :=
  fun _ name x => x.map (fun p => if name = "a" then p.1 else p.2)
/-- five cards, one of which does not list the contest; on the other four assertion `a` is false -/
def cardsS : List (Option (ℚ × ℚ)) := [some (1, 1), none, some (0, 1), some (1/2, 1), some (1/2, 1)]

example : hitG (auditCompleteOpt dataS TX sX) 5 cardsS [] ≤ 3/5 :=
  audit_risk_limit_style_run dataS TX sX _ (List.mem_singleton.2 rfl) { name := "a" } (List.mem_cons_self ..)
    cardsS sqrtRat cfgX (.alpha .fixedAlt) rfl rfl (documentedFinite_alpha_fixed (by decide +kernel) rfl rfl)
    (by decide +kernel) (by decide +kernel) (by decide +kernel) (by decide +kernel)

/-- the unused cards change nothing: the probability is that of the four-card example (`example_exact`) -/
theorem example_style_exact : hitG (auditCompleteOpt dataS TX sX) 5 cardsS [] = 5/12 := by
  have hdata : dataS = fun c n x => (id x).bind (fun p => some (dataX c n p)) := by
    funext c n x
    cases x <;> rfl
  rw [hdata]
  refine (hitG_auditCompleteOpt_bind id _ TX sX cardsS).trans ?_
  rw [funext (auditCompleteOpt_some dataX TX sX)]
  exact example_exact

end example_

end Shangrla.RiskLimit
