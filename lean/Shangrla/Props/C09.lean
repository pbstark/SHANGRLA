/-
  C09 — the audit completes only when every assertion of every contest meets its risk limit.

  Theorems are about the literal models that the driver executes:
  `setPValues` (Assertion.set_p_values), `resetPValues` (Assertion.reset_p_values),
  `summarizeStatus` (Audit.summarize_status), `checkAuditParameters` (Audit.check_audit_parameters).

  The statistical test and the extraction of an assertion's data are a PARAMETER
  `test : contest id → assertion name → XR × List XR` ("what `asn.test.test(asn.mvrs_to_data(...))`
  returns"); every theorem is for every `test`, every number of contests and assertions, every initial
  mix of confirmed / unconfirmed assertions.  p-values live in `XR`, so NaN is inside the quantifier.
-/
import Shangrla.Model.Status
import Shangrla.Lemmas.Status

namespace Shangrla.C09
open Shangrla Shangrla.Status Shangrla.StatusL

theorem exists_mem_map {α β} {f : α → β} {l : List α} {P : β → Prop} :
    (∃ y ∈ l.map f, P y) ↔ ∃ x ∈ l, P (f x) :=
  ⟨fun ⟨_, hy, h⟩ => by obtain ⟨x, hx, rfl⟩ := List.mem_map.1 hy; exact ⟨x, hx, h⟩,
    fun ⟨x, hx, h⟩ => ⟨f x, List.mem_map_of_mem hx, h⟩⟩

/-- nan-propagating maximum of `0` and the entries of `l`, accumulated left to right
    (`m = 0; for p in l: m = np.max([m, p])`) -/
def maxFrom0 (l : List XR) : XR := foldMax 0 l

/-- the p-values recorded on the assertions of `c`, in order: what the contest's `max_p` is taken over -/
def pvals (c : Contest) : List XR := c.assertions.map (·.pValue)

theorem exists_pvals_iff (c : Contest) (P : XR → Prop) :
    (∃ p ∈ pvals c, P p) ↔ ∃ a ∈ c.assertions, P a.pValue := exists_mem_map

/-- the whole effect of `set_p_values` on the assertions: same contests and assertions in the same order,
    each assertion rewritten by `updAssertion` (p-value and history from the test, `proved` or-ed). -/
theorem set_assertions (test : Test) (s : State) :
    (setPValues test s).2.map (fun c => (c.id, c.riskLimit, c.assertions))
      = s.map (fun c => (c.id, c.riskLimit, c.assertions.map (updAssertion test c))) := by
  rw [setPValues_eq]
  simp [List.map_map, setContest_eq, Function.comp_def]

theorem mem_set {test : Test} {s : State} {c' : Contest} (h : c' ∈ (setPValues test s).2) :
    ∃ c ∈ s, c' = (setContest test c).2 := by
  rw [setPValues_eq] at h
  obtain ⟨c, hc, rfl⟩ := List.mem_map.1 h
  exact ⟨c, hc, rfl⟩

/-- **C09, recorded p-values.** After `set_p_values` the contests and the assertion names are unchanged and every
assertion's recorded `(p_value, p_history)` is exactly the pair the test returned for it — for every test. -/
theorem pvalues_are_tests (test : Test) (s : State) :
    (setPValues test s).2.map (fun c => (c.id, c.riskLimit, c.assertions.map (·.name)))
        = s.map (fun c => (c.id, c.riskLimit, c.assertions.map (·.name)))
    ∧ ∀ c' ∈ (setPValues test s).2, ∀ a' ∈ c'.assertions,
        (a'.pValue, a'.pHistory) = test c'.id a'.name := by
  constructor
  · rw [setPValues_eq]
    simp [List.map_map, setContest_eq, Function.comp_def, updAssertion]
  · intro c' hc' a' ha'
    obtain ⟨c, _, rfl⟩ := mem_set hc'
    rw [setContest_eq] at ha' ⊢
    obtain ⟨a, _, rfl⟩ := List.mem_map.1 ha'
    rfl

/-- as one equation of lists: order and multiplicity of contests and assertions are kept as well -/
theorem pvalues_are_tests_pos (test : Test) (s : State) :
    (setPValues test s).2.map (fun c => c.assertions.map (fun a => (a.name, a.pValue, a.pHistory)))
      = s.map (fun c => c.assertions.map (fun a => (a.name, (test c.id a.name).1, (test c.id a.name).2))) := by
  rw [setPValues_eq]
  simp [List.map_map, setContest_eq, Function.comp_def, updAssertion]

theorem maxFrom0_nan_iff (l : List XR) : (maxFrom0 l).isNan = true ↔ ∃ p ∈ l, p.isNan = true := by
  unfold maxFrom0
  rw [foldMax_isNan]
  simp [XR.isNan, List.any_eq_true]

theorem maxFrom0_bound (l : List XR) (hn : ∀ p ∈ l, p.isNan = false) :
    (maxFrom0 l = 0 ∨ maxFrom0 l ∈ l) ∧ XR.le 0 (maxFrom0 l) = true ∧ ∀ p ∈ l, XR.le p (maxFrom0 l) = true :=
  foldMax_spec l 0 rfl hn

theorem maxFrom0_largest (l : List XR) (hne : l ≠ []) (hn : ∀ p ∈ l, p.isNan = false)
    (h0 : ∀ p ∈ l, XR.le 0 p = true) :
    maxFrom0 l ∈ l ∧ ∀ p ∈ l, XR.le p (maxFrom0 l) = true := by
  obtain ⟨h1, _, h3⟩ := maxFrom0_bound l hn
  refine ⟨h1.elim (fun h1 => ?_) id, h3⟩
  -- the maximum is 0: an entry of `l` is between 0 and 0
  obtain ⟨p, hp⟩ := List.exists_mem_of_ne_nil l hne
  rw [h1, ← xr_le_antisymm (h1 ▸ h3 p hp) (h0 p hp)]
  exact hp

/-- **C09, contest maximum.** After `set_p_values` each contest's `max_p` is the nan-propagating maximum over `0` and
its assertions' p-values (exactly `cpmax`, the "measured risk" of `summarize_status`); it is NaN iff some
p-value is NaN; and when no p-value is NaN and all are `≥ 0` (and there is one) it is the largest of them. -/
theorem contest_max (test : Test) (s : State) :
    ∀ c' ∈ (setPValues test s).2,
      c'.maxP = some (maxFrom0 (pvals c')) ∧ c'.maxP = some (cpmax c')
      ∧ ((maxFrom0 (pvals c')).isNan = true ↔ ∃ a ∈ c'.assertions, a.pValue.isNan = true)
      ∧ (c'.assertions ≠ [] → (∀ a ∈ c'.assertions, a.pValue.isNan = false) →
          (∀ a ∈ c'.assertions, XR.le 0 a.pValue = true) →
            (∃ a ∈ c'.assertions, maxFrom0 (pvals c') = a.pValue)
            ∧ ∀ a ∈ c'.assertions, XR.le a.pValue (maxFrom0 (pvals c')) = true) := by
  intro c' hc'
  obtain ⟨c, _, rfl⟩ := mem_set hc'
  have e : (setContest test c).2.maxP = some (cpmax (setContest test c).2) := by
    rw [← setContest_fst, setContest_eq]
  refine ⟨e.trans (congrArg some (cpmax_eq _)), e, (maxFrom0_nan_iff _).trans (exists_pvals_iff _ _), ?_⟩
  intro hne hn h0
  obtain ⟨h1, h2⟩ := maxFrom0_largest (pvals (setContest test c).2) (mt List.map_eq_nil_iff.mp hne)
    (List.forall_mem_map.mpr hn) (List.forall_mem_map.mpr h0)
  exact ⟨(exists_pvals_iff _ (maxFrom0 (pvals (setContest test c).2) = ·)).mp ⟨_, h1, rfl⟩,
    List.forall_mem_map.mp h2⟩

/-- **C09, returned maximum.** The value `set_p_values` returns is the nan-propagating maximum over `0` and the contests'
`max_p` (each of which is that contest's `cpmax`, by `contest_max`). -/
theorem audit_max (test : Test) (s : State) :
    (setPValues test s).1 = maxFrom0 ((setPValues test s).2.map cpmax)
    ∧ (setPValues test s).2.map (·.maxP) = (setPValues test s).2.map (fun c => some (cpmax c)) := by
  constructor
  · rw [setPValues_eq, List.map_map]
    exact congrArg maxFrom0 (List.map_congr_left fun c _ => setContest_fst test c)
  · exact List.map_congr_left fun c' hc' => (contest_max test s c' hc').2.1

theorem audit_max_nan_iff (test : Test) (s : State) :
    (setPValues test s).1.isNan = true ↔
      ∃ c' ∈ (setPValues test s).2, ∃ a ∈ c'.assertions, a.pValue.isNan = true := by
  rw [(audit_max test s).1, maxFrom0_nan_iff, exists_mem_map]
  refine exists_congr fun c' => and_congr_right fun _ => ?_
  rw [cpmax_eq]
  exact (maxFrom0_nan_iff (pvals c')).trans (exists_pvals_iff c' _)

/-- without NaN the returned value bounds every p-value of every assertion of every contest, and is `0`
or one of those p-values: it is the largest p-value in the audit (or `0` if all are below `0` / none exists) -/
theorem audit_max_largest (test : Test) (s : State)
    (hn : ∀ c' ∈ (setPValues test s).2, ∀ a ∈ c'.assertions, a.pValue.isNan = false) :
    (∀ c' ∈ (setPValues test s).2, ∀ a ∈ c'.assertions, XR.le a.pValue (setPValues test s).1 = true)
    ∧ ((setPValues test s).1 = 0
        ∨ ∃ c' ∈ (setPValues test s).2, ∃ a ∈ c'.assertions, (setPValues test s).1 = a.pValue) := by
  have hR : (setPValues test s).1.isNan = false := by
    cases h : (setPValues test s).1.isNan
    · rfl
    · obtain ⟨c', hc', a, ha, hna⟩ := (audit_max_nan_iff test s).mp h
      rw [hn c' hc' a ha] at hna
      cases hna
  -- the returned value is a running maximum of running maxima: use the invariant of `foldMax` twice
  have hle := xr_le_refl hR
  rw [(audit_max test s).1] at hle ⊢
  unfold maxFrom0 at hle ⊢
  constructor
  · intro c' hc' a ha
    have h1 := ((foldMax_le_iff _ _ 0).mp hle).2 (cpmax c') (List.mem_map_of_mem hc')
    rw [cpmax_eq] at h1
    exact ((foldMax_le_iff _ _ 0).mp h1).2 a.pValue (List.mem_map_of_mem ha)
  · rcases List.mem_cons.mp (foldMax_mem ((setPValues test s).2.map cpmax) 0) with h | h
    · exact Or.inl h
    · obtain ⟨c', hc', e⟩ := List.mem_map.mp h
      rw [cpmax_eq] at e
      rcases List.mem_cons.mp (foldMax_mem (pvals c') 0) with h' | h'
      · exact Or.inl (e.symm.trans h')
      · obtain ⟨a, ha, e'⟩ := List.mem_map.mp h'
        exact Or.inr ⟨c', hc', a, ha, e.symm.trans e'.symm⟩

/-- **C09, confirmation.** `proved' = (p ≤ risk limit of the assertion's own contest) or proved`, where `p` is the
p-value the test returned, `≤` is IEEE (false on NaN, so a NaN p-value never confirms)
and `proved` is the flag before the call. -/
theorem proved_sticky (test : Test) (s : State) :
    (setPValues test s).2.map (fun c => c.assertions.map (fun a => (a.name, a.proved)))
      = s.map (fun c => c.assertions.map (fun a =>
          (a.name, XR.le (test c.id a.name).1 (XR.fin c.riskLimit) || a.proved))) := by
  rw [setPValues_eq]
  simp [List.map_map, setContest_eq, Function.comp_def, updAssertion]

theorem proved_of_le (test : Test) (s : State) :
    ∀ c' ∈ (setPValues test s).2, ∀ a' ∈ c'.assertions,
      XR.le a'.pValue (XR.fin c'.riskLimit) = true → a'.proved = true := by
  intro c' hc' a' ha' h
  obtain ⟨c, _, rfl⟩ := mem_set hc'
  rw [setContest_eq] at ha' h
  obtain ⟨a, _, rfl⟩ := List.mem_map.1 ha'
  simp only [updAssertion] at h ⊢
  simp [h]

theorem unproved_only_if (test : Test) (s : State) :
    ∀ c ∈ s, ∀ a ∈ c.assertions, (updAssertion test c a).proved = false →
      a.proved = false ∧ XR.le (test c.id a.name).1 (XR.fin c.riskLimit) = false := by
  intro c _ a _ h
  simp only [updAssertion, Bool.or_eq_false_iff] at h
  exact ⟨h.2, h.1⟩

/-- the dicts `con.p_values` / `con.proved` mirror the assertions (dict keys are distinct) -/
theorem dicts_mirror (test : Test) (s : State)
    (hnd : ∀ c ∈ s, (c.assertions.map (·.name)).Nodup) :
    ∀ c' ∈ (setPValues test s).2,
      c'.pValues = some (c'.assertions.map (fun a => (a.name, a.pValue)))
      ∧ c'.provedD = some (c'.assertions.map (fun a => (a.name, a.proved))) := by
  intro c' hc'
  obtain ⟨c, hc, rfl⟩ := mem_set hc'
  rw [setContest_eq]
  simp only
  rw [dictFold_of_nodup _ _ [] (by simp) (hnd c hc), dictFold_of_nodup _ _ [] (by simp) (hnd c hc)]
  simp [List.map_map, Function.comp_def, updAssertion]

/-- **C09, completion.** `summarize_status` reports the audit complete iff for every contest
`0 ≤` its risk limit and every one of its assertions has p-value `≤` that contest's own risk limit
(IEEE `≤`: a NaN p-value makes the audit incomplete).

As the code behaves: a contest with NO assertions has measured risk `0`, so it counts as complete exactly
when `0 ≤ risk_limit`; this conjunct is vacuous for every risk limit `check_audit_parameters` accepts
(see `complete_iff_checked`). -/
theorem complete_iff (s : State) :
    summarizeStatus s = true ↔
      ∀ c ∈ s, 0 ≤ c.riskLimit ∧ ∀ a ∈ c.assertions, XR.le a.pValue (XR.fin c.riskLimit) = true := by
  unfold summarizeStatus
  rw [foldl_summarize, Bool.true_and, List.all_eq_true]
  exact forall₂_congr fun c _ => by rw [cpmax_eq, foldMax0_le_iff, List.forall_mem_map]

/-- for non-negative risk limits (in particular all that `check_audit_parameters` accepts) the statement
of the property, verbatim -/
theorem complete_iff_nonneg (s : State) (h0 : ∀ c ∈ s, 0 ≤ c.riskLimit) :
    summarizeStatus s = true ↔
      ∀ c ∈ s, ∀ a ∈ c.assertions, XR.le a.pValue (XR.fin c.riskLimit) = true :=
  (complete_iff s).trans (forall₂_congr fun c hc => and_iff_right (h0 c hc))

theorem nan_incomplete (s : State) (c : Contest) (hc : c ∈ s) (a : Assertion) (ha : a ∈ c.assertions)
    (hn : a.pValue = XR.nan) : summarizeStatus s = false := by
  refine Bool.eq_false_iff.mpr fun h => ?_
  have := ((complete_iff s).1 h c hc).2 a ha
  rw [hn] at this
  cases this

theorem complete_after_set (test : Test) (s : State) :
    summarizeStatus (setPValues test s).2 = true ↔
      ∀ c ∈ s, 0 ≤ c.riskLimit ∧
        ∀ a ∈ c.assertions, XR.le (test c.id a.name).1 (XR.fin c.riskLimit) = true := by
  rw [complete_iff, setPValues_eq, List.forall_mem_map]
  refine forall₂_congr fun c _ => ?_
  rw [setContest_eq]
  exact and_congr_right' List.forall_mem_map

theorem complete_all_proved (test : Test) (s : State)
    (h : summarizeStatus (setPValues test s).2 = true) :
    ∀ c' ∈ (setPValues test s).2, ∀ a' ∈ c'.assertions, a'.proved = true := by
  intro c' hc' a' ha'
  exact proved_of_le test s c' hc' a' ha' (((complete_iff _).1 h c' hc').2 a' ha')

/-- the assertion after Audit.py L2348-2349 -/
def resetAssertion (a : Assertion) : Assertion := { a with pValue := 1, pHistory := [], proved := false }

theorem resetContest_eq (c : Contest) :
    resetContest c =
      { c with assertions := c.assertions.map resetAssertion,
               pValues := some (dictFold (fun _ => (1 : XR)) [] c.assertions),
               provedD := some (dictFold (fun _ => false) [] c.assertions),
               maxP := some 1 } := by
  unfold resetContest
  rw [foldl_resetStep]
  simp [resetAssertion]

/-- **C09, reset.** After `reset_p_values`: same contests, same assertion names, same order; every p-value is
`1`, every history empty, every assertion unconfirmed, every `max_p = 1`; the call returns `True`. -/
theorem reset_restores (s : State) :
    (resetPValues s).1 = true
    ∧ (resetPValues s).2.map (fun c => (c.id, c.riskLimit, c.assertions.map (·.name)))
        = s.map (fun c => (c.id, c.riskLimit, c.assertions.map (·.name)))
    ∧ ∀ c' ∈ (resetPValues s).2,
        c'.maxP = some 1 ∧
        ∀ a' ∈ c'.assertions, a'.pValue = 1 ∧ a'.pHistory = [] ∧ a'.proved = false := by
  refine ⟨rfl, ?_, ?_⟩
  · simp [resetPValues, List.map_map, resetContest_eq, Function.comp_def, resetAssertion]
  · intro c' hc'
    simp only [resetPValues] at hc'
    obtain ⟨c, _, rfl⟩ := List.mem_map.1 hc'
    rw [resetContest_eq]
    refine ⟨rfl, ?_⟩
    intro a' ha'
    obtain ⟨a, _, rfl⟩ := List.mem_map.1 ha'
    exact ⟨rfl, rfl, rfl⟩

theorem reset_dicts (s : State) (hnd : ∀ c ∈ s, (c.assertions.map (·.name)).Nodup) :
    ∀ c' ∈ (resetPValues s).2,
      c'.pValues = some (c'.assertions.map (fun a => (a.name, (1 : XR))))
      ∧ c'.provedD = some (c'.assertions.map (fun a => (a.name, false))) := by
  intro c' hc'
  simp only [resetPValues] at hc'
  obtain ⟨c, hc, rfl⟩ := List.mem_map.1 hc'
  rw [resetContest_eq]
  simp only
  rw [dictFold_of_nodup _ _ [] (by simp) (hnd c hc), dictFold_of_nodup _ _ [] (by simp) (hnd c hc)]
  simp [List.map_map, Function.comp_def, resetAssertion]

theorem reset_incomplete (s : State) (c : Contest) (hc : c ∈ s) (hl : c.riskLimit < 1)
    (hne : c.assertions ≠ []) : summarizeStatus (resetPValues s).2 = false := by
  refine Bool.eq_false_iff.mpr fun h => ?_
  -- the first assertion of `c` has p-value 1 after the reset
  obtain ⟨a, l, e⟩ := List.exists_cons_of_ne_nil hne
  have h1 := ((complete_iff _).1 h _ (List.mem_map.2 ⟨c, hc, rfl⟩)).2 (resetAssertion a)
    (by rw [resetContest_eq, e]; exact List.mem_cons_self)
  exact absurd hl (Rat.not_lt.2 (of_decide_eq_true h1))

/-- what `check_audit_parameters` demands of one contest -/
def ContestOk (c : Contest) : Prop :=
  0 < c.riskLimit ∧ c.riskLimit ≤ 1 / 2 ∧ c.choiceFunction ∈ socialChoiceFunctions ∧
  ∃ cands ws, c.candidates = some cands ∧ c.winner = some ws ∧
    c.nWinners ≤ (cands.length : Int) ∧ (ws.length : Int) = c.nWinners ∧ (∀ w ∈ ws, w ∈ cands) ∧
    (c.choiceFunction = "IRV" → c.nWinners = 1 ∧ truthyFile c.assertionFile = true)

theorem ensure_ok_iff (b : Bool) (tag cid : String) : ensure b tag cid = .ok () ↔ b = true := by
  cases b <;> simp [ensure]

theorem bindUnit_ok_iff (x : Except Err Unit) (f : Unit → Except Err Unit) :
    (x >>= f) = .ok () ↔ x = .ok () ∧ f () = .ok () := by
  cases x <;> simp [bind, Except.bind]

theorem forM_ensure_ok_iff (cands ws : List String) (cid : String) :
    (forM ws fun w => ensure (decide (w ∈ cands)) "winner_not_candidate" cid) = .ok () ↔ ∀ w ∈ ws, w ∈ cands := by
  induction ws with
  | nil => simp [pure, Except.pure]
  | cons w ws ih =>
    simp only [List.forM_cons, bindUnit_ok_iff, ensure_ok_iff, ih, List.mem_cons, forall_eq_or_imp, decide_eq_true_eq]

/- `checkContest` is a chain of `ensure`s, `ContestOk` the conjunction of what they test.  Once `candidates`,
`winner` and the IRV test are decided, `bindUnit_ok_iff` and `ensure_ok_iff` turn "the chain returns" into the
conjunction of the tested conditions (`forM_ensure_ok_iff` for the loop over the winners); the remaining lemmas
only evaluate the membership in `socialChoiceFunctions` and remove the `∃ cands ws` fixed by the two `some`s. -/
theorem checkContest_ok_iff (c : Contest) : checkContest c = .ok () ↔ ContestOk c := by
  unfold checkContest ContestOk
  cases hcands : c.candidates with
  | none => simp [bindUnit_ok_iff, throw, throwThe, MonadExceptOf.throw]
  | some cands =>
    cases hws : c.winner with
    | none => simp [bindUnit_ok_iff, throw, throwThe, MonadExceptOf.throw]
    | some ws =>
      by_cases hirv : c.choiceFunction = "IRV"
      · simp only [gt_iff_lt, socialChoiceFunctions, hirv, List.contains_eq_mem, List.mem_cons, String.reduceEq,
          List.not_mem_nil, or_false, or_true, decide_true, List.forM_eq_forM, ↓reduceIte, BEq.rfl, bindUnit_ok_iff,
          ensure_ok_iff, decide_eq_true_eq, true_and, Option.some.injEq, forall_const, exists_and_left,
          exists_eq_left', forM_ensure_ok_iff]
      · simp only [gt_iff_lt, List.contains_eq_mem, List.forM_eq_forM, List.mem_cons, hirv, List.not_mem_nil,
          or_self, decide_false, Bool.false_eq_true, ↓reduceIte, beq_iff_eq, pure, Except.pure, bindUnit_ok_iff,
          ensure_ok_iff, decide_eq_true_eq, and_true, Option.some.injEq, false_implies, exists_and_left,
          exists_eq_left', forM_ensure_ok_iff]

theorem forM_check_ok_iff (s : State) : s.forM checkContest = .ok () ↔ ∀ c ∈ s, ContestOk c := by
  induction s with
  | nil => simp [List.forM, pure, Except.pure]
  | cons c s ih =>
    simp only [List.forM, bindUnit_ok_iff, checkContest_ok_iff, ih, List.mem_cons, forall_eq_or_imp]

/-- **C09, accepted parameters.** `check_audit_parameters` returns normally iff both assumed error rates are non-negative and
every contest has risk limit in `(0, 1/2]`, a supported social choice function, no more winners than
candidates, as many reported winners as `n_winners`, every reported winner among the candidates, and — for
IRV — exactly one winner and an assertion file.  Otherwise it raises. -/
theorem params_checked (e1 e2 : Rat) (s : State) :
    checkAuditParameters e1 e2 s = .ok () ↔ 0 ≤ e1 ∧ 0 ≤ e2 ∧ ∀ c ∈ s, ContestOk c := by
  unfold checkAuditParameters
  simp only [bindUnit_ok_iff, ensure_ok_iff, decide_eq_true_eq, forM_check_ok_iff, ge_iff_le]

/-- accepted parameters make the completion criterion exactly the property's -/
theorem complete_iff_checked (e1 e2 : Rat) (s : State) (h : checkAuditParameters e1 e2 s = .ok ()) :
    summarizeStatus s = true ↔
      ∀ c ∈ s, ∀ a ∈ c.assertions, XR.le a.pValue (XR.fin c.riskLimit) = true :=
  complete_iff_nonneg s (fun c hc => Rat.le_of_lt (((params_checked e1 e2 s).1 h).2.2 c hc).1)

/-- the length check of `set_p_values` (Audit.py L2320-2321): with equal lengths (or no CVR sample) the call is the loop -/
theorem set_checked_ok (test : Test) (n : Nat) (s : State) :
    setPValuesChecked test n (some n) s = .ok (setPValues test s)
    ∧ setPValuesChecked test n none s = .ok (setPValues test s) := by
  simp [setPValuesChecked]

section Examples

-- for `decide` on equations between `Except` values; a `deriving instance` is global, the section does not confine it
deriving instance DecidableEq for Except

/-- two contests with different risk limits; the second has an assertion that was confirmed earlier -/
def ex0 : State :=
  [ { id := "mayor", riskLimit := 1 / 20,
      assertions := [{ name := "A v B" }, { name := "A v C" }],
      candidates := some ["A", "B", "C"], winner := some ["A"] },
    { id := "measure", riskLimit := 1 / 10, choiceFunction := "SUPERMAJORITY",
      assertions := [{ name := "yes v ALL_OTHERS", proved := true }],
      candidates := some ["yes", "no"], winner := some ["yes"] } ]

/-- a test table: 0.05 (exactly the limit), 0.07 (above mayor's limit, below measure's), NaN -/
def exTest : Test := fun c a =>
  if c = "mayor" ∧ a = "A v B" then (XR.fin (1 / 20), [1, XR.fin (1 / 20)])
  else if c = "mayor" ∧ a = "A v C" then (XR.fin (7 / 100), [XR.fin (7 / 100)])
  else (XR.nan, [])

def exTestOk : Test := fun c a =>
  if c = "mayor" ∧ a = "A v C" then (XR.fin (1 / 25), [XR.fin (1 / 25)]) else (XR.fin (1 / 20), [])

-- the returned maximum is NaN-propagating; max_p of "mayor" is 7/100; the NaN assertion stays confirmed (sticky)
example : (setPValues exTest ex0).1 = XR.nan := by decide +kernel
example : ((setPValues exTest ex0).2.map (·.maxP)) = [some (XR.fin (7 / 100)), some XR.nan] := by decide +kernel
example : ((setPValues exTest ex0).2.map (fun c => c.assertions.map (·.proved))) = [[true, false], [true]] := by
  decide +kernel
example : summarizeStatus (setPValues exTest ex0).2 = false := by decide +kernel
-- 7/100 would meet the OTHER contest's limit 1/10: the own limit is what counts
example : summarizeStatus [{ id := "mayor", riskLimit := 1 / 20, assertions := [{ name := "x", pValue := XR.fin (7 / 100) }] },
                           { id := "measure", riskLimit := 1 / 10, assertions := [{ name := "y", pValue := XR.fin (7 / 100) }] }]
          = false := by decide +kernel
-- all at or below the own limit (one exactly at it): complete
example : summarizeStatus (setPValues exTestOk ex0).2 = true := by decide +kernel
example : (setPValues exTestOk ex0).1 = XR.fin (1 / 20) := by decide +kernel
-- hypotheses of `contest_max` (largest) are satisfiable: non-empty, no NaN, all ≥ 0
example : ∀ c' ∈ (setPValues exTestOk ex0).2, c'.assertions ≠ [] ∧
    (∀ a ∈ c'.assertions, a.pValue.isNan = false) ∧ (∀ a ∈ c'.assertions, XR.le 0 a.pValue = true) := by
  decide +kernel
example : ((resetPValues (setPValues exTestOk ex0).2).2.map
    (fun c => (c.maxP, c.assertions.map (fun a => (a.pValue, a.pHistory, a.proved)))))
      = [(some 1, [(1, [], false), (1, [], false)]), (some 1, [(1, [], false)])] := by decide +kernel
example : summarizeStatus (resetPValues (setPValues exTestOk ex0).2).2 = false := by decide +kernel
-- a contest without assertions: complete iff 0 ≤ risk limit
example : summarizeStatus [{ id := "empty", riskLimit := 1 / 20, assertions := [] }] = true := by decide +kernel
example : summarizeStatus [{ id := "empty", riskLimit := -1 / 20, assertions := [] }] = false := by decide +kernel
example : checkAuditParameters (1 / 1000) 0 ex0 = .ok () := by decide +kernel
example : checkAuditParameters (1 / 1000) 0
    [{ id := "c", riskLimit := 3 / 5, assertions := [], candidates := some ["A"], winner := some ["A"] }]
      = .error (Err.AssertionError "risk_limit_exceeds_half" "c") := by decide +kernel
-- distinct assertion names (hypothesis of `dicts_mirror` / `reset_dicts`)
example : ∀ c ∈ ex0, (c.assertions.map (·.name)).Nodup := by decide +kernel

end Examples

end Shangrla.C09
