/-
  C17 — each sample number maps to exactly one card; manifests account for every card.

  Theorems are about `Shangrla.Manifest.*`, the literal models of `Dominion.prep_manifest`,
  `Dominion.sample_from_manifest`, `Dominion.sample_from_cvrs` and their `Hart` counterparts that the
  driver executes, for arbitrary lists of batches (no size bound, empty batches allowed).  The `searchsorted` lookup is
  a bijection between the valid sample numbers (Dominion `1..T`, `side="left"`; Hart `0..T−1`, `side="right"`) and the
  pairs (batch, position in it); a prepared manifest adds up to `max_cards` or is refused; `sample_order` and the phantom
  manual records follow the draws.  That distinct cards get distinct identifiers rests on an assumption about the
  jurisdiction's labels (`LabelsSeparate`), not on the code.  `Std.Data.String.ToInt` is imported for
  `Int.repr_injective`: the position of a card in its batch is recovered from the card's identifier.
-/
import Shangrla.Model.Manifest
import Shangrla.Lemmas.Except
import Std.Data.String.ToInt

namespace Shangrla.C17
open Shangrla.Manifest

/-! ### Specification vocabulary -/

/-- number of cards in the batches listed before batch `b` (0-based) -/
def before (sizes : List Nat) (b : Nat) : Nat := (sizes.take b).sum

/-- number of cards in batch `b` (0 past the end of the manifest); shadows core `sizeOf` in this namespace -/
def sizeOf (sizes : List Nat) (b : Nat) : Nat := sizes.getD b 0

/-- the valid sample numbers of a manifest accounting for `T` cards -/
def validNum : Vendor → Nat → Nat → Bool
  | .dominion, T, s => decide (1 ≤ s ∧ s ≤ T)
  | .hart, T, s => decide (s < T)

/-! ### Running totals and the batch of a sample number -/

theorem before_cons_succ (x : Nat) (xs : List Nat) (b : Nat) :
    before (x :: xs) (b + 1) = x + before xs b := rfl

theorem before_succ (l : List Nat) (b : Nat) : before l (b + 1) = before l b + sizeOf l b := by
  rw [before, List.take_add_one, List.sum_append_nat, sizeOf, List.getD_eq_getElem?_getD]
  cases l[b]? <;> rfl

theorem before_mono (l : List Nat) {b c : Nat} (h : b ≤ c) : before l b ≤ before l c := by
  induction h with
  | refl => exact Nat.le_refl _
  | step _ ih => rw [before_succ]; omega

theorem before_length (l : List Nat) : before l l.length = l.sum := by
  rw [before, List.take_length]

theorem before_le_sum (l : List Nat) (b : Nat) : before l b ≤ l.sum := by
  rw [← List.take_append_drop b l, List.sum_append_nat, before, List.take_append_drop]
  omega

theorem cumFrom_length (l : List Nat) (acc : Nat) : (cumFrom acc l).length = l.length := by
  induction l generalizing acc with
  | nil => rfl
  | cons x xs ih => simp [cumFrom, ih]

/-- `lookup[b] = cards before batch b` (`lookup = [0] + cum_cards`) -/
theorem cumFrom_getD (l : List Nat) (acc b : Nat) (hb : b ≤ l.length) :
    (acc :: cumFrom acc l).getD b 0 = acc + before l b := by
  induction l generalizing acc b with
  | nil => simp [Nat.le_zero.1 hb, before]
  | cons x xs ih =>
    cases b with
    | zero => simp [before]
    | succ b => rw [before_cons_succ, ← Nat.add_assoc, ← ih (acc + x) b (by simpa using hb)]; rfl

theorem searchLeft_cons (a : Nat) (r : List Nat) (s : Nat) :
    searchLeft (a :: r) s = searchLeft r s + if a < s then 1 else 0 := by
  simp [searchLeft, List.countP_cons]

/-- no running total is below its starting value -/
theorem searchLeft_cumFrom_of_le (l : List Nat) (acc s : Nat) (h : s ≤ acc) :
    searchLeft (cumFrom acc l) s = 0 := by
  induction l generalizing acc with
  | nil => rfl
  | cons x xs ih => rw [cumFrom, searchLeft_cons, ih (acc + x) (by omega), if_neg (by omega)]

/-- `searchsorted(side="left")` finds the batch whose cards are numbered `before b + 1 .. before (b+1)` -/
theorem searchLeft_eq_batch_succ (l : List Nat) (acc b s : Nat) (hb : b < l.length)
    (h1 : acc + before l b < s) (h2 : s ≤ acc + before l (b + 1)) :
    searchLeft (acc :: cumFrom acc l) s = b + 1 := by
  induction l generalizing acc b with
  | nil => simp at hb
  | cons x xs ih =>
    rw [before_cons_succ, ← Nat.add_assoc] at h2
    rw [searchLeft_cons, cumFrom]
    cases b with
    | zero =>
      have h1 : acc < s := h1
      have h2 : s ≤ acc + x := h2
      rw [searchLeft_cons, searchLeft_cumFrom_of_le xs _ s h2, if_neg (Nat.not_lt.2 h2), if_pos h1]
    | succ b =>
      rw [before_cons_succ, ← Nat.add_assoc] at h1
      rw [ih (acc + x) b (Nat.lt_of_succ_lt_succ hb) h1 h2, if_pos (by omega)]

theorem searchRight_eq_searchLeft (a : List Nat) (s : Nat) : searchRight a s = searchLeft a (s + 1) := by
  simp only [searchRight, searchLeft, Nat.lt_succ_iff]

theorem exists_pos_left (l : List Nat) (s : Nat) (h1 : 1 ≤ s) (h2 : s ≤ l.sum) :
    ∃ b p, b < l.length ∧ 1 ≤ p ∧ p ≤ sizeOf l b ∧ s = before l b + p := by
  -- the first batch at whose end the running total has reached `s`
  have h : ∀ n, s ≤ before l n → ∃ b p, b < n ∧ 1 ≤ p ∧ p ≤ sizeOf l b ∧ s = before l b + p := by
    intro n
    induction n with
    | zero => exact fun h => absurd (Nat.le_trans h1 h) (Nat.not_succ_le_zero 0)
    | succ n ih =>
      intro h
      by_cases hn : s ≤ before l n
      · obtain ⟨b, p, hb, hp⟩ := ih hn
        exact ⟨b, p, Nat.lt_succ_of_lt hb, hp⟩
      · rw [before_succ] at h
        exact ⟨n, s - before l n, Nat.lt_succ_self n, by omega⟩
  exact h l.length (by rw [before_length]; exact h2)

/-- a positive `batch_num` within the manifest reads row `batch_num − 1` and the running total before it -/
theorem rowAndPos_cumCards (sizes : List Nat) (b p : Nat) (hb : b < sizes.length) :
    rowAndPos (cumCards sizes) (b + 1) (before sizes b + p) = .ok (b, (p : Int)) := by
  have hg := cumFrom_getD sizes 0 b (Nat.le_of_lt hb)
  simp only [rowAndPos, cumCards, Nat.add_one_ne_zero, ↓reduceIte, Nat.add_sub_cancel, cumFrom_length, hb,
    hg, Nat.zero_add, Int.natCast_add]
  rw [Int.add_comm, Int.add_sub_cancel]

theorem exists_pos (v : Vendor) (l : List Nat) (s : Nat) (hs : validNum v l.sum s = true) :
    ∃ b p, b < l.length ∧ validNum v (sizeOf l b) p = true ∧ s = before l b + p := by
  cases v with
  | dominion =>
    simp only [validNum, decide_eq_true_eq] at hs ⊢
    obtain ⟨b, p, hb, hp1, hp2, hs⟩ := exists_pos_left l s hs.1 hs.2
    exact ⟨b, p, hb, ⟨hp1, hp2⟩, hs⟩
  | hart =>
    -- number `s` counted from 0 is number `s + 1` counted from 1, and the same for positions
    simp only [validNum, decide_eq_true_eq] at hs ⊢
    obtain ⟨b, p, hb, hp1, hp2, hs⟩ := exists_pos_left l (s + 1) (Nat.le_add_left 1 s) hs
    cases p with
    | zero => exact absurd hp1 (Nat.not_succ_le_zero 0)
    | succ p => exact ⟨b, p, hb, hp2, Nat.succ.inj hs⟩

theorem lookupV_at (v : Vendor) (l : List Nat) (b p : Nat) (hb : b < l.length)
    (hp : validNum v (sizeOf l b) p = true) : lookupV v (cumCards l) (before l b + p) = .ok (b, (p : Int)) := by
  have hsucc := before_succ l b
  cases v with
  | dominion =>
    simp only [validNum, decide_eq_true_eq] at hp
    rw [lookupV, lookupLeft, cumCards, searchLeft_eq_batch_succ l 0 b _ hb (by omega) (by omega)]
    exact rowAndPos_cumCards l b p hb
  | hart =>
    simp only [validNum, decide_eq_true_eq] at hp
    rw [lookupV, lookupRight, cumCards, searchRight_eq_searchLeft,
      searchLeft_eq_batch_succ l 0 b _ hb (by omega) (by omega)]
    exact rowAndPos_cumCards l b p hb

/-! ### the lookup is a bijection -/

/-- **C17, lookup bijection.** Both vendors at once. For every list of batch sizes (empty batches allowed):
1. every valid sample number `s` is mapped to a pair `(b, p)` with `b` a batch of the manifest and `p` a valid
   position in it, and `s = before b + p` (so the map is injective: `s` is recovered from its image);
2. every such pair is the image of the number `before b + p`, which is valid (onto, explicit inverse);
3. injectivity stated outright. -/
theorem lookupV_bijection (v : Vendor) (sizes : List Nat) :
    (∀ s, validNum v sizes.sum s = true →
      ∃ b p : Nat, lookupV v (cumCards sizes) s = .ok (b, (p : Int)) ∧
        b < sizes.length ∧ validNum v (sizeOf sizes b) p = true ∧ s = before sizes b + p) ∧
    (∀ b p : Nat, b < sizes.length → validNum v (sizeOf sizes b) p = true →
      validNum v sizes.sum (before sizes b + p) = true ∧
        lookupV v (cumCards sizes) (before sizes b + p) = .ok (b, (p : Int))) ∧
    (∀ s s', validNum v sizes.sum s = true → validNum v sizes.sum s' = true →
      lookupV v (cumCards sizes) s = lookupV v (cumCards sizes) s' → s = s') := by
  refine ⟨fun s hs => ?_, fun b p hb hp => ⟨?_, lookupV_at v sizes b p hb hp⟩, fun s s' hs hs' he => ?_⟩
  · obtain ⟨b, p, hb, hp, rfl⟩ := exists_pos v sizes s hs
    exact ⟨b, p, lookupV_at v sizes b p hb hp, hb, hp, rfl⟩
  · have hle := before_le_sum sizes (b + 1)
    rw [before_succ] at hle
    cases v <;> simp only [validNum, decide_eq_true_eq] at hp ⊢ <;> omega
  · obtain ⟨b, p, hb, hp, rfl⟩ := exists_pos v sizes s hs
    obtain ⟨b', p', hb', hp', rfl⟩ := exists_pos v sizes s' hs'
    rw [lookupV_at v sizes b p hb hp, lookupV_at v sizes b' p' hb' hp'] at he
    cases he
    rfl

/-- **C17, lookup bijection, Dominion** (`side="left"`, sample numbers `1..T`, positions `1 ≤ p ≤ size b`). -/
theorem dominion_bijection (sizes : List Nat) :
    (∀ s, 1 ≤ s → s ≤ sizes.sum →
      ∃ b p : Nat, lookupLeft (cumCards sizes) s = .ok (b, (p : Int)) ∧
        b < sizes.length ∧ 1 ≤ p ∧ p ≤ sizeOf sizes b ∧ s = before sizes b + p) ∧
    (∀ b p : Nat, b < sizes.length → 1 ≤ p → p ≤ sizeOf sizes b →
      1 ≤ before sizes b + p ∧ before sizes b + p ≤ sizes.sum ∧
        lookupLeft (cumCards sizes) (before sizes b + p) = .ok (b, (p : Int))) ∧
    (∀ s s', 1 ≤ s → s ≤ sizes.sum → 1 ≤ s' → s' ≤ sizes.sum →
      lookupLeft (cumCards sizes) s = lookupLeft (cumCards sizes) s' → s = s') := by
  simpa only [validNum, lookupV, decide_eq_true_eq, and_imp, and_assoc] using lookupV_bijection .dominion sizes

/-- **C17, lookup bijection, Hart** (`side="right"`, sample numbers `0..T−1`), positions `0 ≤ p < size b`. -/
theorem hart_bijection (sizes : List Nat) :
    (∀ s, s < sizes.sum →
      ∃ b p : Nat, lookupRight (cumCards sizes) s = .ok (b, (p : Int)) ∧
        b < sizes.length ∧ p < sizeOf sizes b ∧ s = before sizes b + p) ∧
    (∀ b p : Nat, b < sizes.length → p < sizeOf sizes b →
      before sizes b + p < sizes.sum ∧
        lookupRight (cumCards sizes) (before sizes b + p) = .ok (b, (p : Int))) ∧
    (∀ s s', s < sizes.sum → s' < sizes.sum →
      lookupRight (cumCards sizes) s = lookupRight (cumCards sizes) s' → s = s') := by
  simpa only [validNum, lookupV, decide_eq_true_eq] using lookupV_bijection .hart sizes

/-! ### preparing a manifest -/

theorem prepManifest_closed (sizes : List Nat) (maxCards nCvrs : Nat) :
    prepManifest sizes maxCards nCvrs =
      if maxCards < sizes.sum ∨ sizes.sum < nCvrs then .error .AssertionError
      else .ok (if sizes.sum < maxCards then sizes ++ [maxCards - sizes.sum] else sizes,
                sizes.sum, maxCards - sizes.sum) := by
  by_cases h1 : maxCards < sizes.sum
  · simp [prepManifest, h1]
  · by_cases h2 : sizes.sum < nCvrs
    · simp [prepManifest, h1, h2]
    · by_cases h3 : sizes.sum < maxCards
      · simp [prepManifest, h1, h2, h3]
      · simp [prepManifest, h1, h2, h3]
        omega

/-- **C17, manifest adds up.** When `prep_manifest` succeeds the returned batch sizes add up to exactly
`max_cards`; `manifest_cards` is the number of listed cards and `phantoms` the shortfall; a phantom
batch of that size is appended iff the shortfall is positive, otherwise the sizes are returned unchanged. -/
theorem prep_accounts (sizes : List Nat) (maxCards nCvrs : Nat) (sizes' : List Nat) (mc ph : Nat)
    (h : prepManifest sizes maxCards nCvrs = .ok (sizes', mc, ph)) :
    sizes'.sum = maxCards ∧ mc = sizes.sum ∧ ph = maxCards - sizes.sum ∧
    (0 < maxCards - sizes.sum → sizes' = sizes ++ [maxCards - sizes.sum]) ∧
    (maxCards - sizes.sum = 0 → sizes' = sizes) := by
  rw [prepManifest_closed] at h
  split at h
  · cases h
  · rename_i hok
    cases h
    refine ⟨?_, rfl, rfl, fun h0 => if_pos (Nat.lt_of_sub_pos h0),
      fun h0 => if_neg (Nat.not_lt.2 (Nat.le_of_sub_eq_zero h0))⟩
    split
    · rename_i hlt
      rw [List.sum_append_nat, List.sum_singleton, Nat.add_sub_cancel' (Nat.le_of_lt hlt)]
    · omega

/-- **C17, manifest refused.** `prep_manifest` raises (and then it is an `AssertionError`) exactly when the manifest
lists more cards than `max_cards` or fewer cards than there are CVRs; otherwise it returns. -/
theorem prep_refuses (sizes : List Nat) (maxCards nCvrs : Nat) :
    (prepManifest sizes maxCards nCvrs = .error .AssertionError ↔
        (maxCards < sizes.sum ∨ sizes.sum < nCvrs)) ∧
    (∀ e, prepManifest sizes maxCards nCvrs = .error e → e = .AssertionError) ∧
    ((∃ r, prepManifest sizes maxCards nCvrs = .ok r) ↔ (sizes.sum ≤ maxCards ∧ nCvrs ≤ sizes.sum)) := by
  by_cases h : maxCards < sizes.sum ∨ sizes.sum < nCvrs
  · rw [prepManifest_closed, if_pos h]
    exact ⟨iff_of_true rfl h, fun e he => (Except.error.inj he).symm,
      iff_of_false (fun ⟨r, hr⟩ => nomatch hr) (by omega)⟩
  · rw [prepManifest_closed, if_neg h]
    exact ⟨iff_of_false (fun he => nomatch he) h, fun e he => (nomatch he), iff_of_true ⟨_, rfl⟩ (by omega)⟩

theorem prepRows_ok (v : Vendor) (rows rows' : List Row) (maxCards nCvrs mc ph : Nat)
    (h : prepRows v rows maxCards nCvrs = .ok (rows', mc, ph)) :
    mc = (rows.map (·.size)).sum ∧ ph = maxCards - mc ∧
    rows' = rows ++ (if mc < maxCards then [phantomRow v ph] else []) ∧
    (rows'.map (·.size)).sum = maxCards := by
  unfold prepRows at h
  split at h
  · cases h
  · rename_i sz mc' ph' hp
    obtain ⟨-, rfl, rfl, -, -⟩ := prep_accounts _ _ _ _ _ _ hp
    have hle := ((prep_refuses _ maxCards nCvrs).2.2.1 ⟨_, hp⟩).1
    split at h <;> cases h
    · rename_i hlt
      refine ⟨rfl, rfl, by rw [if_pos hlt], ?_⟩
      rw [List.map_append, List.sum_append_nat]
      exact Nat.add_sub_cancel' hle
    · rename_i hlt
      exact ⟨rfl, rfl, by rw [if_neg hlt, List.append_nil], by omega⟩

/-! ### Loops and dictionaries -/

theorem exists_ok_of_isOk {ε α : Type} {x : Except ε α} (h : x.isOk = true) : ∃ r, x = .ok r := by
  cases x with
  | ok r => exact ⟨r, rfl⟩
  | error e => cases h

theorem mapE_eq_mapM {α β ε : Type} (f : α → Except ε β) : ∀ l : List α, mapE f l = l.mapM f
  | [] => rfl
  | a :: as => by
    rw [mapE, List.mapM_cons, mapE_eq_mapM f as]
    cases f a with
    | error e => rfl
    | ok b => cases as.mapM f <;> rfl

theorem dictGet_dictSet {β : Type} (d : List (String × β)) (k : String) (v : β) (k' : String) :
    dictGet (dictSet d k v) k' = if k = k' then some v else dictGet d k' := by
  induction d with
  | nil => simp [dictSet, dictGet]
  | cons hd t ih =>
    obtain ⟨k0, v0⟩ := hd
    by_cases h0 : k0 = k
    · subst h0
      by_cases h1 : k0 = k' <;> simp [dictSet, dictGet, h1]
    · by_cases h1 : k0 = k'
      · subst h1
        simp [dictSet, dictGet, h0, Ne.symm h0]
      · simp [dictSet, dictGet, h0, h1, ih]

theorem orderLoop_other {α : Type} (key : α → String) (num : α → Nat) (es : List α)
    (d : List (String × Order)) (i : Nat) (k : String) (h : k ∉ es.map key) :
    dictGet (orderLoop d i (es.map fun e => (key e, num e))) k = dictGet d k := by
  induction es generalizing d i with
  | nil => rfl
  | cons e t ih =>
    rw [List.map_cons, List.mem_cons, not_or] at h
    rw [List.map_cons, orderLoop, ih _ _ h.2, dictGet_dictSet, if_neg (Ne.symm h.1)]

/-- after the loop, a card that is not drawn again later carries its own draw index and serial;
the loop runs over the pairs `(card id, sample number)` of the entries `es` -/
theorem orderLoop_at {α : Type} (key : α → String) (num : α → Nat) (es : List α)
    (d : List (String × Order)) (k j : Nat) (hj : j < es.length)
    (h : key es[j] ∉ (es.drop (j + 1)).map key) :
    dictGet (orderLoop d k (es.map fun e => (key e, num e))) (key es[j]) =
      some { selectionOrder := k + j, serial := num es[j] + 1 } := by
  induction es generalizing d k j with
  | nil => simp at hj
  | cons e t ih =>
    rw [List.map_cons, orderLoop]
    cases j with
    | zero => rw [List.getElem_cons_zero, orderLoop_other key num t _ _ (key e) h, dictGet_dictSet, if_pos rfl]; rfl
    | succ j =>
      rw [List.getElem_cons_succ, ih _ (k + 1) j (Nat.lt_of_succ_lt_succ hj) h, Nat.add_assoc, Nat.add_comm 1]

theorem entry_s (v : Vendor) (rows : List Row) (s : Nat) (e : Entry) (h : entry v rows s = .ok e) : e.s = s := by
  revert h
  fun_cases entry v rows s <;> intro h <;> cases h
  rfl

/-! ### selection order -/

/-- **C17, selection order.** When `sample_from_manifest` returns, it has looked every drawn number up
(`es[i]` is the card of draw `i`), `cards` lists exactly those cards (re-ordered by the final sort), and
`sample_order[card id of draw i]` holds `selection_order = i`, `serial = s + 1` — for every draw whose card
is not drawn again later (with repeats, a dict keeps the last draw). -/
theorem selection_order (v : Vendor) (rows : List Row) (sample : List Nat)
    (cards : List Entry) (so : List (String × Order)) (ph : List String)
    (h : sampleFromManifest v rows sample = .ok (cards, so, ph)) :
    ∃ es, entries v rows sample = .ok es ∧ es.length = sample.length ∧ cards.Perm es ∧
      ∀ i (h1 : i < sample.length) (h2 : i < es.length),
        entry v rows sample[i] = .ok es[i] ∧ es[i].s = sample[i] ∧
        (es[i].cardId ∉ (es.drop (i + 1)).map (·.cardId) →
          dictGet so es[i].cardId = some { selectionOrder := i, serial := sample[i] + 1 }) := by
  unfold sampleFromManifest at h
  split at h
  · cases h
  · rename_i es hes
    cases h
    obtain ⟨hl, hi⟩ := mapM_ok_getElem _ _ _ ((mapE_eq_mapM _ _).symm.trans hes)
    refine ⟨es, hes, hl, ?_, ?_⟩
    · cases v <;> exact List.mergeSort_perm _ _
    · intro i h1 h2
      have he := hi i h1 h2
      have hs := entry_s v rows _ _ he
      refine ⟨he, hs, ?_⟩
      intro hnot
      have := orderLoop_at (·.cardId) (·.s) es [] 0 i h2 hnot
      rwa [Nat.zero_add, hs] at this

/-- corollary: when no card is drawn twice every draw's entry is its draw index -/
theorem selection_order_nodup (v : Vendor) (rows : List Row) (sample : List Nat)
    (cards : List Entry) (so : List (String × Order)) (ph : List String)
    (h : sampleFromManifest v rows sample = .ok (cards, so, ph)) :
    ∃ es, entries v rows sample = .ok es ∧ es.length = sample.length ∧
      ((es.map (·.cardId)).Nodup →
        ∀ i (h1 : i < sample.length) (h2 : i < es.length),
          dictGet so es[i].cardId = some { selectionOrder := i, serial := sample[i] + 1 }) := by
  obtain ⟨es, h1, h2, _, h4⟩ := selection_order v rows sample cards so ph h
  refine ⟨es, h1, h2, ?_⟩
  intro hnd i hi1 hi2
  refine (h4 i hi1 hi2).2.2 fun hmem => ?_
  -- the identifier of draw `i` would occur both among the first `i + 1` and among the later ones
  have hin : es[i].cardId ∈ (es.map (·.cardId)).take (i + 1) := by
    rw [← List.map_take]
    exact List.mem_map_of_mem (List.mem_take_iff_getElem.2 ⟨i, by omega, rfl⟩)
  exact hnd.rel_of_mem_take_of_mem_drop hin (by rwa [← List.map_drop]) rfl

/-! ### phantom manual records -/

/-- sample number `s` denotes a card beyond the `mc` cards the original manifest lists -/
def inPhantomBatch : Vendor → Nat → Nat → Bool
  | .dominion, mc, s => decide (mc < s)
  | .hart, mc, s => decide (mc ≤ s)

theorem before_append_left (l1 l2 : List Nat) (b : Nat) (hb : b ≤ l1.length) :
    before (l1 ++ l2) b = before l1 b := by
  rw [before, List.take_append_of_le_length hb, before]

theorem entry_spec (v : Vendor) (rows : List Row) (s : Nat)
    (hs : validNum v (rows.map (·.size)).sum s = true) :
    ∃ b p, ∃ hb : b < rows.length, validNum v (sizeOf (rows.map (·.size)) b) p = true ∧
      s = before (rows.map (·.size)) b + p ∧
      entry v rows s = .ok
        { extra := rows[b].extra, tab := rows[b].tab, batch := rows[b].batch, cardInBatch := p,
          cardId := cardIdOf rows[b].tab rows[b].batch p, s := s } := by
  obtain ⟨b, p, hb, hp, rfl⟩ := exists_pos v _ s hs
  have hb' : b < rows.length := by simpa using hb
  refine ⟨b, p, hb', hp, rfl, ?_⟩
  rw [entry, lookupV_at v _ b p hb hp]
  simp only [List.getElem?_eq_getElem hb']

theorem inPhantomBatch_pos (v : Vendor) (l : List Nat) (b p m : Nat) (hp : validNum v (sizeOf l b) p = true) :
    (m ≤ before l b → inPhantomBatch v m (before l b + p) = true) ∧
    (before l (b + 1) ≤ m → inPhantomBatch v m (before l b + p) = false) := by
  rw [before_succ]
  cases v <;> simp only [validNum, inPhantomBatch, decide_eq_true_eq, decide_eq_false_iff_not] at hp ⊢ <;> omega

theorem entry_phantom (v : Vendor) (rows extra : List Row) (hreal : ∀ r ∈ rows, r.tab ≠ "phantom")
    (hextra : ∀ r ∈ extra, r.tab = "phantom") (s : Nat)
    (hs : validNum v ((rows ++ extra).map (·.size)).sum s = true) :
    ∃ e, entry v (rows ++ extra) s = .ok e ∧
      ((e.tab == "phantom") = inPhantomBatch v (rows.map (·.size)).sum s) := by
  obtain ⟨b, p, hb, hp, rfl, he⟩ := entry_spec v _ s hs
  refine ⟨_, he, ?_⟩
  rw [List.map_append] at hp ⊢
  obtain ⟨hin, hout⟩ := inPhantomBatch_pos v _ b p (rows.map (·.size)).sum hp
  by_cases hbr : b < rows.length
  · -- a listed batch ends within the listed cards
    rw [hout (by rw [before_append_left _ _ _ (by simpa using Nat.succ_le_of_lt hbr)]; exact before_le_sum _ _)]
    simpa [List.getElem_append_left hbr] using hreal _ (List.getElem_mem hbr)
  · -- an appended batch starts after them
    rw [hin (by rw [← before_length, ← before_append_left _ (extra.map (·.size)) _ (Nat.le_refl _)]
                exact before_mono _ (by simpa using hbr))]
    have hbe : b - rows.length < extra.length := by simp at hb; omega
    simpa [List.getElem_append_right (Nat.le_of_not_lt hbr)] using hextra _ (List.getElem_mem hbe)

/-- **C17, phantom records.** After `prep_manifest` (real batches never named `phantom`), for every sample of
valid numbers `sample_from_manifest` returns, and the phantom manual records it returns are — in draw
order — exactly the cards whose number lies beyond the listed cards, i.e. in the appended phantom batch;
each record's id is that card's id. -/
theorem phantom_exact (v : Vendor) (rows rows' : List Row) (maxCards nCvrs mc ph : Nat)
    (hreal : ∀ r ∈ rows, r.tab ≠ "phantom")
    (hprep : prepRows v rows maxCards nCvrs = .ok (rows', mc, ph))
    (sample : List Nat) (hvalid : ∀ s ∈ sample, validNum v maxCards s = true) :
    ∃ cards so mvrs es, sampleFromManifest v rows' sample = .ok (cards, so, mvrs) ∧
      entries v rows' sample = .ok es ∧
      mvrs = (es.filter (fun e => inPhantomBatch v mc e.s)).map (·.cardId) := by
  obtain ⟨rfl, -, rfl, hsum⟩ := prepRows_ok v rows rows' maxCards nCvrs mc ph hprep
  have hentry := fun s hs =>
    entry_phantom v rows _ hreal (by split <;> simp [phantomRow]) s (hsum.symm ▸ hvalid s hs)
  obtain ⟨es, hes⟩ := (mapM_isOk_iff (entry v _) sample).2 fun s hs => (hentry s hs).imp fun _ h => h.1
  have hes' := (mapE_eq_mapM _ _).trans hes
  refine ⟨_, _, _, es, by rw [sampleFromManifest, show entries v _ sample = _ from hes'], hes', ?_⟩
  congr 1
  apply List.filter_congr
  intro e he
  obtain ⟨s, hs, hse⟩ := mapM_ok_mem _ _ _ hes e he
  obtain ⟨e', he', hph⟩ := hentry s hs
  cases hse.symm.trans he'
  rw [entry_s v _ s e hse]
  exact hph

/-! ### looking cards up from sampled CVRs -/

/-- `splitOnC` yields a first piece and further pieces; putting `c` in front of each further piece and
concatenating gives the input back (Python `c.join(parts)`) -/
theorem splitOnC_join (c : Char) (l : List Char) :
    ∃ h t, splitOnC c l = h :: t ∧ h ++ t.flatMap (c :: ·) = l := by
  induction l with
  | nil => exact ⟨[], [], rfl, rfl⟩
  | cons x xs ih =>
    obtain ⟨h, t, hsp, hj⟩ := ih
    rw [splitOnC, hsp]
    split
    · rename_i hx
      exact ⟨[], h :: t, rfl, by rw [← hj, hx]; rfl⟩
    · exact ⟨x :: h, t, rfl, by rw [← hj]; rfl⟩

theorem toList_of_splitOn (c : Char) (s a : String) (t : List String) (h : splitOn c s = a :: t) :
    s.toList = a.toList ++ t.flatMap (fun x => c :: x.toList) := by
  obtain ⟨a', t', hsp, hj⟩ := splitOnC_join c s.toList
  rw [splitOn, hsp] at h
  cases h
  rw [← hj]
  simp [List.flatMap_map]

theorem split3_join (c : Char) (s a b d : String) (h : splitOn c s = [a, b, d]) :
    s = a ++ String.singleton c ++ b ++ String.singleton c ++ d :=
  String.toList_inj.1 (by rw [toList_of_splitOn c s _ _ h]; simp)

theorem split2_join (c : Char) (s a b : String) (h : splitOn c s = [a, b]) :
    s = a ++ String.singleton c ++ b :=
  String.toList_inj.1 (by rw [toList_of_splitOn c s _ _ h]; simp)

/-- what one iteration of `sample_from_cvrs` yields: the CVR at that index, and a card whose
identifier is the CVR's (for a Hart phantom: provided the id's first `-`-field is the word `phantom`,
as in the ids `phantom-1-k` that the audit creates) -/
theorem centry_spec (v : Vendor) (cvrs : List Cvr) (rows : List Row) (s : Nat) (e : CEntry)
    (h : centry v cvrs rows s = .ok e) :
    cvrs[s]? = some e.cvr ∧ e.s = s ∧ e.cardId ∈ e.cells ∧
    ((v = .dominion ∨ e.cvr.phantom = false ∨ (splitOn '-' e.cvr.id).head? = some "phantom") →
      e.cardId = e.cvr.id) := by
  revert h
  -- in every branch that returns, the identifier is the last cell and is the split id joined again
  cases v with
  | dominion =>
    rw [centry]
    fun_cases centryDominion cvrs rows s <;> intro h <;> cases h
    · exact ⟨‹_›, rfl, List.mem_append_right _ (List.mem_of_getLast? rfl),
        fun _ => (split3_join '-' _ _ _ _ ‹_›).symm⟩
    · exact ⟨‹_›, rfl, List.mem_of_getLast? rfl, fun _ => (split3_join '-' _ _ _ _ ‹_›).symm⟩
  | hart =>
    rw [centry]
    fun_cases centryHart cvrs rows s <;> intro h <;> cases h
    · exact ⟨‹_›, rfl, List.mem_of_getLast? rfl, fun _ => (split2_join '_' _ _ _ ‹_›).symm⟩
    · next hph _ _ _ hsp _ =>
      refine ⟨‹_›, rfl, List.mem_of_getLast? rfl, ?_⟩
      rintro (hv | hp | hw)
      · cases hv
      · exact absurd hp (by simpa using hph)
      · -- the identifier is rebuilt with the literal word `phantom` in front
        rw [hsp] at hw
        cases hw
        exact (split3_join '-' _ _ _ _ hsp).symm

/-- **C17, sampling from CVRs.** When `sample_from_cvrs` returns: `cvr_sample` is `cvr_list[s]` for the drawn
`s`, in draw order; the phantom manual records are the drawn phantom CVRs (same ids, draw order);
`cards` lists one card per draw (re-ordered by the final sort) whose identifier is the drawn CVR's id;
and `sample_order[that id]` holds the draw index and `serial = s + 1` (for a card not drawn again later). -/
theorem from_cvrs_order (v : Vendor) (cvrs : List Cvr) (rows : List Row) (sample : List Nat)
    (cards : List CEntry) (so : List (String × Order)) (cs : List Cvr) (ph : List String)
    (h : sampleFromCvrs v cvrs rows sample = .ok (cards, so, cs, ph)) :
    cs.length = sample.length ∧
    (∀ i (h1 : i < sample.length) (h2 : i < cs.length), cvrs[sample[i]]? = some cs[i]) ∧
    ph = (cs.filter (·.phantom)).map (·.id) ∧
    ∃ es : List CEntry, cards.Perm es ∧ es.map (·.cvr) = cs ∧
      (∀ e ∈ es, e.cardId ∈ e.cells ∧
        ((v = .dominion ∨ e.cvr.phantom = false ∨ (splitOn '-' e.cvr.id).head? = some "phantom") →
          e.cardId = e.cvr.id)) ∧
      (∀ i (h1 : i < sample.length) (h2 : i < es.length),
        es[i].cardId ∉ (es.drop (i + 1)).map (·.cardId) →
          dictGet so es[i].cardId = some { selectionOrder := i, serial := sample[i] + 1 }) := by
  unfold sampleFromCvrs at h
  split at h
  · cases h
  · rename_i es hes
    cases h
    rw [mapE_eq_mapM] at hes
    obtain ⟨hl, hi⟩ := mapM_ok_getElem _ _ _ hes
    refine ⟨by simpa using hl, ?_, ?_, es, List.mergeSort_perm _ _, rfl, ?_, ?_⟩
    · intro i h1 h2
      have h2' : i < es.length := by simpa using h2
      have := (centry_spec v cvrs rows _ _ (hi i h1 h2')).1
      simpa using this
    · simp [List.filter_map, Function.comp_def]
    · intro e he
      obtain ⟨s, _, hse⟩ := mapM_ok_mem _ _ _ hes e he
      have := centry_spec v cvrs rows s e hse
      exact ⟨this.2.2.1, this.2.2.2⟩
    · intro i h1 h2 hnot
      have hs : es[i].s = sample[i] := (centry_spec v cvrs rows _ _ (hi i h1 h2)).2.1
      have := orderLoop_at (·.cardId) (·.s) es [] 0 i h2 hnot
      rwa [Nat.zero_add, hs] at this

/-! ### Card identifiers of distinct cards are distinct (so `sample_order` never merges two cards) -/

/-- distinct batches never share a card identifier — true e.g. of distinct hyphen-free
tabulator/batch labels; this is a property of the jurisdiction's labels, not of the code -/
def LabelsSeparate (rows : List Row) : Prop :=
  ∀ i j (hi : i < rows.length) (hj : j < rows.length) (p q : Int),
    cardIdOf rows[i].tab rows[i].batch p = cardIdOf rows[j].tab rows[j].batch q → i = j

theorem cardIdOf_ne_of_prefix (t b t' b' : String) (p q : Int)
    (h : ∀ x y : List Char, (t ++ "-" ++ b ++ "-").toList ++ x ≠ (t' ++ "-" ++ b' ++ "-").toList ++ y) :
    cardIdOf t b p ≠ cardIdOf t' b' q := by
  intro he
  unfold cardIdOf at he
  have h' := String.toList_inj.2 he
  rw [String.toList_append, String.toList_append (s := t' ++ "-" ++ b' ++ "-")] at h'
  exact h _ _ h'

theorem labelsSeparate_of_prefixFree (rows : List Row)
    (h : (rows.map fun r => (r.tab ++ "-" ++ r.batch ++ "-").toList).Pairwise
      fun a b => ¬ a <+: b ∧ ¬ b <+: a) : LabelsSeparate rows := by
  intro i j hi hj p q he
  false_or_by_contra
  rename_i hne
  have hpre := List.pairwise_iff_getElem.1 h
  simp only [List.length_map, List.getElem_map] at hpre
  refine cardIdOf_ne_of_prefix _ _ _ _ p q (fun x y hxy => ?_) he
  -- both prefixes start the same identifier, so one of them starts the other
  have := List.prefix_or_prefix_of_prefix ⟨x, rfl⟩ ⟨y, hxy.symm⟩
  rcases Nat.lt_or_gt_of_ne hne with hlt | hlt
  · exact this.elim (hpre i j hi hj hlt).1 (hpre i j hi hj hlt).2
  · exact this.elim (hpre j i hj hi hlt).2 (hpre j i hj hi hlt).1

theorem cardIdOf_inj_pos (tab batch : String) (p q : Int)
    (h : cardIdOf tab batch p = cardIdOf tab batch q) : p = q := by
  unfold cardIdOf at h
  have h' := String.toList_inj.2 h
  simp only [String.toList_append] at h'
  have h2 := List.append_cancel_left h'
  have h3 : toString p = toString q := String.toList_inj.1 h2
  exact Int.repr_injective h3

theorem entry_ids_injective (v : Vendor) (rows : List Row) (hsep : LabelsSeparate rows) (s s' : Nat)
    (hs : validNum v (rows.map (·.size)).sum s = true) (hs' : validNum v (rows.map (·.size)).sum s' = true)
    (e e' : Entry) (he : entry v rows s = .ok e) (he' : entry v rows s' = .ok e')
    (hid : e.cardId = e'.cardId) : s = s' := by
  obtain ⟨b, p, hb, -, rfl, hbp⟩ := entry_spec v rows s hs
  obtain ⟨b', p', hb', -, rfl, hbp'⟩ := entry_spec v rows s' hs'
  cases hbp.symm.trans he
  cases hbp'.symm.trans he'
  -- same identifier: same batch by the labels, then same position
  cases hsep b b' hb hb' _ _ hid
  rw [Int.natCast_inj.1 (cardIdOf_inj_pos _ _ _ _ hid)]

theorem cardIds_nodup (v : Vendor) (rows : List Row) (hsep : LabelsSeparate rows) (sample : List Nat)
    (hnd : sample.Nodup) (hvalid : ∀ s ∈ sample, validNum v (rows.map (·.size)).sum s = true)
    (es : List Entry) (hes : entries v rows sample = .ok es) : (es.map (·.cardId)).Nodup := by
  rw [entries, mapE_eq_mapM] at hes
  induction sample generalizing es with
  | nil => cases hes; exact List.nodup_nil
  | cons a as ih =>
    obtain ⟨e, es', hea, hes', rfl⟩ := (mapM_cons_ok_iff _ a as es).1 hes
    have hnd' := List.nodup_cons.1 hnd
    rw [List.map_cons, List.nodup_cons]
    refine ⟨?_, ih hnd'.2 (fun s hs => hvalid s (List.mem_cons_of_mem _ hs)) es' hes'⟩
    intro hmem
    obtain ⟨e', he'mem, hid⟩ := List.mem_map.1 hmem
    obtain ⟨a', ha', hea'⟩ := mapM_ok_mem _ _ _ hes' e' he'mem
    cases entry_ids_injective v rows hsep a a' (hvalid a List.mem_cons_self)
      (hvalid a' (List.mem_cons_of_mem _ ha')) e e' hea hea' hid.symm
    exact hnd'.1 ha'

/-! ### Non-vacuity -/

-- a manifest with empty batches first, in the middle and last: sizes 0,2,0,3,0 (T = 5)
example : (List.range 7).map (fun s => lookupLeft (cumCards [0, 2, 0, 3, 0]) s) =
    [.ok (4, -5), .ok (1, 1), .ok (1, 2), .ok (3, 1), .ok (3, 2), .ok (3, 3), .error .IndexError] := by rfl
example : (List.range 6).map (fun s => lookupRight (cumCards [0, 2, 0, 3, 0]) s) =
    [.ok (1, 0), .ok (1, 1), .ok (3, 0), .ok (3, 1), .ok (3, 2), .error .IndexError] := by rfl
-- hypotheses of the bijection theorems are satisfiable: s = 3 lies in 1..5 resp. 0..4
example : 1 ≤ 3 ∧ 3 ≤ [0, 2, 0, 3, 0].sum ∧ 3 < [0, 2, 0, 3, 0].length ∧ 1 ≤ 2 ∧ 2 ≤ sizeOf [0, 2, 0, 3, 0] 3 := by decide +kernel
-- prep: phantom batch appended / exact / refused (too many cards) / refused (too many CVRs)
example : prepManifest [2, 0, 3] 7 4 = .ok ([2, 0, 3, 2], 5, 2) := by rfl
example : prepManifest [2, 0, 3] 5 5 = .ok ([2, 0, 3], 5, 0) := by rfl
example : prepManifest [2, 0, 3] 4 0 = .error .AssertionError := by rfl
example : prepManifest [2, 0, 3] 9 6 = .error .AssertionError := by rfl

def exRows : List Row :=
  [{ tab := "17", batch := "1", size := 2, extra := ["1", "1"] },
   { tab := "18", batch := "2", size := 0, extra := ["2", "2"] },
   { tab := "19", batch := "3", size := 3, extra := ["3", "3"] }]

-- hypotheses of `phantom_exact`: real rows not named phantom, prep succeeds, a valid sample
example : (∀ r ∈ exRows, r.tab ≠ "phantom") := by decide +kernel
example : ∃ rows', prepRows .dominion exRows 7 4 = .ok (rows', 5, 2) ∧ rows'.length = 4 := ⟨_, rfl, rfl⟩
example : ∀ s ∈ [7, 3, 1, 6], validNum .dominion 7 s = true := by decide +kernel

-- hypothesis of `from_cvrs_order` / `selection_order`: the functions return on ordinary input
example : ∃ r, sampleFromCvrs .dominion
    [{ id := "17-1-1", cardInBatch := some 1, phantom := false }, { id := "phantom-1-1", cardInBatch := none, phantom := true }]
    exRows [1, 0] = .ok r := exists_ok_of_isOk (by decide +kernel)
example : ∃ r, sampleFromCvrs .hart
    [{ id := "3_1", cardInBatch := none, phantom := false }, { id := "phantom-1-1", cardInBatch := none, phantom := true }]
    exRows [1, 0] = .ok r := exists_ok_of_isOk (by decide +kernel)
example : (splitOn '-' "phantom-1-7").head? = some "phantom" := by decide +kernel

-- hypothesis of `cardIds_nodup` / `entry_ids_injective`: the labels of `exRows` separate the batches
example : LabelsSeparate exRows := labelsSeparate_of_prefixFree _ (by decide +kernel)

end Shangrla.C17
