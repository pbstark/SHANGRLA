/-
  C03 ∘ C06 ∘ C09 ∘ C01 for comparison audits on the literal model of `Model/Overstatement.lean`:
  card comparison and ONEAudit, style-based sampling on or off, pooled cards (any pool labelling), phantom CVRs
  inside and outside pools, unfindable cards, manual records lacking the contest.

  The population of cards is the list of (manual record, CVR) pairs `mvrs.zip cvrs`.  The datum of a card for an
  assertion is what the model's own `mvrsToData` (`Assertion.mvrs_to_data`) returns for the one-card sample
  `[mvr], [cvr]` (`cardDatum`); by `sample_data_model`, `mvrsToData` applied to any sample of cards returns exactly
  the data of its cards — so the list `auditCompleteOpt` hands to the test after each draw is the list
  `set_p_values` hands to `asn.test.test`.
-/
import Shangrla.Props.RiskLimitStyle
import Shangrla.Props.C03
import Shangrla.Props.C06

namespace Shangrla.RiskLimit
open Shangrla Shangrla.Ville Shangrla.Status Shangrla.AuditLoop Shangrla.Overstatement

/-- a card of a comparison audit: its manual record and its CVR -/
abbrev MCard := Mvr × Cvr

/-- **the datum of one card**, read off the model: the entry `mvrs_to_data(use_all=True)` (`mvrsToData`) returns
for the one-card sample `[mvr], [cvr]`; `none` when it returns no entry (the card is filtered out by the style
filter) — and also when it raises or returns a non-number, which under the hypotheses of
`comparison_full_risk_limit` never happens for a card of the population (`cardDatum_eq`). -/
def cardDatum (ty : AuditType) (useStyle : Bool) (margin : XR) (upper : ℚ) (means : Option Means)
    (p : MCard) : Option ℚ :=
  match mvrsToData ty useStyle true none margin upper means [p.1] [p.2] with
  | .ok ([XR.fin q], _) => some q
  | _ => none

/-- the explicit value: for a card under audit, `(1 − (score(cvr) − A'(mvr))/u) / (2 − v/u)` with `score` the
pool mean of a pooled CVR (over the pooled cards of its pool under audit), 1/2 for an unpooled phantom CVR and
`A(cvr)` otherwise (`C03.score`), and `A'(mvr)` = 0 for an unfindable card or (under style) a manual record lacking
the contest, `A(mvr)` otherwise (`mvrAssort`); nothing for a card not under audit -/
def datumFormula (useStyle : Bool) (v u : ℚ) (cvrs : List Cvr) (means : Option Means) (p : MCard) : Option ℚ :=
  if passes useStyle p.2 then some (ovA v u (C03.score useStyle cvrs means p.2) (mvrAssort useStyle p.1))
  else none

theorem filterMap_formula_eq (useStyle : Bool) (v u : ℚ) (cvrs : List Cvr) (means : Option Means) (h : List MCard) :
    (h.filterMap (datumFormula useStyle v u cvrs means)).map XR.fin
      = (h.filter (fun p => passes useStyle p.2)).map
          (fun p => XR.fin (ovA v u (C03.score useStyle cvrs means p.2) (mvrAssort useStyle p.1))) := by
  rw [List.map_filterMap, ← List.filterMap_eq_map', List.filterMap_filter]
  exact List.filterMap_congr fun p _ => by unfold datumFormula; split <;> rfl

theorem contributes_passes (useStyle useAll : Bool) (threshold : Option Nat) (c : Cvr)
    (h : useAll = true ∨ ∃ t, threshold = some t ∧ c.sampleNum ≤ t) :
    contributes useStyle useAll threshold c = .ok (passes useStyle c) := by
  rcases h with rfl | ⟨t, rfl, ht⟩
  · exact C03.contributes_all useStyle threshold c
  · unfold contributes passes
    cases useStyle <;> cases c.hasContest <;> cases useAll <;> simp [ht]

theorem sample_data_formula (ty : AuditType) (hty : ty = .cardComparison ∨ ty = .oneaudit)
    (useStyle useAll : Bool) (threshold : Option Nat) (v u : ℚ) (cvrs : List Cvr) (means : Option Means)
    (hm : MeansFrom useStyle cvrs means) (hune : u ≠ 0) (hden : 2 - v / u ≠ 0)
    (h : List MCard) (hsub : ∀ p ∈ h, p.2 ∈ cvrs)
    (hk : ∀ p ∈ h, contributes useStyle useAll threshold p.2 = .ok (passes useStyle p.2)) :
    mvrsToData ty useStyle useAll threshold (XR.fin v) u means (h.map Prod.fst) (h.map Prod.snd)
      = .ok ((h.filterMap (datumFormula useStyle v u cvrs means)).map XR.fin, XR.fin (2 / (2 - v / u))) := by
  have hU := testU_fin (v := v) hune hden
  have hcomp : compData (XR.fin v) u useStyle useAll threshold means (h.map Prod.fst) (h.map Prod.snd)
      = .ok ((h.filterMap (datumFormula useStyle v u cvrs means)).map XR.fin) := by
    rw [compData_eq_mapM (XR.fin v) u useStyle useAll threshold means (passes useStyle) _ _ (by simp)
      (by rw [← List.zip_of_prod rfl rfl]; exact hk), ← List.zip_of_prod rfl rfl, filterMap_formula_eq]
    apply mapM_eq_map
    intro p hp
    obtain ⟨hph, hpass⟩ := List.mem_filter.mp hp
    have hpA : p.2 ∈ C03.aud useStyle cvrs := List.mem_filter.mpr ⟨hsub p hph, hpass⟩
    exact overstatementAssorter_fin hune hden (passes_iff.mp hpass)
      (C03.cvrAssort_score hm p.2 hpA)
  unfold mvrsToData
  rcases hty with rfl | rfl <;> simp [hcomp, hU, bind, Except.bind, pure, Except.pure]

theorem cardDatum_eq (ty : AuditType) (hty : ty = .cardComparison ∨ ty = .oneaudit)
    (useStyle : Bool) (v u : ℚ) (cvrs : List Cvr) (means : Option Means)
    (hm : MeansFrom useStyle cvrs means) (hune : u ≠ 0) (hden : 2 - v / u ≠ 0)
    (p : MCard) (hp : p.2 ∈ cvrs) :
    cardDatum ty useStyle (XR.fin v) u means p = datumFormula useStyle v u cvrs means p := by
  have h := sample_data_formula ty hty useStyle true none v u cvrs means hm hune hden [p]
    (by intro q hq; rw [List.mem_singleton.mp hq]; exact hp)
    (fun q _ => C03.contributes_all useStyle none q.2)
  simp only [List.map_cons, List.map_nil] at h
  unfold cardDatum
  rw [h]
  cases hd : datumFormula useStyle v u cvrs means p <;> simp [hd]

/-- no assumption `1/2 ≤ u` is needed: an unpooled phantom under audit, having `A = 1/2 ≤ u`, supplies it -/
theorem score_range {useStyle : Bool} {u : ℚ} {cvrs : List Cvr} {means : Option Means}
    (hm : MeansFrom useStyle cvrs means) (hcv : ∀ c ∈ cvrs, 0 ≤ c.a ∧ c.a ≤ u)
    (hph : ∀ c ∈ C03.aud useStyle cvrs, c.phantom = true → usesPool means c = false → c.a = 1 / 2)
    (c : Cvr) (hc : c ∈ C03.aud useStyle cvrs) :
    0 ≤ C03.score useStyle cvrs means c ∧ C03.score useStyle cvrs means c ≤ u := by
  obtain ⟨hcm, hcp⟩ := List.mem_filter.mp hc
  cases hup : usesPool means c
  · have hs : C03.score useStyle cvrs means c = ownScore c := by simp [C03.score, hup]
    rw [hs]
    unfold ownScore
    cases hphc : c.phantom
    · simpa using hcv c hcm
    · simp only [if_true]
      exact hph c hc hphc hup ▸ hcv c hcm
  · cases hm with
    | unset => simp [usesPool] at hup
    | set keys d hd =>
      have hpool : c.pool = true := by
        unfold usesPool at hup
        simpa using hup
      obtain ⟨_, hl⟩ := poolMeans_lookup hd c hcm hcp hpool
      obtain ⟨q, hq, hq0, hq1⟩ := C06.meansInBound_of_poolMeans (MeansFrom.set keys d hd) (fun c h => h) hcv
        d rfl c hcm hpool hcp _ hl
      have hs : C03.score useStyle cvrs (some d) c = q := by
        simp only [C03.score, hup, if_true]
        exact XR.fin.inj hq
      rw [hs]
      exact ⟨hq0, hq1⟩

/-- **what the test is handed on a sample is what `mvrs_to_data` returns on that sample.**  `h`: any cards of the
population, in any order, with repetitions; `hk`: `use_all` set or every sampled card's sample number within the
threshold (`set_p_values` calls with `use_all=False` and the contest's `sample_threshold`). -/
theorem sample_data_model (ty : AuditType) (hty : ty = .cardComparison ∨ ty = .oneaudit)
    (useStyle useAll : Bool) (threshold : Option Nat) (u : ℚ) (cvrs : List Cvr) (mvrs : List Mvr)
    (means : Option Means)
    (hm : MeansFrom useStyle cvrs means) (hlen : mvrs.length = cvrs.length) (hu : 0 < u)
    (ha : ∀ c ∈ cvrs, c.a ≤ u) (hne : C03.aud useStyle cvrs ≠ [])
    (hph : ∀ c ∈ C03.aud useStyle cvrs, c.phantom = true → usesPool means c = false → c.a = 1 / 2)
    (margin U : XR) (hmargin : setMarginFromCvrs 1 useStyle ty u cvrs = .ok (margin, U))
    (h : List MCard) (hsub : ∀ p ∈ h, p ∈ mvrs.zip cvrs)
    (hk : ∀ p ∈ h, useAll = true ∨ ∃ t, threshold = some t ∧ p.2.sampleNum ≤ t) :
    mvrsToData ty useStyle useAll threshold margin u means (h.map Prod.fst) (h.map Prod.snd)
      = .ok ((h.filterMap (cardDatum ty useStyle margin u means)).map XR.fin, U) := by
  obtain ⟨v, B, h1, _, _, _, h2uv, _⟩ :=
    C03.overstatement_identity ty hty useStyle u cvrs mvrs means none hm hlen hu ha hne hph
  obtain ⟨rfl, rfl⟩ := Prod.mk.inj (Except.ok.inj (h1.symm.trans hmargin))
  have hune : u ≠ 0 := ne_of_gt hu
  have hden : 2 - v / u ≠ 0 := (two_sub_div_pos hu (sub_pos.mp h2uv)).ne'
  have hcv : ∀ p ∈ h, p.2 ∈ cvrs := fun p hp => (List.of_mem_zip (hsub p hp)).2
  rw [List.filterMap_congr fun p hp => cardDatum_eq ty hty useStyle v u cvrs means hm hune hden p (hcv p hp)]
  exact sample_data_formula ty hty useStyle useAll threshold v u cvrs means hm hune hden h hcv
    (fun p hp => contributes_passes useStyle useAll threshold p.2 (hk p hp))

/-- the three hypotheses of `audit_risk_limit_style_run` on the data of the population: range `[0, U]`, one datum per
card under audit, and the null sum if the assertion is false on the manual records -/
theorem comparison_full_data (ty : AuditType) (hty : ty = .cardComparison ∨ ty = .oneaudit)
    (useStyle : Bool) (u : ℚ) (cvrs : List Cvr) (mvrs : List Mvr) (means : Option Means)
    (hm : MeansFrom useStyle cvrs means) (hlen : mvrs.length = cvrs.length) (hu : 0 < u)
    (hcv : ∀ c ∈ cvrs, 0 ≤ c.a ∧ c.a ≤ u) (hmv : ∀ m ∈ mvrs, 0 ≤ m.a ∧ m.a ≤ u)
    (hne : C03.aud useStyle cvrs ≠ [])
    (hph : ∀ c ∈ C03.aud useStyle cvrs, c.phantom = true → usesPool means c = false → c.a = 1 / 2)
    (margin U : XR) (hmargin : setMarginFromCvrs 1 useStyle ty u cvrs = .ok (margin, U))
    (cu : ℚ) (hcu : XR.fin cu = U) :
    (∀ x ∈ (mvrs.zip cvrs).filterMap (cardDatum ty useStyle margin u means), 0 ≤ x ∧ x ≤ cu) ∧
    ((mvrs.zip cvrs).filterMap (cardDatum ty useStyle margin u means)).length = (C03.aud useStyle cvrs).length ∧
    ((C03.mvrA useStyle mvrs cvrs).sum ≤ ((C03.mvrA useStyle mvrs cvrs).length : ℚ) / 2 →
      ((mvrs.zip cvrs).filterMap (cardDatum ty useStyle margin u means)).sum
        ≤ (((mvrs.zip cvrs).filterMap (cardDatum ty useStyle margin u means)).length : ℚ) * (1 / 2)) := by
  obtain ⟨v, B, h1, h2, hBlen, hMlen, h2uv, hid⟩ :=
    C03.overstatement_identity ty hty useStyle u cvrs mvrs means none hm hlen hu (fun c h => (hcv c h).2) hne hph
  obtain ⟨rfl, rfl⟩ := Prod.mk.inj (Except.ok.inj (h1.symm.trans hmargin))
  have hcfgu : cu = 2 / (2 - v / u) := XR.fin.inj hcu
  have hune : u ≠ 0 := ne_of_gt hu
  have hden : 2 - v / u ≠ 0 := (two_sub_div_pos hu (sub_pos.mp h2uv)).ne'
  set cards := mvrs.zip cvrs with hcards
  have hsub : ∀ p ∈ cards, p.2 ∈ cvrs := fun p hp => (List.of_mem_zip hp).2
  have hfm : cards.filterMap (cardDatum ty useStyle (XR.fin v) u means)
      = cards.filterMap (datumFormula useStyle v u cvrs means) :=
    List.filterMap_congr fun p hp => cardDatum_eq ty hty useStyle v u cvrs means hm hune hden p (hsub p hp)
  have hB : B = cards.filterMap (datumFormula useStyle v u cvrs means) := by
    have h3 := sample_data_formula ty hty useStyle true none v u cvrs means hm hune hden cards hsub
      (fun p _ => C03.contributes_all useStyle none p.2)
    rw [hcards, List.map_fst_zip (by omega), List.map_snd_zip (by omega), h2] at h3
    simp only [Except.ok.injEq, Prod.mk.injEq, and_true] at h3
    exact (List.map_injective_iff.mpr (fun _ _ h => XR.fin.inj h)) h3
  have hnA : 0 < (C03.aud useStyle cvrs).length := List.length_pos_iff.mpr hne
  refine ⟨?_, ?_, ?_⟩
  · intro x hx
    rw [hfm] at hx
    obtain ⟨p, hp, hpx⟩ := List.mem_filterMap.mp hx
    unfold datumFormula at hpx
    split at hpx
    · rename_i hpass
      cases hpx
      rw [hcfgu]
      have hpA : p.2 ∈ C03.aud useStyle cvrs := List.mem_filter.mpr ⟨hsub p hp, hpass⟩
      exact C06.ovA_range hu (sub_pos.mp h2uv) (score_range hm hcv hph p.2 hpA)
        (C06.mvrAssort_range useStyle p.1 u hu (hmv p.1 (List.of_mem_zip hp).1))
    · cases hpx
  · rw [hfm, ← hB, hBlen]
  · intro hfalse
    rw [hfm, ← hB]
    have hn : (0 : ℚ) < (B.length : ℚ) := by rw [hBlen]; exact_mod_cast hnA
    have hMn : (0 : ℚ) < ((C03.mvrA useStyle mvrs cvrs).length : ℚ) := by rw [hMlen]; exact_mod_cast hnA
    -- C03's identity: `mean B − 1/2` has the sign of `2·mean A' − 1`
    have hmean : 2 * ((C03.mvrA useStyle mvrs cvrs).sum / ((C03.mvrA useStyle mvrs cvrs).length : ℚ)) - 1 ≤ 0 := by
      rw [sub_nonpos, ← le_div_iff₀' two_pos, div_le_iff₀ hMn, mul_comm, ← div_eq_mul_one_div]
      exact hfalse
    have hB0 := hid ▸ div_nonpos_of_nonpos_of_nonneg hmean (mul_nonneg zero_le_two h2uv.le)
    rw [mul_comm]
    exact (div_le_iff₀ hn).1 (sub_nonpos.1 hB0)

/-- **Risk limit of a comparison audit, on the literal model with pools, phantoms and the style filter.**

* `ty`: card comparison or ONEAudit; `useStyle`: style-based sampling on or off.
* `cvrs`: ANY CVR list — phantoms, pooled or not, any pool labelling; `mvrs`: manual records for the same cards
  (`hlen`) — any discrepancies, records lacking the contest, unfindable cards (`phantom`).
* `means`: the dict of pool means, never set or computed by `set_tally_pool_means` from `cvrs` under the same
  style flag (`hm`).
* `hu`, `hcv`, `hmv`: the raw assorter takes values in `[0,u]`, `u > 0`.  `hne`: some card is under audit.
  `hph`: a phantom CVR under audit that is not scored through a pool has `A = 1/2` (C03's hypothesis; a
  non-vote for every shipped assorter).
* `margin`, `U`: the margin and test bound `set_margin_from_cvrs` installs (`hmargin`).
* the population of cards is `mvrs.zip cvrs`; the assertion's datum for a card is `cardDatum` — what the model's
  `mvrsToData` returns for that card, `none` when it is not under audit.
* the assertion's test is any shipped `NonnegMean` test in its documented range with `N` = the number of cards
  under audit, `t = 1/2`, `u = U`.
* `hfalse`: the assertion is FALSE on the manual records: their assorter mean over the cards under audit (an
  unfindable card counted 0, under style a record lacking the contest counted 0) is at most 1/2.

Then the probability, over all orders in which the cards are drawn, that the audit is EVER reported complete is at
most the contest's risk limit — whatever the other assertions, contests and tests are. -/
theorem comparison_full_risk_limit (ty : AuditType) (hty : ty = .cardComparison ∨ ty = .oneaudit)
    (useStyle : Bool) (u : ℚ) (cvrs : List Cvr) (mvrs : List Mvr) (means : Option Means)
    (hm : MeansFrom useStyle cvrs means) (hlen : mvrs.length = cvrs.length) (hu : 0 < u)
    (hcv : ∀ c ∈ cvrs, 0 ≤ c.a ∧ c.a ≤ u) (hmv : ∀ m ∈ mvrs, 0 ≤ m.a ∧ m.a ≤ u)
    (hne : C03.aud useStyle cvrs ≠ [])
    (hph : ∀ c ∈ C03.aud useStyle cvrs, c.phantom = true → usesPool means c = false → c.a = 1 / 2)
    (margin U : XR) (hmargin : setMarginFromCvrs 1 useStyle ty u cvrs = .ok (margin, U))
    (data : String → String → MCard → Option ℚ) (T : String → String → SeqTest) (s : State)
    (c : Contest) (hc : c ∈ s) (a : Assertion) (ha : a ∈ c.assertions)
    (hdata : data c.id a.name = cardDatum ty useStyle margin u means)
    (sqrtF : ℚ → ℚ) (cfg : NM.Cfg) (test : NM.Test)
    (hN : cfg.N = some (C03.aud useStyle cvrs).length) (ht : cfg.t = 1 / 2) (hcu : XR.fin cfg.u = U)
    (hT : T c.id a.name = NM.run sqrtF cfg test)
    (hdoc : C01.DocumentedFinite sqrtF cfg test)
    (hr0 : 0 < c.riskLimit) (hr1 : c.riskLimit < 1)
    (hfalse : (C03.mvrA useStyle mvrs cvrs).sum ≤ ((C03.mvrA useStyle mvrs cvrs).length : ℚ) / 2) :
    hitG (auditCompleteOpt data T s) (mvrs.zip cvrs).length (mvrs.zip cvrs) [] ≤ c.riskLimit := by
  obtain ⟨hr, hl, hn⟩ := comparison_full_data ty hty useStyle u cvrs mvrs means hm hlen hu hcv hmv hne hph margin U
    hmargin cfg.u hcu
  apply audit_risk_limit_style_run data T s c hc a ha _ sqrtF cfg test _ hT hdoc hr0 hr1
  · rw [hdata]; exact hr
  · rw [hdata, ht]; exact hn hfalse
  · rw [hdata, hl]; exact hN

/-! ### non-vacuity

C03's example population, ONEAudit under style-based sampling, `u = 1`: five cards — a pooled card (`A = 1`), a pooled
phantom, an unpooled card (`A = 0`), a pooled card that does not list the contest (not under audit: no datum), an
unpooled phantom (`A = 1/2`); manual records: a discrepancy, an unfindable card, a record lacking the contest,
(unused), a vote for the winner.  Pool mean 3/4, margin 0, test bound 1; the data of the four cards under audit
are 1/8, 1/8, 1/2, 3/4 and the assorter mean over the manual records is 1/4: the assertion is false. -/

section example_
open Shangrla.NM

def cfgF : Cfg := { N := some 4, u := 1, t := 1/2, randomOrder := true, kw := { eta := some (3/4) } }
def dataF : String → String → MCard → Option ℚ :=
  fun _ _ => cardDatum .oneaudit true (XR.fin 0) 1 (some C03.exMeans)
def TF : String → String → SeqTest := fun _ _ => NM.run sqrtRat cfgF (.alpha .fixedAlt)
def sF : State := [{ id := "c", riskLimit := 9/10, assertions := [{ name := "a" }] }]
def cardsF : List MCard := C03.exMvrs.zip C03.exCvrs

/-- the data of the five cards, read off the model -/
example : cardsF.map (dataF "c" "a") = [some (1 / 8), some (1 / 8), some (1 / 2), none, some (3 / 4)] := by
  decide +kernel

/-- every hypothesis of `comparison_full_risk_limit` is satisfied by this population -/
example : hitG (auditCompleteOpt dataF TF sF) 5 cardsF [] ≤ 9/10 :=
  comparison_full_risk_limit .oneaudit (Or.inr rfl) true 1 C03.exCvrs C03.exMvrs (some C03.exMeans)
    (MeansFrom.set none C03.exMeans (by decide +kernel)) rfl one_pos
    (by decide +kernel) (by decide +kernel) (by decide +kernel) (by decide +kernel)
    (XR.fin 0) (XR.fin 1) (by decide +kernel)
    dataF TF sF { id := "c", riskLimit := 9/10, assertions := [{ name := "a" }] } (List.mem_singleton.2 rfl)
    { name := "a" } (List.mem_singleton.2 rfl) rfl
    sqrtRat cfgF (.alpha .fixedAlt) rfl rfl rfl rfl (documentedFinite_alpha_fixed (by decide +kernel) rfl rfl)
    (by decide +kernel) (by decide +kernel) (by decide +kernel)

/-- the event bounded by 9/10 above really happens: over the 120 orders of the five cards the audit is reported
complete with probability 1/3 (kernel-computed; the card not under audit changes nothing) -/
theorem example_comparison_full_exact : hitG (auditCompleteOpt dataF TF sF) 5 cardsF [] = 1/3 := by
  have hd : cardsF.filterMap (dataF "c" "a") = [1/8, 1/8, 1/2, 3/4] := by decide +kernel
  refine (hitG_auditCompleteOpt_const (dataF "c" "a") TF sF cardsF).trans ?_
  rw [hd]
  decide +kernel

end example_

end Shangrla.RiskLimit
