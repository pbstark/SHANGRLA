/-
  C12 (Kaplan tests and the SPRT) — the reported histories equal the published definitions.

  For each of `kaplan_kolmogorov`, `kaplan_markov`, `kaplan_wald`, `wald_sprt` the defining product
  `T_j` is written as an explicit recursion over `Rat` (`Spec.kkT`, `Spec.kmP`, `Spec.kwT`,
  `Spec.sprtT`: `T_0 = 1`, `T_{j+1} = T_j · factor_{j+1}`), and entry `j` (0-based) of the history
  returned by the literal model (`Shangrla.NM.*`, the functions the driver executes) is shown to be
  `min(1, 1/T_{j+1})` (Kaplan-Markov: `min(1, P_{j+1})`) at every index whose null means are regular,
  together with the boundary clauses (`mu < 0 ⇒ 0`, `mu > u ⇒ 1`, vanishing product `⇒ 1`).
  `pOfQ T = if T = 0 then 1 else min 1 (1/T)` is `min(1, 1/T)` with IEEE `1/0 = +inf`.
-/
import Shangrla.Props.C11Kaplan

namespace Shangrla.C12
open Shangrla.XR Shangrla.NM Shangrla.C11

/-! ## Specifications (rationals only) -/
namespace Spec

/-- the observation `x_{i+1}` (0-based index `i`) -/
def obs (x : List Rat) (i : Nat) : Rat := x.getD i 0

/-- `Σ_{k ≤ i} x_k`: the sum of the first `i` observations -/
def S (x : List Rat) (i : Nat) : Rat := (x.take i).sum

/-- Kaplan-Kolmogorov null mean before draw `i+1`: `(N(t+g) − Σ_{k≤i}(x_k+g)) / (N − (i+1) + 1)` -/
def kkMu (N : Nat) (t g : Rat) (x : List Rat) (i : Nat) : Rat :=
  ((N : Rat) * (t + g) - ((x.take i).map (· + g)).sum) / ((N : Rat) - ((i : Rat) + 1) + 1)

/-- Kaplan-Kolmogorov statistic: `T_0 = 1`, `T_{j+1} = T_j · (x_{j+1} + g)/mu_{j+1}` -/
def kkT (N : Nat) (t g : Rat) (x : List Rat) : Nat → Rat
  | 0 => 1
  | j + 1 => kkT N t g x j * ((obs x j + g) / kkMu N t g x j)

/-- Kaplan-Markov p-value product: `P_0 = 1`, `P_{j+1} = P_j · (t+g)/(x_{j+1}+g)` -/
def kmP (t g : Rat) (x : List Rat) : Nat → Rat
  | 0 => 1
  | j + 1 => kmP t g x j * ((t + g) / (obs x j + g))

/-- Kaplan-Wald statistic: `T_0 = 1`, `T_{j+1} = T_j · ((1−g) x_{j+1}/t + g)` -/
def kwT (t g : Rat) (x : List Rat) : Nat → Rat
  | 0 => 1
  | j + 1 => kwT t g x j * ((1 - g) * obs x j / t + g)

/-- SPRT null mean before draw `i+1`: `(N t − S_i)/(N − (i+1) + 1)`, or `t` for an infinite population -/
def sprtMu (N : Option Nat) (t : Rat) (x : List Rat) (i : Nat) : Rat :=
  match N with
  | some n => ((n : Rat) * t - S x i) / ((n : Rat) - ((i : Rat) + 1) + 1)
  | none => t

/-- SPRT alternative mean before draw `i+1`: `min(u, (N eta − S_i)/(N − (i+1) + 1))`, or `eta` -/
def sprtEta (N : Option Nat) (u eta : Rat) (x : List Rat) (i : Nat) : Rat :=
  match N with
  | some n => min u (((n : Rat) * eta - S x i) / ((n : Rat) - ((i : Rat) + 1) + 1))
  | none => eta

/-- SPRT statistic (with the alternative not below the null mean: `max(eta_j, mu_j)`): `T_0 = 1`,
`T_{j+1} = T_j · [x eta/mu + (u−x)(u−eta)/(u−mu)]/u` with `x, eta, mu` those of draw `j+1` -/
def sprtT (N : Option Nat) (u t eta : Rat) (x : List Rat) : Nat → Rat
  | 0 => 1
  | j + 1 => sprtT N u t eta x j *
      ((obs x j * max (sprtEta N u eta x j) (sprtMu N t x j) / sprtMu N t x j
        + (u - obs x j) * (u - max (sprtEta N u eta x j) (sprtMu N t x j)) / (u - sprtMu N t x j)) / u)

/-- `np.isclose(a, b, rtol, atol)` on rationals -/
def close (a b rtol atol : Rat) : Prop := |a - b| ≤ atol + rtol * |b|

end Spec

theorem obs_eq {x : List Rat} {i : Nat} {a : Rat} (h : x[i]? = some a) : Spec.obs x i = a := by
  rw [Spec.obs, List.getD_eq_getElem?_getD, h]; rfl

theorem obs_append_left (h r : List Rat) (i : Nat) (hi : i < h.length) :
    Spec.obs (h ++ r) i = Spec.obs h i := by
  unfold Spec.obs
  rw [List.getD_eq_getElem?_getD, List.getD_eq_getElem?_getD, List.getElem?_append_left hi]

theorem obs_append_length (h : List Rat) (a : Rat) : Spec.obs (h ++ [a]) h.length = a := by
  unfold Spec.obs
  rw [List.getD_eq_getElem?_getD, List.getElem?_append_right (le_refl _), Nat.sub_self]
  rfl

theorem obs_nonneg {x : List Rat} (hx : ∀ a ∈ x, 0 ≤ a) (i : Nat) : 0 ≤ Spec.obs x i :=
  getD_of_forall (P := (0 ≤ ·)) (le_refl _) hx i

theorem obs_mem {x : List Rat} {i : Nat} (hi : i < x.length) : Spec.obs x i ∈ x := by
  unfold Spec.obs
  rw [List.getD_eq_getElem?_getD, List.getElem?_eq_getElem hi]
  exact List.getElem_mem hi

theorem psum_add_obs_le {x : List Rat} (hx : ∀ a ∈ x, 0 ≤ a) (i : Nat) :
    psum x i + Spec.obs x i ≤ x.sum := by
  rw [Spec.obs, ← psum_step]; exact psum_le_sum hx (i + 1)

theorem S_eq (x : List Rat) (i : Nat) : Spec.S x i = psum x i := rfl

theorem hist_entry {r : Except Err (XR × List XR)} {p : XR} {L : List XR} {fh : XR → XR}
    (he : r = .ok (p, L.map fh)) {j : Nat} {T v : XR} (hT : L[j]? = some T) (hv : fh T = v) :
    ∃ p hist, r = .ok (p, hist) ∧ hist[j]? = some v :=
  ⟨_, _, he, by rw [List.getElem?_map, hT, Option.map_some, hv]⟩

/-- entry `j` of the cumulative product of factors that are the finite values `f 0 .. f j`, for a
statistic `T` with `T_0 = 1`, `T_{k+1} = T_k · f_k` -/
theorem cumprod_getElem?_spec {T f : Nat → Rat} (h0 : T 0 = 1) (hs : ∀ k, T (k + 1) = T k * f k)
    (F : List XR) (j : Nat) (h : ∀ i ≤ j, F[i]? = some (XR.fin (f i))) :
    (XR.cumprod F)[j]? = some (XR.fin (T (j + 1))) := by
  rw [eq_prodTo h0 hs, ← one_mul (prodTo f (j + 1))]
  exact cumprodFrom_getElem?_fin F 1 f j h

/-! ## `kaplan_kolmogorov` -/

theorem kkMu_eq (cfg : Cfg) (n : Nat) (x : List Rat) (i : Nat) :
    C11.kkMu cfg n x i = Spec.kkMu n cfg.t (cfg.kw.g.getD 0) x i := by
  unfold C11.kkMu Spec.kkMu
  rw [mu_some, psum, List.map_take]
  push_cast
  rfl

theorem kkT_eq (N : Nat) (t g : Rat) (x : List Rat) (k : Nat) :
    Spec.kkT N t g x k = prodTo (fun i => (Spec.obs x i + g) / Spec.kkMu N t g x i) k :=
  eq_prodTo rfl (fun _ => rfl) k

theorem kkMasked_regular (cfg : Cfg) (n : Nat) (x : List Rat) (j : Nat) (hj : j < x.length)
    (hreg : ∀ i ≤ j, 0 < Spec.kkMu n cfg.t (cfg.kw.g.getD 0) x i) :
    (kkMasked cfg n x)[j]? = some (XR.fin (Spec.kkT n cfg.t (cfg.kw.g.getD 0) x (j + 1))) := by
  have hT := cumprod_getElem?_spec (T := Spec.kkT n cfg.t (cfg.kw.g.getD 0) x) rfl (fun _ => rfl)
    (kkFactors cfg n x) j (fun i hi => by
      obtain ⟨a, ha⟩ := exists_getElem? x (lt_of_le_of_lt hi hj)
      rw [kkFactors_getElem? cfg n x i a ha, kkMu_eq, fin_div _ _ (hreg i hi).ne', obs_eq ha])
  rw [kkMasked_getElem? cfg n x j _ hj hT, kkMu_eq, if_neg (not_lt.2 (hreg j (le_refl j)).le)]
  rfl

/-- **C12, Kaplan-Kolmogorov.**  For every finite `N`, sample `x ≥ 0` with `|x| ≤ N`, and index `j`
whose null means `mu_1..mu_{j+1}` are all positive, entry `j` of the history is `min(1, 1/T_{j+1})`
with `T` the published product (no sign condition on `g` or `t`). -/
theorem kk_def (cfg : Cfg) (n : Nat) (x : List Rat) (hN : cfg.N = some n) (hx : ∀ a ∈ x, 0 ≤ a)
    (hlen : x.length ≤ n) (j : Nat) (hj : j < x.length)
    (hreg : ∀ i ≤ j, 0 < Spec.kkMu n cfg.t (cfg.kw.g.getD 0) x i) :
    ∃ p hist, kaplanKolmogorov cfg x = .ok (p, hist) ∧
      hist[j]? = some (XR.fin (pOfQ (Spec.kkT n cfg.t (cfg.kw.g.getD 0) x (j + 1)))) :=
  hist_entry (kk_eq cfg n x hN (List.ne_nil_of_length_pos (Nat.zero_lt_of_lt hj)) hx hlen)
    (kkMasked_regular cfg n x j hj hreg) (npmin_inv_one_fin _)

/-- boundary clause: a negative null mean gives the history entry `0` (the null is surely false) -/
theorem kk_def_neg (cfg : Cfg) (n : Nat) (x : List Rat) (hN : cfg.N = some n) (hx : ∀ a ∈ x, 0 ≤ a)
    (hlen : x.length ≤ n) (j : Nat) (hj : j < x.length)
    (hneg : Spec.kkMu n cfg.t (cfg.kw.g.getD 0) x j < 0) :
    ∃ p hist, kaplanKolmogorov cfg x = .ok (p, hist) ∧ hist[j]? = some (XR.fin 0) := by
  obtain ⟨T, hT⟩ := exists_getElem? (XR.cumprod (kkFactors cfg n x))
    (by rwa [length_cumprod, length_kkFactors])
  refine hist_entry (kk_eq cfg n x hN (List.ne_nil_of_length_pos (Nat.zero_lt_of_lt hj)) hx hlen)
    (kkMasked_getElem? cfg n x j T hj hT) ?_
  rw [kkMu_eq, if_pos hneg]
  rfl

/-- boundary clause: a regular index whose product vanishes (some `x_i + g = 0`) has entry `1` -/
theorem kk_def_zero (cfg : Cfg) (n : Nat) (x : List Rat) (hN : cfg.N = some n) (hx : ∀ a ∈ x, 0 ≤ a)
    (hlen : x.length ≤ n) (j : Nat) (hj : j < x.length)
    (hreg : ∀ i ≤ j, 0 < Spec.kkMu n cfg.t (cfg.kw.g.getD 0) x i)
    (hz : Spec.kkT n cfg.t (cfg.kw.g.getD 0) x (j + 1) = 0) :
    ∃ p hist, kaplanKolmogorov cfg x = .ok (p, hist) ∧ hist[j]? = some (XR.fin 1) := by
  have h := kk_def cfg n x hN hx hlen j hj hreg
  rwa [hz, pOfQ_zero] at h

-- non-vacuity: N = 4, t = 1/2, g = 0, x = [1, 1, 0, 1]: mu = 1/2, 1/3, 0, 0; T_2 = 2·3 = 6, entry 1 is 1/6
example : ∀ i ≤ 1, 0 < Spec.kkMu 4 (1/2) 0 [1, 1, 0, 1] i := by decide +kernel
example : Spec.kkT 4 (1/2) 0 [1, 1, 0, 1] 2 = 6 ∧ pOfQ 6 = 1/6 := by decide +kernel
-- x = [1, 1, 1]: the third null mean is (2 − 2)/2 = 0 and with x = [1,1,1,1] the fourth is negative
example : Spec.kkMu 4 (1/2) 0 [1, 1, 1, 1] 3 < 0 := by decide +kernel

/-! ## `kaplan_markov` -/

theorem kmP_eq (t g : Rat) (x : List Rat) (k : Nat) :
    Spec.kmP t g x k = prodTo (fun i => (t + g) / (Spec.obs x i + g)) k :=
  eq_prodTo rfl (fun _ => rfl) k

/-- **C12, Kaplan-Markov.**  For every sample `x ≥ 0` and index `j` with `x_i + g ≠ 0` for all `i ≤ j`
(non-vanishing denominators), entry `j` of the history is `min(1, P_{j+1})`, `P` the published product. -/
theorem km_def (cfg : Cfg) (x : List Rat) (hx : ∀ a ∈ x, 0 ≤ a) (j : Nat) (hj : j < x.length)
    (hreg : ∀ i ≤ j, Spec.obs x i + cfg.kw.g.getD 0 ≠ 0) :
    ∃ p hist, kaplanMarkov cfg x = .ok (p, hist) ∧
      hist[j]? = some (XR.fin (min 1 (Spec.kmP cfg.t (cfg.kw.g.getD 0) x (j + 1)))) := by
  have hT := cumprod_getElem?_spec (T := Spec.kmP cfg.t (cfg.kw.g.getD 0) x) rfl (fun _ => rfl)
    (x.map fun a => (XR.fin (cfg.t + cfg.kw.g.getD 0)) / (XR.fin (a + cfg.kw.g.getD 0))) j (fun i hi => by
      obtain ⟨a, ha⟩ := exists_getElem? x (lt_of_le_of_lt hi hj)
      have h0 := hreg i hi
      rw [obs_eq ha] at h0 ⊢
      rw [List.getElem?_map, ha, Option.map_some, fin_div _ _ h0])
  refine hist_entry (km_eq cfg x (List.ne_nil_of_length_pos (Nat.zero_lt_of_lt hj)) hx) hT ?_
  rw [one_def, npmin_fin, min_comm]

-- non-vacuity: t = 1/2, g = 1/10, x = [1, 0, 1/2]: P_2 = (6/10)/(11/10) · (6/10)/(1/10) = 36/11 > 1
example : ∀ i ≤ 1, Spec.obs [1, 0, 1/2] i + (1/10 : Rat) ≠ 0 := by decide +kernel
example : Spec.kmP (1/2) (1/10) [1, 0, 1/2] 2 = 36/11 := by decide +kernel

/-! ## `kaplan_wald` -/

theorem kwT_eq (t g : Rat) (x : List Rat) (k : Nat) :
    Spec.kwT t g x k = prodTo (fun i => (1 - g) * Spec.obs x i / t + g) k :=
  eq_prodTo rfl (fun _ => rfl) k

theorem kwTerms_getElem? (cfg : Cfg) (x : List Rat) (ht : cfg.t ≠ 0) (j : Nat) (hj : j < x.length) :
    (kwTerms cfg x)[j]? = some (XR.fin (Spec.kwT cfg.t (cfg.kw.g.getD 0) x (j + 1))) :=
  cumprod_getElem?_spec (T := Spec.kwT cfg.t (cfg.kw.g.getD 0) x) rfl (fun _ => rfl) _ j (fun i hi => by
    obtain ⟨a, ha⟩ := exists_getElem? x (lt_of_le_of_lt hi hj)
    rw [List.getElem?_map, ha, Option.map_some, fin_div _ _ ht, fin_add, obs_eq ha])

/-- **C12, Kaplan-Wald.**  For every sample `x ≥ 0`, `0 ≤ g ≤ 1` (both enforced by the code) and `t ≠ 0`,
every entry `j` of the history is `min(1, 1/T_{j+1})`, `T` the published product. -/
theorem kw_def (cfg : Cfg) (x : List Rat) (hx : ∀ a ∈ x, 0 ≤ a) (hg0 : 0 ≤ cfg.kw.g.getD 0)
    (hg1 : cfg.kw.g.getD 0 ≤ 1) (ht : cfg.t ≠ 0) (j : Nat) (hj : j < x.length) :
    ∃ p hist, kaplanWald cfg x = .ok (p, hist) ∧
      hist[j]? = some (XR.fin (pOfQ (Spec.kwT cfg.t (cfg.kw.g.getD 0) x (j + 1)))) :=
  hist_entry (kw_eq cfg x (List.ne_nil_of_length_pos (Nat.zero_lt_of_lt hj)) hx hg0 hg1)
    (kwTerms_getElem? cfg x ht j hj) (npmin_inv_one_fin _)

/-- boundary clause: a vanishing product (`g = 0` and a zero observation) gives the entry `1` -/
theorem kw_def_zero (cfg : Cfg) (x : List Rat) (hx : ∀ a ∈ x, 0 ≤ a) (hg0 : 0 ≤ cfg.kw.g.getD 0)
    (hg1 : cfg.kw.g.getD 0 ≤ 1) (ht : cfg.t ≠ 0) (j : Nat) (hj : j < x.length)
    (hz : Spec.kwT cfg.t (cfg.kw.g.getD 0) x (j + 1) = 0) :
    ∃ p hist, kaplanWald cfg x = .ok (p, hist) ∧ hist[j]? = some (XR.fin 1) := by
  have h := kw_def cfg x hx hg0 hg1 ht j hj
  rwa [hz, pOfQ_zero] at h

-- non-vacuity: t = 1/2, g = 1/10, x = [1, 0, 1/2]: T_1 = 19/10, T_2 = 19/100, T_3 = 19/100
example : Spec.kwT (1/2) (1/10) [1, 0, 1/2] 1 = 19/10 ∧ pOfQ (19/10) = 10/19 ∧
    Spec.kwT (1/2) (1/10) [1, 0, 1/2] 2 = 19/100 ∧ pOfQ (19/100) = 1 := by decide +kernel
-- g = 0 and a zero observation: the product vanishes, the entry is 1
example : Spec.kwT (1/2) 0 [1, 0, 1/2] 2 = 0 := by decide +kernel

/-! ## `wald_sprt` -/

theorem sprtMu_eq (cfg : Cfg) (x : List Rat) (i : Nat) :
    C11.sprtMu cfg x i = Spec.sprtMu cfg.N cfg.t x i := by
  unfold C11.sprtMu Spec.sprtMu
  cases cfg.N with
  | none => rfl
  | some n => rw [mu_some, Nat.cast_succ]; rfl

theorem sprtEt0_eq (cfg : Cfg) (x : List Rat) (i : Nat) :
    C11.sprtEt0 cfg x i = Spec.sprtEta cfg.N cfg.u (C11.sprtEta cfg) x i := by
  unfold C11.sprtEt0 Spec.sprtEta
  cases cfg.N with
  | none => rfl
  | some n => exact congrArg (min cfg.u) (by rw [mu_some, Nat.cast_succ]; rfl)

theorem sprtEt_eq (cfg : Cfg) (x : List Rat) (i : Nat) :
    C11.sprtEt cfg x i =
      max (Spec.sprtEta cfg.N cfg.u (C11.sprtEta cfg) x i) (Spec.sprtMu cfg.N cfg.t x i) := by
  rw [C11.sprtEt, sprtEt0_eq, sprtMu_eq]

theorem sprtT_eq (N : Option Nat) (u t eta : Rat) (x : List Rat) (k : Nat) :
    Spec.sprtT N u t eta x k =
      prodTo (fun i => alphaFactorQ u (Spec.sprtMu N t x i) (Spec.obs x i)
        (max (Spec.sprtEta N u eta x i) (Spec.sprtMu N t x i))) k :=
  eq_prodTo rfl (fun _ => rfl) k

theorem pAndHist_snd (ro : Bool) (L : List XR) :
    (pAndHist ro L).2 = L.map (fun T => XR.npmin (1 : XR) ((1 : XR) / T)) := rfl

theorem sprtTerms_regular (cfg : Cfg) (x : List Rat) (hfit : FitsN cfg.N x.length) (j : Nat)
    (hj : j < x.length)
    (hreg : ∀ i ≤ j, 0 < Spec.sprtMu cfg.N cfg.t x i ∧ Spec.sprtMu cfg.N cfg.t x i < cfg.u) :
    (XR.cumprod (sprtFactors cfg x))[j]? =
      some (XR.fin (Spec.sprtT cfg.N cfg.u cfg.t (C11.sprtEta cfg) x (j + 1))) :=
  cumprod_getElem?_spec (T := Spec.sprtT cfg.N cfg.u cfg.t (C11.sprtEta cfg) x) rfl (fun _ => rfl) _ j
    (fun i hi => by
      obtain ⟨a, ha⟩ := exists_getElem? x (lt_of_le_of_lt hi hj)
      obtain ⟨h0, hu⟩ := hreg i hi
      rw [sprtFactors_getElem? cfg x hfit i a ha, sprtMu_eq, sprtEt_eq,
        sprtFactor_fin _ _ _ _ h0.ne' (sub_pos.2 hu).ne' (h0.trans hu).ne', obs_eq ha]
      rfl)

theorem sprtMasked_regular (cfg : Cfg) (x : List Rat) (hfit : FitsN cfg.N x.length) (j : Nat)
    (hj : j < x.length)
    (hreg : ∀ i ≤ j, 0 < Spec.sprtMu cfg.N cfg.t x i ∧ Spec.sprtMu cfg.N cfg.t x i < cfg.u)
    (hb0 : ¬ Spec.close 0 (Spec.sprtMu cfg.N cfg.t x j) (1 / 100000) (2 * eps))
    (hbu : ¬ Spec.close cfg.u (Spec.sprtMu cfg.N cfg.t x j) (1 / 1000000) (2 * eps)) :
    (sprtMasked cfg x)[j]? =
      some (if XR.isclose (0 : XR) (XR.fin (Spec.sprtT cfg.N cfg.u cfg.t (C11.sprtEta cfg) x (j + 1)))
          (1 / 100000) (2 * eps) = true
        then (1 : XR) else XR.fin (Spec.sprtT cfg.N cfg.u cfg.t (C11.sprtEta cfg) x (j + 1))) := by
  obtain ⟨h0, hu⟩ := hreg j (le_refl j)
  rw [sprtMasked_getElem? cfg x hfit j _ hj (sprtTerms_regular cfg x hfit j hj hreg), sprtMu_eq,
    maskTermX_regular (not_lt.2 h0.le) (not_lt.2 hu.le) ((isclose_fin ..).trans (decide_eq_false hb0))
      ((isclose_fin ..).trans (decide_eq_false hbu))]

/-- **C12, SPRT generalisation.**  For every sample in `[0,u]` (no longer than a finite population,
in random order when the population is finite) and every index `j` such that all null means
`mu_1..mu_{j+1}` lie strictly between `0` and `u`, `mu_{j+1}` is outside the `isclose` bands of the
masks (`isclose(0, mu, atol=2eps)` with numpy's default `rtol=1e-5`; `isclose(u, mu, rtol=1e-6,
atol=2eps)`) and the product is not `isclose` to `0`: entry `j` of the history is `min(1, 1/T_{j+1})`. -/
theorem sprt_def (cfg : Cfg) (x : List Rat) (hx : ∀ a ∈ x, 0 ≤ a ∧ a ≤ cfg.u)
    (hfit : FitsN cfg.N x.length) (hro : cfg.N ≠ none → cfg.randomOrder = true)
    (j : Nat) (hj : j < x.length)
    (hreg : ∀ i ≤ j, 0 < Spec.sprtMu cfg.N cfg.t x i ∧ Spec.sprtMu cfg.N cfg.t x i < cfg.u)
    (hb0 : ¬ Spec.close 0 (Spec.sprtMu cfg.N cfg.t x j) (1 / 100000) (2 * eps))
    (hbu : ¬ Spec.close cfg.u (Spec.sprtMu cfg.N cfg.t x j) (1 / 1000000) (2 * eps))
    (hbT : ¬ Spec.close 0 (Spec.sprtT cfg.N cfg.u cfg.t (C11.sprtEta cfg) x (j + 1)) (1 / 100000) (2 * eps)) :
    ∃ p hist, waldSprt cfg x = .ok (p, hist) ∧
      hist[j]? = some (XR.fin (pOfQ (Spec.sprtT cfg.N cfg.u cfg.t (C11.sprtEta cfg) x (j + 1)))) := by
  refine hist_entry (sprt_eq cfg x (List.ne_nil_of_length_pos (Nat.zero_lt_of_lt hj)) hx hro)
    (sprtMasked_regular cfg x hfit j hj hreg hb0 hbu) ?_
  unfold Spec.close at hbT
  rw [zero_def, isclose_fin, if_neg (mt of_decide_eq_true hbT)]
  exact npmin_one_inv_fin _

/-- boundary clause: `mu_{j+1} > u` (the true mean is certainly below the hypothesised one): entry `1` -/
theorem sprt_def_above (cfg : Cfg) (x : List Rat) (hx : ∀ a ∈ x, 0 ≤ a ∧ a ≤ cfg.u)
    (hfit : FitsN cfg.N x.length) (hro : cfg.N ≠ none → cfg.randomOrder = true) (hu0 : 0 ≤ cfg.u)
    (j : Nat) (hj : j < x.length) (habove : cfg.u < Spec.sprtMu cfg.N cfg.t x j) :
    ∃ p hist, waldSprt cfg x = .ok (p, hist) ∧ hist[j]? = some (XR.fin 1) := by
  obtain ⟨T, hT⟩ := exists_getElem? (XR.cumprod (sprtFactors cfg x))
    (by rwa [length_cumprod, length_sprtFactors])
  refine hist_entry (sprt_eq cfg x (List.ne_nil_of_length_pos (Nat.zero_lt_of_lt hj)) hx hro)
    (sprtMasked_getElem? cfg x hfit j T hj hT) ?_
  rw [sprtMu_eq, maskTermX_above hu0 (mul_nonneg zero_le_two eps_pos.le) habove]
  exact pOf_one

/-- boundary clause: `mu_{j+1} < 0` (the null is surely false): entry `0` -/
theorem sprt_def_neg (cfg : Cfg) (x : List Rat) (hx : ∀ a ∈ x, 0 ≤ a ∧ a ≤ cfg.u)
    (hfit : FitsN cfg.N x.length) (hro : cfg.N ≠ none → cfg.randomOrder = true)
    (j : Nat) (hj : j < x.length) (hneg : Spec.sprtMu cfg.N cfg.t x j < 0) :
    ∃ p hist, waldSprt cfg x = .ok (p, hist) ∧ hist[j]? = some (XR.fin 0) := by
  obtain ⟨T, hT⟩ := exists_getElem? (XR.cumprod (sprtFactors cfg x))
    (by rwa [length_cumprod, length_sprtFactors])
  refine hist_entry (sprt_eq cfg x (List.ne_nil_of_length_pos (Nat.zero_lt_of_lt hj)) hx hro)
    (sprtMasked_getElem? cfg x hfit j T hj hT) ?_
  rw [sprtMu_eq, maskTermX_neg hneg]
  rfl

/-- boundary clause: regular null means but a product that is zero, or `isclose` to zero: entry `1` -/
theorem sprt_def_vanish (cfg : Cfg) (x : List Rat) (hx : ∀ a ∈ x, 0 ≤ a ∧ a ≤ cfg.u)
    (hfit : FitsN cfg.N x.length) (hro : cfg.N ≠ none → cfg.randomOrder = true)
    (j : Nat) (hj : j < x.length)
    (hreg : ∀ i ≤ j, 0 < Spec.sprtMu cfg.N cfg.t x i ∧ Spec.sprtMu cfg.N cfg.t x i < cfg.u)
    (hb0 : ¬ Spec.close 0 (Spec.sprtMu cfg.N cfg.t x j) (1 / 100000) (2 * eps))
    (hbu : ¬ Spec.close cfg.u (Spec.sprtMu cfg.N cfg.t x j) (1 / 1000000) (2 * eps))
    (hbT : Spec.close 0 (Spec.sprtT cfg.N cfg.u cfg.t (C11.sprtEta cfg) x (j + 1)) (1 / 100000) (2 * eps)) :
    ∃ p hist, waldSprt cfg x = .ok (p, hist) ∧ hist[j]? = some (XR.fin 1) := by
  refine hist_entry (sprt_eq cfg x (List.ne_nil_of_length_pos (Nat.zero_lt_of_lt hj)) hx hro)
    (sprtMasked_regular cfg x hfit j hj hreg hb0 hbu) ?_
  unfold Spec.close at hbT
  rw [zero_def, isclose_fin, if_pos (decide_eq_true hbT)]
  exact pOf_one

theorem close_zero_zero (rtol atol : Rat) (h : 0 ≤ atol) : Spec.close 0 0 rtol atol := by
  rw [Spec.close, sub_self, abs_zero, mul_zero, add_zero]; exact h

-- non-vacuity: N = 5, u = 1, t = 1/2, eta = 3/4, x = [1, 0, 1/2, 1]:
-- mu = 1/2, 3/8, 1/2, ...; eta_i = 3/4, 11/16, 11/12 (all < u); T_1 = 3/2, T_2 = 3/2 · 1/2 = 3/4
example : ∀ i ≤ 1, 0 < Spec.sprtMu (some 5) (1/2) [1, 0, 1/2, 1] i ∧
    Spec.sprtMu (some 5) (1/2) [1, 0, 1/2, 1] i < 1 := by decide +kernel
example : Spec.sprtT (some 5) 1 (1/2) (3/4) [1, 0, 1/2, 1] 2 = 3/4 ∧ pOfQ (3/4) = 1 := by decide +kernel
example : ¬ Spec.close 0 (Spec.sprtMu (some 5) (1/2) [1, 0, 1/2, 1] 1) (1 / 100000) (2 * eps) := by
  unfold Spec.close; decide +kernel
example : ¬ Spec.close 1 (Spec.sprtMu (some 5) (1/2) [1, 0, 1/2, 1] 1) (1 / 1000000) (2 * eps) := by
  unfold Spec.close; decide +kernel
-- mu > u: N = 3, t = 1/2, u = 1, x = [0, 0]: mu_3 would be (3/2)/1 > 1; here index 2 of [0,0,0]
example : (1 : Rat) < Spec.sprtMu (some 3) (1/2) [0, 0, 0] 2 := by decide +kernel

/-! ## The theorems applied to concrete inputs (non-vacuity of the conjunction of all hypotheses) -/

-- Kaplan-Kolmogorov, N = 4, t = 1/2, g = 0, x = [1, 1, 0, 1]: entry 1 of the history is 1/6
example : ∃ p hist, kaplanKolmogorov { N := some 4, u := 1, t := 1/2, randomOrder := true, kw := {} }
    [1, 1, 0, 1] = .ok (p, hist) ∧ hist[1]? = some (XR.fin (1/6)) := by
  obtain ⟨p, hist, he, hh⟩ := kk_def { N := some 4, u := 1, t := 1/2, randomOrder := true, kw := {} } 4
    [1, 1, 0, 1] rfl (by decide +kernel) (by decide) 1 (by decide) (by decide +kernel)
  have hT : pOfQ (Spec.kkT 4 (1/2) (Option.getD (none : Option Rat) 0) [1, 1, 0, 1] (1 + 1)) = 1/6 := by
    decide +kernel
  exact ⟨p, hist, he, hh.trans (congrArg _ (congrArg _ hT))⟩

-- Kaplan-Markov, t = 1/2, g = 1/10, x = [1, 0, 1/2]: entry 0 is (6/10)/(11/10) = 6/11
example : ∃ p hist, kaplanMarkov { N := none, u := 1, t := 1/2, randomOrder := true, kw := { g := some (1/10) } }
    [1, 0, 1/2] = .ok (p, hist) ∧ hist[0]? = some (XR.fin (6/11)) := by
  obtain ⟨p, hist, he, hh⟩ := km_def
    { N := none, u := 1, t := 1/2, randomOrder := true, kw := { g := some (1/10) } } [1, 0, 1/2]
    (by decide +kernel) 0 (by decide) (by decide +kernel)
  have hT : min 1 (Spec.kmP (1/2) (Option.getD (some (1/10 : Rat)) 0) [1, 0, 1/2] (0 + 1)) = 6/11 := by
    decide +kernel
  exact ⟨p, hist, he, hh.trans (congrArg _ (congrArg _ hT))⟩

-- Kaplan-Wald, t = 1/2, g = 1/10, x = [1, 0, 1/2]: entry 0 is 10/19
example : ∃ p hist, kaplanWald { N := none, u := 1, t := 1/2, randomOrder := true, kw := { g := some (1/10) } }
    [1, 0, 1/2] = .ok (p, hist) ∧ hist[0]? = some (XR.fin (10/19)) := by
  obtain ⟨p, hist, he, hh⟩ := kw_def
    { N := none, u := 1, t := 1/2, randomOrder := true, kw := { g := some (1/10) } } [1, 0, 1/2]
    (by decide +kernel) (by decide +kernel) (by decide +kernel) (by decide +kernel) 0 (by decide)
  have hT : pOfQ (Spec.kwT (1/2) (Option.getD (some (1/10 : Rat)) 0) [1, 0, 1/2] (0 + 1)) = 10/19 := by
    decide +kernel
  exact ⟨p, hist, he, hh.trans (congrArg _ (congrArg _ hT))⟩

-- SPRT, N = 5, u = 1, t = 1/2, eta = 3/4, x = [1, 0, 1/2, 1]: T_1 = 3/2, entry 0 is 2/3
example : ∃ p hist, waldSprt { N := some 5, u := 1, t := 1/2, randomOrder := true, kw := { eta := some (3/4) } }
    [1, 0, 1/2, 1] = .ok (p, hist) ∧ hist[0]? = some (XR.fin (2/3)) := by
  obtain ⟨p, hist, he, hh⟩ := sprt_def
    { N := some 5, u := 1, t := 1/2, randomOrder := true, kw := { eta := some (3/4) } } [1, 0, 1/2, 1]
    (by decide +kernel) (by rintro n ⟨⟩; decide) (fun _ => rfl) 0 (by decide)
    (by decide +kernel) (by unfold Spec.close; decide +kernel) (by unfold Spec.close; decide +kernel)
    (by unfold Spec.close; decide +kernel)
  have hT : pOfQ (Spec.sprtT (some 5) 1 (1/2) (3/4) [1, 0, 1/2, 1] (0 + 1)) = 2/3 := by decide +kernel
  exact ⟨p, hist, he, hh.trans (congrArg _ (congrArg _ hT))⟩

end Shangrla.C12
