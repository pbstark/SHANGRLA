/-
  C11 (ALPHA and betting martingale tests) — reported p-values are well-formed and the overall
  value matches the history.  Theorems about `Shangrla.NM.alphaMart` / `bettingMart`, the literal
  models the driver executes.
-/
import Shangrla.Lemmas.NMMart
import Shangrla.Lemmas.PHist

namespace Shangrla.C11
open Shangrla Shangrla.NM XR

/-- the conclusion of C11 for one test result `(p, hist)` on a sample of length `n` -/
def WellFormed (ro : Bool) (n : Nat) (r : XR × List XR) : Prop :=
  r.2.length = n ∧ (∀ h ∈ r.2, IsP h) ∧ IsP r.1 ∧
    (ro = true → r.1 ∈ r.2 ∧ ∀ h ∈ r.2, XR.le r.1 h = true) ∧
    (ro = false → r.2.getLast? = some r.1)

theorem sjm_ok (N : Option Nat) (t : Rat) (x : List Rat) (hne : x ≠ [])
    (hN : ∀ n, N = some n → x.length ≤ n) :
    sjm N t x = .ok (prefixSums x, xsum x, nullMeansFrom N t 0 1 x) := sjm_eq N t x hne hN

/-- from an entrywise description (entry `i` of the parameters is acceptable for entry `i` of the null
means) to `OkWalk` -/
theorem okWalk_of_entries (ok : Rat → Rat → XR → Prop) (u : Rat) (N : Option Nat) (t : Rat) :
    ∀ (x : List Rat) (es : List XR) (S : Rat) (j : Nat), es.length = x.length →
      (∀ a ∈ x, 0 ≤ a ∧ a ≤ u) →
      (∀ (i : Nat) (m : Rat), (nullMeansFrom N t S j x)[i]? = some m →
        ∃ e, es[i]? = some e ∧ ∀ a, ok m a e) →
      OkWalk ok u N t S j (x.zip es) := by
  intro x
  induction x with
  | nil => intro es S j _ _ _; trivial
  | cons a x ih =>
    intro es S j hlen hx hes
    cases es with
    | nil => cases hlen
    | cons e es =>
      obtain ⟨e', he', hok⟩ := hes 0 (mu N t S j) rfl
      cases Option.some.inj he'
      exact ⟨hok a, (hx a List.mem_cons_self).1, (hx a List.mem_cons_self).2,
        ih es _ _ (Nat.succ.inj hlen) (fun b hb => hx b (List.mem_cons_of_mem _ hb))
          (fun i m hm => hes (i + 1) m hm)⟩

theorem clampLast_good (N : Option Nat) (t Stot : Rat) (L : List XR) (hne : L ≠ [])
    (hL : ∀ x ∈ L, Good x) :
    clampLast N t Stot L ≠ [] ∧ (clampLast N t Stot L).length = L.length ∧
      ∀ x ∈ clampLast N t Stot L, Good x := by
  cases N with
  | none => exact ⟨hne, rfl, hL⟩
  | some n =>
    simp only [clampLast]
    split
    · refine ⟨List.append_ne_nil_of_right_ne_nil _ (List.cons_ne_nil _ _), ?_, fun x hx => ?_⟩
      · rw [List.length_append, List.length_dropLast, List.length_singleton]
        exact Nat.sub_add_cancel (List.length_pos_iff.2 hne)
      · rcases List.mem_append.1 hx with hx | hx
        · exact hL x (List.mem_of_mem_dropLast hx)
        · rw [List.mem_singleton.1 hx]; exact good_pinf
    · exact ⟨hne, rfl, hL⟩

theorem wellFormed_of_good (ro : Bool) (N : Option Nat) (t Stot : Rat) {L : List XR} {n : Nat}
    (hlen : L.length = n) (hn : n ≠ 0) (hL : ∀ T ∈ L, Good T) :
    WellFormed ro n (pAndHist ro (clampLast N t Stot L)) := by
  have hne : L ≠ [] := fun h => hn (hlen ▸ congrArg List.length h)
  obtain ⟨c1, c2, c3⟩ := clampLast_good N t Stot L hne hL
  obtain ⟨r1, r2⟩ := pAndHist_good ro c1 c3
  exact ⟨(r1.trans c2).trans hlen, r2⟩

/-- a masked walk gives a well-formed result -/
theorem finish_wellformed (cfg : Cfg) (fac : Rat → Rat → XR → XR) (ok : Rat → Rat → XR → Prop)
    (hfac : ∀ m a e, ok m a e → 0 < m → m < cfg.u → 0 ≤ a → a ≤ cfg.u →
      ∃ q : Rat, 0 ≤ q ∧ fac m a e = .fin q)
    (x : List Rat) (es : List XR) (hne : x ≠ []) (hN : ∀ n, cfg.N = some n → x.length ≤ n)
    (hat : 0 ≤ cfg.atol) (hrt : 0 ≤ cfg.rtol)
    (hlen : es.length = x.length) (hok : OkWalk ok cfg.u cfg.N cfg.t 0 1 (x.zip es))
    (m : List Rat) (terms : List XR) (Stot : Rat)
    (hw : m.zip terms = walk fac cfg.N cfg.t 0 1 1 (x.zip es)) :
    WellFormed cfg.randomOrder x.length (finishMart cfg (m, Stot, terms)) := by
  have hzip : (x.zip es).length = x.length := by rw [List.length_zip, hlen, Nat.min_self]
  refine wellFormed_of_good _ _ _ _ (by rw [List.length_map, hw, length_walk, hzip])
    (mt List.length_eq_zero_iff.1 hne) (fun T hT => ?_)
  -- every masked term is good
  obtain ⟨⟨mj, Tj⟩, hp, rfl⟩ := List.mem_map.1 hT
  refine maskTerm_good _ _ _ _ _ hat hrt (fun hm0 hmu => ?_)
  obtain ⟨q, hq, hTq⟩ := walk_good fac ok cfg.u cfg.N cfg.t hfac (x.zip es) 0 1 1 hok
    (room_of_le (hzip ▸ hN)) (fun _ => ⟨1, zero_le_one, rfl⟩) (mj, Tj) (hw ▸ hp) hm0 hmu
  exact (show Tj = .fin q from hTq) ▸ good_fin hq

theorem alphaTerms_eq (cfg : Cfg) (estim : List Rat → Except Err (List XR)) (x : List Rat)
    (eta0 : List XR) (hne : x ≠ []) (hN : ∀ n, cfg.N = some n → x.length ≤ n)
    (hest : estim x = .ok eta0) (hlen : eta0.length = x.length) :
    ∃ terms, alphaTerms cfg estim x = .ok (nullMeansFrom cfg.N cfg.t 0 1 x, xsum x, terms) ∧
      (nullMeansFrom cfg.N cfg.t 0 1 x).zip terms
        = walk (alphaFactorX cfg.u) cfg.N cfg.t 0 1 1 (x.zip eta0) := by
  have hs := sjm_eq cfg.N cfg.t x hne hN
  refine ⟨_, ?_, alpha_fusion cfg.u cfg.N cfg.t x eta0 0 1 1 hlen⟩
  unfold alphaTerms
  simp only [hs, hest, bind, Except.bind, pure, Except.pure]
  rfl

theorem bettingTerms_eq (cfg : Cfg) (bet : List Rat → Except Err (List XR)) (x : List Rat)
    (lam : List XR) (hne : x ≠ []) (hN : ∀ n, cfg.N = some n → x.length ≤ n)
    (hbet : bet x = .ok lam) (hlen : lam.length = x.length) :
    ∃ terms, bettingTerms cfg bet x = .ok (nullMeansFrom cfg.N cfg.t 0 1 x, xsum x, terms) ∧
      (nullMeansFrom cfg.N cfg.t 0 1 x).zip terms
        = walk betFactorX cfg.N cfg.t 0 1 1 (x.zip lam) := by
  have hs := sjm_eq cfg.N cfg.t x hne hN
  refine ⟨_, ?_, betting_fusion cfg.N cfg.t x lam 0 1 1 hlen⟩
  unfold bettingTerms
  simp only [hs, hbet, bind, Except.bind, pure, Except.pure]
  rfl

theorem alphaMart_eq {cfg : Cfg} {estim : List Rat → Except Err (List XR)} {x : List Rat}
    {r : List Rat × Rat × List XR} (h : alphaTerms cfg estim x = .ok r) :
    alphaMart cfg estim x = .ok (finishMart cfg r) := by
  unfold alphaMart
  rw [h]; rfl

theorem bettingMart_eq {cfg : Cfg} {bet : List Rat → Except Err (List XR)} {x : List Rat}
    {r : List Rat × Rat × List XR} (h : bettingTerms cfg bet x = .ok r) :
    bettingMart cfg bet x = .ok (finishMart cfg r) := by
  unfold bettingMart
  rw [h]; rfl

/-- **C11 for `alpha_mart`.**  For every non-empty sample of values in `[0,u]` no longer than the
population and every estimator that returns one finite value per observation, the test returns a
history with one entry per observation, each a rational in `[0,1]` (never NaN), an overall p-value
in `[0,1]`, equal to the least history entry when the sample is declared to be in random order and to
the last entry otherwise. -/
theorem wellformed_alpha (cfg : Cfg) (estim : List Rat → Except Err (List XR)) (x : List Rat)
    (eta0 : List XR) (hne : x ≠ []) (hN : ∀ n, cfg.N = some n → x.length ≤ n)
    (hx : ∀ a ∈ x, 0 ≤ a ∧ a ≤ cfg.u) (hat : 0 ≤ cfg.atol) (hrt : 0 ≤ cfg.rtol)
    (hest : estim x = .ok eta0) (hlen : eta0.length = x.length)
    (hfin : ∀ e ∈ eta0, ∃ q : Rat, e = .fin q) :
    ∃ r, alphaMart cfg estim x = .ok r ∧ WellFormed cfg.randomOrder x.length r := by
  obtain ⟨terms, ht, hw⟩ := alphaTerms_eq cfg estim x eta0 hne hN hest hlen
  exact ⟨_, alphaMart_eq ht,
    finish_wellformed cfg (alphaFactorX cfg.u) okAlpha (alpha_fac_good cfg.u) x eta0 hne hN hat hrt hlen
      (okWalk_of_entries okAlpha cfg.u cfg.N cfg.t x eta0 0 1 hlen hx fun i m hm =>
        have hi : i < eta0.length := by
          rw [hlen, ← length_nullMeansFrom cfg.N cfg.t 0 1 x]; exact lt_length_of_getElem? hm
        ⟨_, List.getElem?_eq_getElem hi, fun _ => hfin _ (List.getElem_mem hi)⟩) _ _ _ hw⟩

/-- what `betting_mart` really needs of a bet: wherever the null mean is strictly inside `(0,u)` it is a
finite number in `[0, 1/m]` (elsewhere the masks overwrite the term, so anything — even NaN — will do) -/
def okBetIn (u : Rat) (m _a : Rat) (e : XR) : Prop :=
  0 < m → m < u → ∃ l : Rat, e = .fin l ∧ 0 ≤ l ∧ l * m ≤ 1

theorem okBet_okBetIn (u m a : Rat) (e : XR) (h : okBet m a e) : okBetIn u m a e := by
  obtain ⟨l, rfl, h0, h1⟩ := h
  intro hm0 _
  exact ⟨l, rfl, h0, h1 hm0⟩

theorem betIn_fac_good (u : Rat) : ∀ m a e, okBetIn u m a e → 0 < m → m < u → 0 ≤ a → a ≤ u →
    ∃ q : Rat, 0 ≤ q ∧ betFactorX m a e = .fin q := by
  intro m a e h hm0 hmu ha0 _
  obtain ⟨l, rfl, hl0, hl1⟩ := h hm0 hmu
  exact ⟨_, betFactor_nonneg ha0 hl0 hl1, betFactorX_fin m a l⟩

/-- `betting_mart` is well-formed for every bet function that returns, wherever the null mean is strictly
inside `(0,u)`, a finite bet in `[0, 1/m]` (a weaker requirement than `wellformed_betting`'s `okBet`) -/
theorem wellformed_betting_in (cfg : Cfg) (bet : List Rat → Except Err (List XR)) (x : List Rat)
    (lam : List XR) (hne : x ≠ []) (hN : ∀ n, cfg.N = some n → x.length ≤ n)
    (hat : 0 ≤ cfg.atol) (hrt : 0 ≤ cfg.rtol)
    (hbet : bet x = .ok lam) (hlen : lam.length = x.length)
    (hok : OkWalk (okBetIn cfg.u) cfg.u cfg.N cfg.t 0 1 (x.zip lam)) :
    ∃ r, bettingMart cfg bet x = .ok r ∧ WellFormed cfg.randomOrder x.length r := by
  obtain ⟨terms, ht, hw⟩ := bettingTerms_eq cfg bet x lam hne hN hbet hlen
  exact ⟨_, bettingMart_eq ht,
    finish_wellformed cfg betFactorX (okBetIn cfg.u) (betIn_fac_good cfg.u) x lam hne hN hat hrt
      hlen hok _ _ _ hw⟩

/-- **C11 for `betting_mart`.**  Same conclusion, for every bet function that returns one finite
bet per observation lying in `[0, 1/m_j]` wherever the null conditional mean `m_j` is positive
(`OkWalk okBet`: this also records that the observations lie in `[0,u]`). -/
theorem wellformed_betting (cfg : Cfg) (bet : List Rat → Except Err (List XR)) (x : List Rat)
    (lam : List XR) (hne : x ≠ []) (hN : ∀ n, cfg.N = some n → x.length ≤ n)
    (hat : 0 ≤ cfg.atol) (hrt : 0 ≤ cfg.rtol)
    (hbet : bet x = .ok lam) (hlen : lam.length = x.length)
    (hok : OkWalk okBet cfg.u cfg.N cfg.t 0 1 (x.zip lam)) :
    ∃ r, bettingMart cfg bet x = .ok r ∧ WellFormed cfg.randomOrder x.length r :=
  wellformed_betting_in cfg bet x lam hne hN hat hrt hbet hlen (hok.mono (okBet_okBetIn cfg.u))

/-! ### non-vacuity: the hypotheses of `wellformed_alpha` are met by a concrete configuration
(`N = 6`, `u = 1`, `t = 1/2`, fixed alternative `eta = 7/10`, sample `1, 0, 1`) -/

def exCfg : Cfg := Cfg.init false false 1 (some 6) (1/2) true { eta := some (7/10) }

example : ∃ r, alphaMart exCfg (fixedAlternativeMean exCfg) [1, 0, 1] = .ok r ∧
    WellFormed true 3 r := by
  have h : fixedAlternativeMean exCfg [1, 0, 1] = .ok ([7/10, 16/25, 4/5].map .fin) := by
    decide +kernel
  refine wellformed_alpha exCfg (fixedAlternativeMean exCfg) [1, 0, 1] _ (by decide) ?_
    (by decide +kernel) (by decide +kernel) (by decide +kernel) h rfl ?_
  · intro n hn; cases hn; decide
  · intro e he
    obtain ⟨q, _, rfl⟩ := List.mem_map.1 he
    exact ⟨q, rfl⟩

end Shangrla.C11
