/-
  C01 for the shipped adaptive estimator and bet: ALPHA with shrink-truncate, betting with aGRAPA.
  Their predictable form is derived from the C05 theorems (strict causality, one value per observation)
  and the C13 theorems (finite values, range of the aGRAPA bet).  `0 ≤ u` and `atol < 1/2` in the statements are
  documented ranges that no proof uses.
-/
import Shangrla.Props.C01IID
import Shangrla.Props.C13
import Shangrla.Lemmas.NMPredictable

namespace Shangrla.C01
open Shangrla Shangrla.NM XR Shangrla.C12 Shangrla.Ville Shangrla.C11 Shangrla.C05

/-- samples the tests accept: non-empty and no longer than the population -/
def ValidLen (N : Option Nat) (x : List ℚ) : Prop := x ≠ [] ∧ ∀ n, N = some n → x.length ≤ n

instance (N : Option Nat) : DecidablePred (ValidLen N) := by
  intro x
  unfold ValidLen
  cases N with
  | none => exact decidable_of_iff (x ≠ []) (by simp)
  | some n => exact decidable_of_iff (x ≠ [] ∧ x.length ≤ n) (by simp)

theorem validLen_prefix (N : Option Nat) (x : List ℚ) (i : Nat) (hx : ValidLen N x) (hi : i < x.length) :
    ValidLen N (x.take i ++ [0]) := by
  refine ⟨by simp, ?_⟩
  intro n hn
  have := hx.2 n hn
  simp only [List.length_append, List.length_take, List.length_cons, List.length_nil]
  omega

/-- `shrink_trunc` in the form the C01 theorems ask of an estimator: on every accepted sample it returns finite
values, entry `j` being a function (`gOf`) of the draws before draw `j+1` -/
theorem shrink_predictable (sqrtF : ℚ → ℚ) (hs : ∀ q, 0 < q → 0 < sqrtF q) (cfg : Cfg)
    (hd : 0 < cfg.dV) (hf : 0 ≤ cfg.fV) (hmin : 0 < cfg.minsdV) (x : List ℚ) (hx : ValidLen cfg.N x) :
    shrinkTrunc sqrtF cfg x
      = .ok ((params (gOf (shrinkTrunc sqrtF cfg) (ValidLen cfg.N)) x).map XR.fin) := by
  apply predictable_of_causal (shrinkTrunc sqrtF cfg) (ValidLen cfg.N)
    (scE_estim sqrtF cfg .shrinkTrunc) (lpE_estim sqrtF cfg .shrinkTrunc)
  · intro y hy
    obtain ⟨l, h1, _, h3⟩ := NMRange.shrinkTrunc_all_fin sqrtF hs cfg y hy.1 hy.2 hd hf hmin
    exact ⟨l, h1, h3⟩
  · exact validLen_prefix cfg.N
  · exact hx

/-- **C01 for ALPHA with the shrink-truncate estimator, sampling without replacement** -/
theorem C01_finite_alpha_shrink (sqrtF : ℚ → ℚ) (hs : ∀ q, 0 < q → 0 < sqrtF q) (cfg : Cfg) (n : Nat)
    (hN : cfg.N = some n) (hd : 0 < cfg.dV) (hf : 0 ≤ cfg.fV) (hmin : 0 < cfg.minsdV)
    (hu : 0 ≤ cfg.u) (hat : 0 ≤ cfg.atol) (hat2 : cfg.atol < 1 / 2) (hrt : 0 ≤ cfg.rtol)
    (alpha : ℚ) (ha0 : 0 < alpha) (ha1 : alpha < 1)
    (pop : List ℚ) (hlen : pop.length = n) (hrange : ∀ a ∈ pop, 0 ≤ a ∧ a ≤ cfg.u)
    (hnull : pop.sum ≤ (n : ℚ) * cfg.t) :
    hitEv (reportedLast cfg (shrinkTrunc sqrtF cfg) alpha) pop.length pop [] ≤ alpha :=
  C01_finite_alpha cfg n hN (gOf (shrinkTrunc sqrtF cfg) (ValidLen cfg.N)) (shrinkTrunc sqrtF cfg)
    (fun h hne hl => shrink_predictable sqrtF hs cfg hd hf hmin h
      ⟨hne, forall_of_some hN hl⟩)
    hu hat hat2 hrt alpha ha0 ha1 pop hlen hrange hnull

/-- **C01 for ALPHA with the shrink-truncate estimator, independent draws** -/
theorem C01_iid_alpha_shrink (sqrtF : ℚ → ℚ) (hs : ∀ q, 0 < q → 0 < sqrtF q) (cfg : Cfg)
    (hN : cfg.N = none) (hd : 0 < cfg.dV) (hf : 0 ≤ cfg.fV) (hmin : 0 < cfg.minsdV)
    (ht0 : 0 < cfg.t) (htu : cfg.t < cfg.u)
    (hat : 0 ≤ cfg.atol) (hat2 : cfg.atol < 1 / 2) (hrt : 0 ≤ cfg.rtol)
    (alpha : ℚ) (ha0 : 0 < alpha) (ha1 : alpha < 1)
    (L : List (ℚ × ℚ)) (hL : IsLaw cfg.u L) (hmean : lawMean L ≤ cfg.t) (n : Nat) :
    hitIID L (reportedLast cfg (shrinkTrunc sqrtF cfg) alpha) n [] ≤ alpha :=
  C01_iid_alpha cfg hN (gOf (shrinkTrunc sqrtF cfg) (ValidLen cfg.N)) (shrinkTrunc sqrtF cfg)
    (fun h hne => shrink_predictable sqrtF hs cfg hd hf hmin h
      ⟨hne, forall_of_none hN⟩)
    ht0 htu hat hat2 hrt alpha ha0 ha1 L hL hmean n

theorem cJ_ne_zero (sqrtF : ℚ → ℚ) (hs : C13.SqrtOK sqrtF) (cfg : Cfg)
    (h0 : 0 < cfg.c0V) (h0m : cfg.c0V ≤ cfg.cmV) (hg : 0 ≤ cfg.cgV) (i : Nat) :
    NMRange.cJ sqrtF cfg.c0V cfg.cmV cfg.cgV i ≠ 0 := by
  have := (NMRange.cJ_between sqrtF hs.nonneg cfg.c0V cfg.cmV cfg.cgV hg h0m i).1
  linarith

/-- the aGRAPA bet as a function of the earlier draws -/
noncomputable def gAgrapa (sqrtF : ℚ → ℚ) (cfg : Cfg) : List ℚ → ℚ :=
  gOf (agrapa sqrtF cfg) (ValidLen cfg.N)

/-- `agrapa` in the form the C01 theorems ask of a bet: finite values, entry `j` a function of the draws before
draw `j+1` -/
theorem agrapa_predictable (sqrtF : ℚ → ℚ) (hs : C13.SqrtOK sqrtF) (cfg : Cfg)
    (h0 : 0 < cfg.c0V) (h0m : cfg.c0V ≤ cfg.cmV) (hg : 0 ≤ cfg.cgV) (x : List ℚ) (hx : ValidLen cfg.N x) :
    agrapa sqrtF cfg x = .ok ((params (gAgrapa sqrtF cfg) x).map XR.fin) := by
  apply predictable_of_causal (agrapa sqrtF cfg) (ValidLen cfg.N)
    (scE_bet sqrtF cfg .agrapa) (lpE_bet sqrtF cfg .agrapa)
  · intro y hy
    obtain ⟨l, h1, _, h3⟩ := NMRange.agrapa_all_fin sqrtF hs.nonneg cfg y hy.1 hy.2 hg
      (cJ_ne_zero sqrtF hs cfg h0 h0m hg)
    exact ⟨l, h1, fun e he => by obtain ⟨b, hb, _⟩ := h3 e he; exact ⟨b, hb⟩⟩
  · exact validLen_prefix cfg.N
  · exact hx

theorem gAgrapa_nonneg (sqrtF : ℚ → ℚ) (hs : C13.SqrtOK sqrtF) (cfg : Cfg)
    (h0 : 0 < cfg.c0V) (h0m : cfg.c0V ≤ cfg.cmV) (hg : 0 ≤ cfg.cgV) (h : List ℚ) :
    0 ≤ gAgrapa sqrtF cfg h := by
  by_cases hv : ValidLen cfg.N (h ++ [0])
  · obtain ⟨l, h1, h2, h3⟩ := NMRange.agrapa_all_fin sqrtF hs.nonneg cfg (h ++ [0]) hv.1 hv.2 hg
      (cJ_ne_zero sqrtF hs cfg h0 h0m hg)
    have hlt : h.length < l.length := by rw [h2, List.length_append, List.length_singleton]; omega
    obtain ⟨b, hb, hb0⟩ := h3 _ (List.getElem_mem hlt)
    rw [gAgrapa, gOf_eq hv h1, List.getD_eq_getElem?_getD, List.getElem?_eq_getElem hlt, Option.getD_some,
      hb]
    exact hb0
  · rw [gAgrapa, gOf_of_not_valid hv]

/-- `N` is a variable so that both `some n` and `none` can be put in -/
theorem gAgrapa_le (sqrtF : ℚ → ℚ) (hs : C13.SqrtOK sqrtF) (cfg : Cfg)
    (h0 : 0 < cfg.c0V) (h0m : cfg.c0V ≤ cfg.cmV) (hm1 : cfg.cmV ≤ 1) (hg : 0 ≤ cfg.cgV) {N : Option Nat}
    (hN : cfg.N = N) (h : List ℚ) (hm : 0 < muAfter N cfg.t h) :
    gAgrapa sqrtF cfg h * muAfter N cfg.t h ≤ 1 := by
  subst hN
  by_cases hv : ValidLen cfg.N (h ++ [0])
  · obtain ⟨l, h1, h2, h3⟩ := C13.agrapa_range sqrtF hs cfg (h ++ [0]) hv.1 hv.2 h0.le h0m hm1 hg
    have hmu : (C13.mus cfg (h ++ [0]))[h.length]? = some (muAfter cfg.N cfg.t h) := by
      rw [C13.mus, nullMeans_params, params_getElem? _ _ (by rw [List.length_append]; exact Nat.lt_succ_self _),
        List.take_left']
      rfl
    obtain ⟨b, hb, _, _, _, hb1⟩ := h3 h.length _ hmu hm
    rw [gAgrapa, gOf_eq hv h1, List.getD_eq_getElem?_getD, hb, Option.getD_some]
    exact (le_div_iff₀ hm).1 hb1
  · rw [gAgrapa, gOf_of_not_valid hv, zero_mul]; exact zero_le_one

/-- **C01 for the betting martingale with the aGRAPA bet, sampling without replacement**
(`0 < c_grapa_0 ≤ c_grapa_max ≤ 1`, `c_grapa_grow ≥ 0`) -/
theorem C01_finite_betting_agrapa (sqrtF : ℚ → ℚ) (hs : C13.SqrtOK sqrtF) (cfg : Cfg) (n : Nat)
    (hN : cfg.N = some n)
    (h0 : 0 < cfg.c0V) (h0m : cfg.c0V ≤ cfg.cmV) (hm1 : cfg.cmV ≤ 1) (hg : 0 ≤ cfg.cgV)
    (hu : 0 ≤ cfg.u) (hat : 0 ≤ cfg.atol) (hat2 : cfg.atol < 1 / 2) (hrt : 0 ≤ cfg.rtol)
    (alpha : ℚ) (ha0 : 0 < alpha) (ha1 : alpha < 1)
    (pop : List ℚ) (hlen : pop.length = n) (hrange : ∀ a ∈ pop, 0 ≤ a ∧ a ≤ cfg.u)
    (hnull : pop.sum ≤ (n : ℚ) * cfg.t) :
    hitEv (reportedLastB cfg (agrapa sqrtF cfg) alpha) pop.length pop [] ≤ alpha :=
  C01_finite_betting cfg n hN (gAgrapa sqrtF cfg) (agrapa sqrtF cfg)
    (fun h hne hl => agrapa_predictable sqrtF hs cfg h0 h0m hg h ⟨hne, forall_of_some hN hl⟩)
    (gAgrapa_nonneg sqrtF hs cfg h0 h0m hg) (fun h hm0 _ => gAgrapa_le sqrtF hs cfg h0 h0m hm1 hg hN h hm0)
    hu hat hat2 hrt alpha ha0 ha1 pop hlen hrange hnull

/-- **C01 for the betting martingale with the aGRAPA bet, independent draws** -/
theorem C01_iid_betting_agrapa (sqrtF : ℚ → ℚ) (hs : C13.SqrtOK sqrtF) (cfg : Cfg) (hN : cfg.N = none)
    (h0 : 0 < cfg.c0V) (h0m : cfg.c0V ≤ cfg.cmV) (hm1 : cfg.cmV ≤ 1) (hg : 0 ≤ cfg.cgV)
    (ht0 : 0 < cfg.t) (htu : cfg.t < cfg.u)
    (hat : 0 ≤ cfg.atol) (hat2 : cfg.atol < 1 / 2) (hrt : 0 ≤ cfg.rtol)
    (alpha : ℚ) (ha0 : 0 < alpha) (ha1 : alpha < 1)
    (L : List (ℚ × ℚ)) (hL : IsLaw cfg.u L) (hmean : lawMean L ≤ cfg.t) (n : Nat) :
    hitIID L (reportedLastB cfg (agrapa sqrtF cfg) alpha) n [] ≤ alpha :=
  C01_iid_betting cfg hN (gAgrapa sqrtF cfg) (agrapa sqrtF cfg)
    (fun h hne => agrapa_predictable sqrtF hs cfg h0 h0m hg h ⟨hne, forall_of_none hN⟩)
    (gAgrapa_nonneg sqrtF hs cfg h0 h0m hg) (fun h => gAgrapa_le sqrtF hs cfg h0 h0m hm1 hg hN h ht0)
    ht0 htu hat hat2 hrt alpha ha0 ha1 L hL hmean n

end Shangrla.C01
