/-
  C11 for the SHIPPED estimators and bets, through the dispatch `Shangrla.NM.run` that the driver
  executes: `run sqrtF cfg (.alpha e)` for `e ∈ {fixedAlt, shrinkTrunc, optimalComparison}` and
  `run sqrtF cfg (.betting b)` for `b ∈ {fixed, agrapa}` return a well-formed `(p, history)`
  (`Shangrla.C11.WellFormed`), under explicit guards on the configuration and the sample only.

  * ALPHA: instance of `wellformed_alpha`; the estimators return one finite value per observation
    (`NMRange.*_all_fin`).
  * betting: the generic `wellformed_betting` asks for `OkWalk okBet`, i.e. `l * m ≤ 1` wherever
    `0 < m`, also where the null mean `m` exceeds `u`.  The shipped `fixed_bet` with `lam ≤ 1/u` does
    not satisfy that for `m > u` (`fixedBet_not_okBet`; and `agrapa` may return NaN where `m = 0`,
    `c_j = 0`), but neither matters: the masks overwrite every term whose null mean is outside `(0,u)`,
    and a null mean strictly inside `(0,u)` has only such null means before it.  So the instance is proved
    from `wellformed_betting_in`, which asks for `okBetIn` only (a finite bet in `[0, 1/m]` wherever
    `0 < m < u`): that is what `C13.bet_range` delivers.
-/
import Shangrla.Props.C11Mart
import Shangrla.Props.C13

namespace Shangrla.C11
open Shangrla Shangrla.NM XR

/-! ### ALPHA -/

/-- guards on the attributes read by the estimator `e` (nothing for `fixed_alternative_mean`) -/
structure AlphaRunGuard (cfg : Cfg) (e : Estim) : Prop where
  d_pos : e = .shrinkTrunc → 0 < cfg.dV
  f_nonneg : e = .shrinkTrunc → 0 ≤ cfg.fV
  minsd_pos : e = .shrinkTrunc → 0 < cfg.minsdV
  u_ne_one : e = .optimalComparison → cfg.u ≠ 1

theorem wellformed_alpha_of_fin (cfg : Cfg) (estim : List Rat → Except Err (List XR)) (x : List Rat)
    (hne : x ≠ []) (hN : ∀ n, cfg.N = some n → x.length ≤ n)
    (hx : ∀ a ∈ x, 0 ≤ a ∧ a ≤ cfg.u) (hat : 0 ≤ cfg.atol) (hrt : 0 ≤ cfg.rtol)
    (h : ∃ eta0, estim x = .ok eta0 ∧ eta0.length = x.length ∧ ∀ v ∈ eta0, ∃ q : Rat, v = .fin q) :
    ∃ r, alphaMart cfg estim x = .ok r ∧ WellFormed cfg.randomOrder x.length r := by
  obtain ⟨eta0, h1, h2, h3⟩ := h
  exact wellformed_alpha cfg estim x eta0 hne hN hx hat hrt h1 h2 h3

theorem estim_all_fin (sqrtF : Rat → Rat) (hs : C13.SqrtOK sqrtF) (cfg : Cfg) (e : Estim) (x : List Rat)
    (hne : x ≠ []) (hN : ∀ n, cfg.N = some n → x.length ≤ n) (hg : AlphaRunGuard cfg e) :
    ∃ eta0, estim sqrtF cfg e x = .ok eta0 ∧ eta0.length = x.length ∧
      ∀ v ∈ eta0, ∃ q : Rat, v = .fin q := by
  cases e with
  | fixedAlt => exact NMRange.fixedAlternativeMean_all_fin cfg x hne hN
  | shrinkTrunc =>
    exact NMRange.shrinkTrunc_all_fin sqrtF hs.pos cfg x hne hN (hg.d_pos rfl) (hg.f_nonneg rfl)
      (hg.minsd_pos rfl)
  | optimalComparison => exact NMRange.optimalComparison_all_fin cfg x (hg.u_ne_one rfl)

theorem wellformed_run_alpha_fixed (sqrtF : Rat → Rat) (cfg : Cfg) (x : List Rat)
    (hne : x ≠ []) (hN : ∀ n, cfg.N = some n → x.length ≤ n)
    (hx : ∀ a ∈ x, 0 ≤ a ∧ a ≤ cfg.u) (hat : 0 ≤ cfg.atol) (hrt : 0 ≤ cfg.rtol) :
    ∃ r, run sqrtF cfg (.alpha .fixedAlt) x = .ok r ∧ WellFormed cfg.randomOrder x.length r :=
  wellformed_alpha_of_fin cfg _ x hne hN hx hat hrt (NMRange.fixedAlternativeMean_all_fin cfg x hne hN)

theorem wellformed_run_alpha_shrink (sqrtF : Rat → Rat) (hs : C13.SqrtOK sqrtF) (cfg : Cfg) (x : List Rat)
    (hne : x ≠ []) (hN : ∀ n, cfg.N = some n → x.length ≤ n)
    (hx : ∀ a ∈ x, 0 ≤ a ∧ a ≤ cfg.u) (hat : 0 ≤ cfg.atol) (hrt : 0 ≤ cfg.rtol)
    (hd : 0 < cfg.dV) (hf : 0 ≤ cfg.fV) (hmin : 0 < cfg.minsdV) :
    ∃ r, run sqrtF cfg (.alpha .shrinkTrunc) x = .ok r ∧ WellFormed cfg.randomOrder x.length r :=
  wellformed_alpha_of_fin cfg _ x hne hN hx hat hrt
    (NMRange.shrinkTrunc_all_fin sqrtF hs.pos cfg x hne hN hd hf hmin)

theorem wellformed_run_alpha_optimal (sqrtF : Rat → Rat) (cfg : Cfg) (x : List Rat)
    (hne : x ≠ []) (hN : ∀ n, cfg.N = some n → x.length ≤ n)
    (hx : ∀ a ∈ x, 0 ≤ a ∧ a ≤ cfg.u) (hat : 0 ≤ cfg.atol) (hrt : 0 ≤ cfg.rtol) (hu : cfg.u ≠ 1) :
    ∃ r, run sqrtF cfg (.alpha .optimalComparison) x = .ok r ∧ WellFormed cfg.randomOrder x.length r :=
  wellformed_alpha_of_fin cfg _ x hne hN hx hat hrt (NMRange.optimalComparison_all_fin cfg x hu)

/-- **C11 for `alpha_mart` with every shipped estimator**, through the dispatch `run`: for every
configuration, every square root that is non-negative and positive on positive arguments, every
non-empty sample of values in `[0,u]` no longer than the population, non-negative tolerances and the
guards of `AlphaRunGuard` (`d > 0`, `f ≥ 0`, `minsd > 0` for `shrink_trunc`; `u ≠ 1` for
`optimal_comparison`, which raises `ZeroDivisionError` otherwise), the test returns a well-formed
`(p, history)`. -/
theorem wellformed_run_alpha (sqrtF : Rat → Rat) (hs : C13.SqrtOK sqrtF) (cfg : Cfg) (e : Estim)
    (x : List Rat) (hne : x ≠ []) (hN : ∀ n, cfg.N = some n → x.length ≤ n)
    (hx : ∀ a ∈ x, 0 ≤ a ∧ a ≤ cfg.u) (hat : 0 ≤ cfg.atol) (hrt : 0 ≤ cfg.rtol)
    (hg : AlphaRunGuard cfg e) :
    ∃ r, run sqrtF cfg (.alpha e) x = .ok r ∧ WellFormed cfg.randomOrder x.length r :=
  wellformed_alpha_of_fin cfg _ x hne hN hx hat hrt (estim_all_fin sqrtF hs cfg e x hne hN hg)

/-! non-vacuity: with replacement, `u = 1 + 2^-40`, all defaults (`C13.cfgB`), sample `0, 0, 1, 1/2`:
every hypothesis holds for each of the three estimators -/

theorem xA_in_range_B : ∀ a ∈ C13.xA, 0 ≤ a ∧ a ≤ C13.cfgB.u := by decide +kernel

theorem alphaRunGuard_B (e : Estim) : AlphaRunGuard C13.cfgB e := by
  refine ⟨fun _ => ?_, fun _ => ?_, fun _ => ?_, fun _ => ?_⟩ <;> decide +kernel

example (e : Estim) : ∃ r, run sqrtRat C13.cfgB (.alpha e) C13.xA = .ok r ∧ WellFormed true 4 r :=
  wellformed_run_alpha sqrtRat C13.sqrtRat_ok C13.cfgB e C13.xA C13.xA_ne (C13.lenB C13.xA)
    xA_in_range_B (by decide +kernel) (by decide +kernel) (alphaRunGuard_B e)

/-- without replacement from a population of 5 (`C13.cfgA`), `shrink_trunc` -/
example : ∃ r, run sqrtRat C13.cfgA (.alpha .shrinkTrunc) C13.xA = .ok r ∧ WellFormed true 4 r := by
  refine wellformed_run_alpha sqrtRat C13.sqrtRat_ok C13.cfgA .shrinkTrunc C13.xA C13.xA_ne C13.lenA
    (by decide +kernel) (by decide +kernel) (by decide +kernel) ?_
  refine ⟨fun _ => ?_, fun _ => ?_, fun _ => ?_, fun h => nomatch h⟩ <;> decide +kernel

/-! ### betting -/

/-- both shipped bets return (`fixed_bet` needs the attribute `lam`) -/
theorem bet_returns (sqrtF : Rat → Rat) (cfg : Cfg) (b : Bet) (x : List Rat) (hne : x ≠ [])
    (hlam : b = .fixed → cfg.kw.lam ≠ none) : ∃ l, bet sqrtF cfg b x = .ok l := by
  cases b with
  | fixed =>
    cases h : cfg.kw.lam with
    | none => exact absurd h (hlam rfl)
    | some lam => exact ⟨_, NMRange.fixedBet_eq cfg x lam h⟩
  | agrapa => exact ⟨_, NMRange.agrapa_eq sqrtF cfg x hne⟩

/-- **C11 for `betting_mart` with every shipped bet**, through the dispatch `run`: for every
configuration, every admissible square root, every non-empty sample of values in `[0,u]` no longer
than the population, non-negative tolerances, the documented parameter ranges `C13.BetGuard`
(`0 ≤ lam ≤ 1/u`, `0 ≤ cG0 ≤ cGmax ≤ 1`, `cGgrow ≥ 0`) and, for `fixed_bet`, the attribute `lam` being
set (the constructor sets it whenever no bet is passed; `fixed_bet` raises otherwise), the test returns a
well-formed `(p, history)`. -/
theorem wellformed_run_betting (sqrtF : Rat → Rat) (hs : C13.SqrtOK sqrtF) (cfg : Cfg) (b : Bet)
    (x : List Rat) (hne : x ≠ []) (hN : ∀ n, cfg.N = some n → x.length ≤ n)
    (hx : ∀ a ∈ x, 0 ≤ a ∧ a ≤ cfg.u) (hat : 0 ≤ cfg.atol) (hrt : 0 ≤ cfg.rtol)
    (hg : C13.BetGuard cfg) (hlam : b = .fixed → cfg.kw.lam ≠ none) :
    ∃ r, run sqrtF cfg (.betting b) x = .ok r ∧ WellFormed cfg.randomOrder x.length r := by
  obtain ⟨lam, hl⟩ := bet_returns sqrtF cfg b x hne hlam
  obtain ⟨hlen, hrange⟩ := C13.bet_range sqrtF hs cfg x b hne hN hg lam hl
  refine wellformed_betting_in cfg (bet sqrtF cfg b) x lam hne hN hat hrt hl hlen ?_
  refine okWalk_of_entries (okBetIn cfg.u) cfg.u cfg.N cfg.t x lam 0 1 hlen hx ?_
  intro i m hm
  have hi : i < lam.length := hlen ▸ NMRange.lt_length_of_nullMeans hm
  refine ⟨lam[i], List.getElem?_eq_getElem hi, fun _ hm0 hmu => ?_⟩
  obtain ⟨q, hq, hq0, hq1⟩ := hrange i m hm hm0 hmu.le
  exact ⟨q, Option.some.inj ((List.getElem?_eq_getElem hi).symm.trans hq), hq0, (le_div_iff₀ hm0).1 hq1⟩

/-! non-vacuity: the constructor's defaults (`C13.cfgF`: `N = 5`, `u = 1`, `t = 1/2`, `lam = 1/2`),
sample `0, 0, 1, 1/2`: every hypothesis holds for both bets -/

theorem betGuard_F : C13.BetGuard C13.cfgF := by
  refine ⟨?_, ?_, ?_, ?_, ?_⟩
  · rintro lam ⟨⟩; decide +kernel
  all_goals decide +kernel

example (b : Bet) : ∃ r, run sqrtRat C13.cfgF (.betting b) C13.xA = .ok r ∧ WellFormed true 4 r := by
  refine wellformed_run_betting sqrtRat C13.sqrtRat_ok C13.cfgF b C13.xA C13.xA_ne ?_ (by decide +kernel)
    (by decide +kernel) (by decide +kernel) betGuard_F (fun _ h => nomatch h)
  intro n h; cases h; decide

/-! ### `OkWalk okBet`, the hypothesis of `wellformed_betting`, is not met by `fixed_bet` under the guards -/

/-- `N = 2`, `u = 1`, `t = 3/4`, `lam = 1/u = 1`: after one zero the null mean is `3/2 > u` -/
def cfgOver : Cfg := { N := some 2, u := 1, t := 3 / 4, randomOrder := true, kw := { lam := some 1 } }

theorem fixedBet_not_okBet :
    ∃ lam, fixedBet cfgOver [0, 0] = .ok lam ∧
      ¬ OkWalk okBet cfgOver.u cfgOver.N cfgOver.t 0 1 (([0, 0] : List Rat).zip lam) := by
  refine ⟨[.fin 1, .fin 1], rfl, ?_⟩
  rintro ⟨_, _, _, ⟨l, hl, _, h⟩, _⟩
  cases XR.fin.inj hl
  -- the second null mean is `3/2`
  exact absurd (h (by decide +kernel)) (by decide +kernel)

end Shangrla.C11
