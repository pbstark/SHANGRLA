/-
  C12 (ALPHA and betting martingale tests) — the reported history equals `min(1, 1/T_j)` with `T_j` the
  product that defines the method; `p = 0` once the total exceeds `N t`; `p = 1` where `mu_j > u`; the
  ALPHA and betting forms agree when `eta_j = mu_j (1 + lambda_j (u - mu_j))`; the two conversion
  functions are mutual inverses.  Theorems about the literal model (`Shangrla.NM`).
-/
import Shangrla.Lemmas.NMMart
import Shangrla.Lemmas.PHist

namespace Shangrla.C12
open Shangrla Shangrla.NM XR

/-! ### the algebraic core -/

/-- **ALPHA = betting, one factor.**  With `eta = mu (1 + lambda (u - mu))` the ALPHA factor
`[x eta/mu + (u-x)(u-eta)/(u-mu)]/u` is the betting factor `1 + lambda (x - mu)`. -/
theorem factor_alpha_eq_betting (u m a l : Rat) (hm : m ≠ 0) (hum : u - m ≠ 0) (hu : u ≠ 0) :
    alphaFactorQ u m a (m * (1 + l * (u - m))) = 1 + l * (a - m) := by
  unfold alphaFactorQ
  field_simp
  ring

/-- `eta_to_lam (lam_to_eta lambda mu) mu = lambda` for `mu ∉ {0, u}` -/
theorem eta_lam_inverse (u l m : Rat) (hm : m ≠ 0) (hum : u - m ≠ 0) :
    etaToLam u (lamToEta u (.fin l) (.fin m)) (.fin m) = .fin l := by
  unfold etaToLam lamToEta
  simp only [XR.one_def, XR.fin_sub, XR.fin_mul, XR.fin_add]
  rw [XR.fin_div _ _ hm, XR.fin_sub, XR.fin_div _ _ hum]
  congr 1
  field_simp
  ring

/-- `lam_to_eta (eta_to_lam eta mu) mu = eta` for `mu ∉ {0, u}` -/
theorem lam_eta_inverse (u e m : Rat) (hm : m ≠ 0) (hum : u - m ≠ 0) :
    lamToEta u (etaToLam u (.fin e) (.fin m)) (.fin m) = .fin e := by
  unfold etaToLam lamToEta
  simp only [XR.one_def, XR.fin_sub]
  rw [XR.fin_div _ _ hm, XR.fin_sub, XR.fin_div _ _ hum]
  simp only [XR.fin_mul, XR.fin_add]
  congr 1
  field_simp
  ring

/-! ### the defining products -/

/-- the walk over rationals: `T_j = prod_{i<=j} facQ(m_i, x_i, c_i)` -/
def walkQ (facQ : Rat → Rat → Rat → Rat) (N : Option Nat) (t : Rat) :
    Rat → Nat → Rat → List (Rat × Rat) → List (Rat × Rat)
  | _, _, _, [] => []
  | S, j, T, (a, c) :: rest =>
    let m := mu N t S j
    let T' := T * facQ m a c
    (m, T') :: walkQ facQ N t (S + a) (j + 1) T' rest

/-- ALPHA: the factor with the estimate truncated to `[m, u]` (the repaired `alpha_mart`) -/
def alphaQ (u m a q : Rat) : Rat := alphaFactorQ u m a (min u (max q m))
def betQ (m a l : Rat) : Rat := 1 + l * (a - m)

/-- entry-wise relation between the code's running product and the defining product -/
def Agree (u : Rat) (p : Rat × XR) (pq : Rat × Rat) : Prop :=
  p.1 = pq.1 ∧ (0 < p.1 → p.1 < u → p.2 = .fin pq.2)

theorem walk_agrees (fac : Rat → Rat → XR → XR) (facQ : Rat → Rat → Rat → Rat) (u : Rat)
    (N : Option Nat) (t : Rat)
    (hfac : ∀ m a q, 0 < m → m < u → fac m a (.fin q) = .fin (facQ m a q)) :
    ∀ (l : List (Rat × Rat)) (S : Rat) (j : Nat) (T : XR) (Tq : Rat),
      (∀ p ∈ l, 0 ≤ p.1 ∧ p.1 ≤ u) → Room N j l.length →
      (Zst N t u S j → T = .fin Tq) →
      List.Forall₂ (Agree u)
        (walk fac N t S j T (l.map (fun p => (p.1, XR.fin p.2))))
        (walkQ facQ N t S j Tq l) := by
  -- induction on the draws, carrying "`T` is the rational `Tq` as long as every null mean so far was in `(0,u)`"
  -- (`Zst`); a null mean that has left `(0,u)` does not return (`Zst_step`), and there `Agree` asks nothing of the products
  intro l
  induction l with
  | nil => intro S j T Tq _ _ _; exact .nil
  | cons hd rest ih =>
    intro S j T Tq hl hroom hT
    obtain ⟨a, c⟩ := hd
    have ha := hl (a, c) List.mem_cons_self
    obtain ⟨hroom1, hroom'⟩ := hroom.cons
    have hstep : Zst N t u S j → T * fac (mu N t S j) a (.fin c) = .fin (Tq * facQ (mu N t S j) a c) := by
      intro hz
      obtain ⟨hm0, hmu⟩ := (Zst_iff_mu hroom1).1 hz
      rw [hT hz, hfac _ _ _ hm0 hmu, XR.fin_mul]
    exact .cons ⟨rfl, fun hm0 hmu => hstep ((Zst_iff_mu hroom1).2 ⟨hm0, hmu⟩)⟩
      (ih _ _ _ _ (fun p hp => hl p (List.mem_cons_of_mem _ hp)) hroom'
        (fun hz => hstep (Zst_step ha.1 ha.2 hz)))

theorem walk_agrees_sample (fac : Rat → Rat → XR → XR) (facQ : Rat → Rat → Rat → Rat) (cfg : Cfg)
    (hfac : ∀ m a q, 0 < m → m < cfg.u → fac m a (.fin q) = .fin (facQ m a q))
    (x : List Rat) (qs : List Rat) (hlen : qs.length = x.length)
    (hN : ∀ n, cfg.N = some n → x.length ≤ n) (hx : ∀ a ∈ x, 0 ≤ a ∧ a ≤ cfg.u) :
    List.Forall₂ (Agree cfg.u)
      (walk fac cfg.N cfg.t 0 1 1 (x.zip (qs.map XR.fin)))
      (walkQ facQ cfg.N cfg.t 0 1 1 (x.zip qs)) := by
  have hmap : x.zip (qs.map XR.fin) = (x.zip qs).map (fun p => (p.1, XR.fin p.2)) := by
    rw [List.zip_map_right]; rfl
  have hzip : (x.zip qs).length = x.length := by rw [List.length_zip, hlen, Nat.min_self]
  rw [hmap]
  exact walk_agrees fac facQ cfg.u cfg.N cfg.t hfac _ 0 1 1 1
    (fun p hp => hx p.1 (List.of_mem_zip hp).1) (room_of_le (hzip ▸ hN)) (fun _ => rfl)

/-- **`alpha_mart` computes the defining product.**  For every sample in `[0,u]` no longer than the
population and every finite estimates `q_i`: wherever the null conditional mean is strictly inside
`(0,u)`, the running product computed by the code (before masking) is exactly
`prod_{i<=j} [x_i eta_i/mu_i + (u-x_i)(u-eta_i)/(u-mu_i)]/u` with `eta_i = min(u, max(q_i, mu_i))`
and `mu_i = (N t - sum_{k<i} x_k)/(N-i+1)` (finite `N`) or `t`. -/
theorem alpha_terms_def (cfg : Cfg) (x : List Rat) (qs : List Rat) (hlen : qs.length = x.length)
    (hN : ∀ n, cfg.N = some n → x.length ≤ n) (hx : ∀ a ∈ x, 0 ≤ a ∧ a ≤ cfg.u) :
    List.Forall₂ (Agree cfg.u)
      (walk (alphaFactorX cfg.u) cfg.N cfg.t 0 1 1 (x.zip (qs.map XR.fin)))
      (walkQ (alphaQ cfg.u) cfg.N cfg.t 0 1 1 (x.zip qs)) :=
  walk_agrees_sample _ _ cfg (alphaFactorX_fin cfg.u) x qs hlen hN hx

/-- **`betting_mart` computes the defining product** `prod_{i<=j} [1 + lambda_i (x_i - mu_i)]`. -/
theorem betting_terms_def (cfg : Cfg) (x : List Rat) (ls : List Rat) (hlen : ls.length = x.length)
    (hN : ∀ n, cfg.N = some n → x.length ≤ n) (hx : ∀ a ∈ x, 0 ≤ a ∧ a ≤ cfg.u) :
    List.Forall₂ (Agree cfg.u)
      (walk betFactorX cfg.N cfg.t 0 1 1 (x.zip (ls.map XR.fin)))
      (walkQ betQ cfg.N cfg.t 0 1 1 (x.zip ls)) :=
  walk_agrees_sample _ _ cfg (fun m a l _ _ => betFactorX_fin m a l) x ls hlen hN hx

/-! ### ALPHA and betting forms agree -/

/-- with `eta = mu (1 + lambda (u - mu))`, `0 <= lambda <= 1/mu` and `0 < mu < u` the truncation of
`alpha_mart` is inactive and the ALPHA factor is the betting factor -/
theorem alphaQ_lamToEta (u m a l : Rat) (hm0 : 0 < m) (hmu : m < u) (hl0 : 0 ≤ l) (hl1 : l * m ≤ 1) :
    alphaQ u m a (m * (1 + l * (u - m))) = betQ m a l := by
  have hum : 0 < u - m := sub_pos.2 hmu
  have h1 : m ≤ m * (1 + l * (u - m)) :=
    le_mul_of_one_le_right hm0.le (le_add_of_nonneg_right (mul_nonneg hl0 hum.le))
  have h2 : m * (1 + l * (u - m)) ≤ u := by
    have := mul_le_mul_of_nonneg_right hl1 hum.le
    linarith
  rw [alphaQ, max_eq_left h1, min_eq_right h2]
  exact factor_alpha_eq_betting u m a l hm0.ne' hum.ne' (hm0.trans hmu).ne'

/-- the ALPHA factor with the estimate `lam_to_eta(lambda, mu)` for a bet `lambda` -/
def alphaOfBetQ (u m a l : Rat) : Rat := alphaQ u m a (m * (1 + l * (u - m)))

/-- **ALPHA and betting give identical defining products** (hence identical p-values) at every index
whose null mean is strictly inside `(0,u)`, whenever `eta_i = mu_i (1 + lambda_i (u - mu_i))` with
`0 <= lambda_i <= 1/u` (so that `lambda_i <= 1/mu_i` wherever `mu_i < u`). -/
theorem alpha_eq_betting_products (u : Rat) (N : Option Nat) (t : Rat) :
    ∀ (l : List (Rat × Rat)) (S : Rat) (j : Nat) (T T' : Rat),
      (∀ p ∈ l, 0 ≤ p.1 ∧ p.1 ≤ u ∧ 0 ≤ p.2 ∧ p.2 * u ≤ 1) →
      Room N j l.length → (Zst N t u S j → T = T') →
      List.Forall₂ (fun p q : Rat × Rat => p.1 = q.1 ∧ (0 < p.1 → p.1 < u → p.2 = q.2))
        (walkQ (alphaOfBetQ u) N t S j T l) (walkQ betQ N t S j T' l) := by
  intro l
  induction l with
  | nil => intro S j T T' _ _ _; exact .nil
  | cons hd rest ih =>
    intro S j T T' hl hroom hT
    obtain ⟨a, c⟩ := hd
    obtain ⟨ha0, hau, hc0, hcu⟩ := hl (a, c) List.mem_cons_self
    obtain ⟨hroom1, hroom'⟩ := hroom.cons
    have hstep : Zst N t u S j →
        T * alphaOfBetQ u (mu N t S j) a c = T' * betQ (mu N t S j) a c := by
      intro hz
      obtain ⟨hm0, hmu⟩ := (Zst_iff_mu hroom1).1 hz
      rw [hT hz, alphaOfBetQ, alphaQ_lamToEta u _ a c hm0 hmu hc0
        ((mul_le_mul_of_nonneg_left hmu.le hc0).trans hcu)]
    exact .cons ⟨rfl, fun hm0 hmu => hstep ((Zst_iff_mu hroom1).2 ⟨hm0, hmu⟩)⟩
      (ih _ _ _ _ (fun p hp => hl p (List.mem_cons_of_mem _ hp)) hroom'
        (fun hz => hstep (Zst_step ha0 hau hz)))

/-! ### from the running product to the reported p-value -/

/-- a null mean is *regular* when none of the boundary conventions of the code applies to it
(`1/100000`: numpy's default `rtol`, which the code's `isclose(0, ·)` masks use) -/
def Regular (u atol rtol m : Rat) : Prop :=
  0 < m ∧ m < u ∧ XR.isclose (0 : XR) (.fin m) (1 / 100000) atol = false ∧
    XR.isclose (.fin u) (.fin m) rtol atol = false

theorem Regular.maskTerm {u atol rtol m : Rat} (hreg : Regular u atol rtol m) (T : XR) :
    maskTerm u atol rtol m T = if XR.isclose 0 T (1 / 100000) atol then 1 else T :=
  maskTermX_regular hreg.1.not_gt hreg.2.1.not_gt hreg.2.2.1 hreg.2.2.2

/-- **history entry at a regular index**: `min(1, 1/T_j)`, provided `T_j` is not within the code's
`isclose(0, ·)` band (where the code reports 1: "martingale effectively vanishes") -/
theorem hist_regular (u atol rtol m q : Rat) (hreg : Regular u atol rtol m) (hq : 0 < q)
    (hband : XR.isclose (0 : XR) (.fin q) (1 / 100000) atol = false) :
    pOf (maskTerm u atol rtol m (.fin q)) = .fin (min 1 (1 / q)) := by
  rw [hreg.maskTerm, hband]
  exact pOf_pos hq

theorem hist_vanished (u atol rtol m q : Rat) (hreg : Regular u atol rtol m)
    (hband : XR.isclose (0 : XR) (.fin q) (1 / 100000) atol = true) :
    pOf (maskTerm u atol rtol m (.fin q)) = .fin 1 := by
  rw [hreg.maskTerm, hband]
  exact pOf_one

/-- **`p = 1` where `mu_j > u`** (whatever the running product is), for `0 <= atol` -/
theorem hist_above_u (u atol rtol m : Rat) (T : XR) (hmu : u < m) (hu : 0 ≤ u) (hat : 0 ≤ atol)
    (hat2 : atol < 1 / 2) : pOf (maskTerm u atol rtol m T) = .fin 1 := by
  -- the term is set to 0 and then, being close to 0, to 1: the upper bound on `atol` plays no part
  have _ := hat2
  rw [maskTerm, maskTermX_above hu hat hmu]
  exact pOf_one

/-- **`p = 0` where `mu_j < 0`** -/
theorem hist_below_zero (u atol rtol m : Rat) (T : XR) (hm : m < 0) :
    pOf (maskTerm u atol rtol m T) = .fin 0 := by
  rw [maskTerm, maskTermX_neg hm]
  exact pOf_pinf

/-- **`p = 0` once the observed total exceeds `N t`**: the last history entry is 0.  (The history does
not depend on the order flag of `pAndHist`.) -/
theorem clamp_total_exceeds (n : Nat) (t Stot : Rat) (L : List XR) (h : (n : Rat) * t < Stot) :
    (pAndHist true (clampLast (some n) t Stot L)).2.getLast? = some (.fin 0) := by
  unfold clampLast
  simp only [h, ↓reduceIte, pAndHist, List.map_append, List.map_cons, List.map_nil]
  rw [List.getLast?_append]
  simp only [List.getLast?_singleton, Option.some_or]
  exact congrArg some pOf_pinf

end Shangrla.C12
