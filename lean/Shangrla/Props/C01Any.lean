/-
  C01 — "the reported overall p-value, or ANY entry of the reported sample-by-sample history".

  The other C01 theorems bound the probability that the LAST entry of the history reported after some
  number of draws is `≤ alpha`.  Here the event is enlarged to "after some number of draws the overall
  p-value is `≤ alpha`, or some entry of the whole reported history is" (`anyLe`), for all six tests.
  Under the null invariant (so that the final-sample clamp never fires) the history reported on a prefix
  of the sample is the prefix of the history reported on the sample (non-anticipation, C05), and the
  overall p-value is one of the history entries (well-formedness, C11).  So the enlarged event on `h`
  implies the last-entry event on some non-empty prefix of `h`, and an event that implies another on a
  prefix is no more likely ever to be seen.  `0 ≤ u` and `atol < 1/2` in the statements are documented ranges
  that no proof uses.
-/
import Shangrla.Props.C01Kaplan
import Shangrla.Props.C05
import Shangrla.Props.C11Shipped

namespace Shangrla.C01
open Shangrla Shangrla.NM XR Shangrla.C12 Shangrla.Ville Shangrla.C11 Shangrla.C05

/-! ### the enlarged event and its reduction to prefixes (deterministic) -/

/-- "the reported overall p-value, or some entry of the reported history, is `≤ alpha`"
(`false` when the test raised) -/
def anyLe (alpha : ℚ) (r : Except Err (XR × List XR)) : Bool :=
  match r with
  | .ok r => XR.le r.1 (.fin alpha) || r.2.any (fun p => XR.le p (.fin alpha))
  | .error _ => false

/-- what the reduction needs of a test `T` on the valid samples `V` -/
structure PrefixOK (V : List ℚ → Prop) (T : List ℚ → Except Err (XR × List XR)) : Prop where
  nil : ∀ r, T [] ≠ .ok r
  pre : ∀ h k, V h → 0 < k → k ≤ h.length → V (h.take k)
  ok : ∀ h, V h → h ≠ [] → ∃ r, T h = .ok r ∧ r.2.length = h.length ∧
      ∀ alpha : ℚ, XR.le r.1 (.fin alpha) = true → ∃ p ∈ r.2, XR.le p (.fin alpha) = true
  trunc : ∀ h k r0 r1, V h → 0 < k → k ≤ h.length → T (h.take k) = .ok r0 → T h = .ok r1 →
      r0.2 = r1.2.take k

theorem any_prefix {V : List ℚ → Prop} {T : List ℚ → Except Err (XR × List XR)} (P : PrefixOK V T)
    (alpha : ℚ) (h : List ℚ) (hV : V h) (hany : anyLe alpha (T h) = true) :
    ∃ k, 0 < k ∧ k ≤ h.length ∧ lastLe alpha (T (h.take k)) = true := by
  by_cases hne : h = []
  · subst hne
    cases hT : T [] with
    | error e => rw [hT] at hany; cases hany
    | ok r => exact absurd hT (P.nil r)
  · obtain ⟨r, hr, hlen, hp⟩ := P.ok h hV hne
    rw [hr] at hany
    obtain ⟨p, hpm, hple⟩ : ∃ p ∈ r.2, XR.le p (.fin alpha) = true := by
      rcases Bool.or_eq_true_iff.1 hany with h1 | h2
      · exact hp alpha h1
      · exact List.any_eq_true.1 h2
    obtain ⟨i, hi, rfl⟩ := List.getElem_of_mem hpm
    have hk : i + 1 ≤ h.length := hlen ▸ hi
    obtain ⟨r0, hr0, -, -⟩ := P.ok _ (P.pre h (i + 1) hV i.succ_pos hk)
      (fun h0 => (List.take_eq_nil_iff.1 h0).elim i.succ_ne_zero hne)
    refine ⟨i + 1, i.succ_pos, hk, ?_⟩
    -- the history on the prefix is `r.2.take (i + 1)`, whose last entry is `r.2[i]`
    rw [hr0, lastLe, P.trunc h (i + 1) r0 r hV i.succ_pos hk hr0 hr, List.take_add_one,
      List.getElem?_eq_getElem hi, Option.toList_some, List.getLast?_concat]
    exact hple

/-! ### domination of hitting probabilities (probabilistic) -/

/-- the event `ev` has not been seen on any shorter non-empty prefix of the draws `h` -/
def NoProperPrefix (ev : List ℚ → Bool) (h : List ℚ) : Prop :=
  ∀ k, 0 < k → k < h.length → ev (h.take k) = false

theorem noProperPrefix_nil (ev : List ℚ → Bool) : NoProperPrefix ev [] :=
  fun _ _ hk => absurd hk (Nat.not_lt_zero _)

theorem noProperPrefix_snoc (ev : List ℚ → Bool) (h : List ℚ) (a : ℚ) (hno : NoProperPrefix ev h)
    (hh : ev h = false) : NoProperPrefix ev (h ++ [a]) := by
  intro k hk0 hk
  rw [List.length_append, List.length_singleton, Nat.lt_succ_iff] at hk
  rw [List.take_append_of_le_length hk]
  rcases hk.lt_or_eq with hlt | rfl
  · exact hno k hk0 hlt
  · rwa [List.take_length]

theorem ev_of_prefix (ev₁ ev₂ : List ℚ → Bool) (h : List ℚ)
    (himp : ev₁ h = true → ∃ k, 0 < k ∧ k ≤ h.length ∧ ev₂ (h.take k) = true)
    (hno : NoProperPrefix ev₂ h) (h1 : ev₁ h = true) : ev₂ h = true := by
  obtain ⟨k, hk0, hk, he⟩ := himp h1
  rcases hk.lt_or_eq with hlt | rfl
  · rw [hno k hk0 hlt] at he; cases he
  · rwa [List.take_length] at he

theorem hitEv_mono_prefix (ev₁ ev₂ : List ℚ → Bool) (InvP : List ℚ → List ℚ → Prop)
    (hstep : ∀ R h, InvP R h → ∀ i < R.length, InvP (R.eraseIdx i) (h ++ [R.getD i 0]))
    (himp : ∀ R h, InvP R h → ev₁ h = true → ∃ k, 0 < k ∧ k ≤ h.length ∧ ev₂ (h.take k) = true) :
    ∀ fuel R h, InvP R h → NoProperPrefix ev₂ h → hitEv ev₁ fuel R h ≤ hitEv ev₂ fuel R h := by
  -- at a node where `ev₂` holds the right side is 1; elsewhere `ev₁` fails too and both sides recurse
  intro fuel
  induction fuel with
  | zero =>
    intro R h hI hno
    by_cases h2 : ev₂ h = true
    · rw [hitEv_of_ev h2]; exact (hitEv_mem_unit ev₁ 0 R h).2
    · rw [hitEv, hitEv, if_neg h2, if_neg fun h1 => h2 (ev_of_prefix ev₁ ev₂ h (himp R h hI) hno h1)]
  | succ fuel ih =>
    intro R h hI hno
    by_cases h2 : ev₂ h = true
    · rw [hitEv_of_ev h2]; exact (hitEv_mem_unit ev₁ _ R h).2
    · rw [hitEv, hitEv, if_neg h2, if_neg fun h1 => h2 (ev_of_prefix ev₁ ev₂ h (himp R h hI) hno h1)]
      split
      · exact le_rfl
      · rename_i hR
        exact avgIdx_le (List.length_pos_iff.mpr hR) _ _ fun i hi =>
          ih _ _ (hstep R h hI i hi) (noProperPrefix_snoc ev₂ h _ hno (Bool.eq_false_iff.2 h2))

section OrderedField

variable {K : Type} [Field K] [LinearOrder K] [IsStrictOrderedRing K]

theorem hitIIDK_mono_prefix (L : List (ℚ × K)) (hw : ∀ p ∈ L, 0 ≤ p.2) (hs : (L.map Prod.snd).sum = 1)
    (ev₁ ev₂ : List ℚ → Bool) (InvP : List ℚ → Prop)
    (hstep : ∀ h, InvP h → ∀ p ∈ L, InvP (h ++ [p.1]))
    (himp : ∀ h, InvP h → ev₁ h = true → ∃ k, 0 < k ∧ k ≤ h.length ∧ ev₂ (h.take k) = true) :
    ∀ n h, InvP h → NoProperPrefix ev₂ h → hitIIDK L ev₁ n h ≤ hitIIDK L ev₂ n h := by
  intro n
  induction n with
  | zero =>
    intro h hI hno
    by_cases h2 : ev₂ h = true
    · rw [hitIIDK_of_ev L h2]; exact (hitIIDK_mem_unit L hw hs ev₁ 0 h).2
    · rw [hitIIDK_zero_of_not L h2,
        hitIIDK_zero_of_not L fun h1 => h2 (ev_of_prefix ev₁ ev₂ h (himp h hI) hno h1)]
  | succ n ih =>
    intro h hI hno
    by_cases h2 : ev₂ h = true
    · rw [hitIIDK_of_ev L h2]; exact (hitIIDK_mem_unit L hw hs ev₁ _ h).2
    · rw [hitIIDK_succ_of_not L h2,
        hitIIDK_succ_of_not L fun h1 => h2 (ev_of_prefix ev₁ ev₂ h (himp h hI) hno h1)]
      exact expLK_le L hw _ _ fun p hp =>
        ih _ (hstep h hI p hp) (noProperPrefix_snoc ev₂ h _ hno (Bool.eq_false_iff.2 h2))

end OrderedField

theorem hitIID_mono_prefix (L : List (ℚ × ℚ)) (hw : ∀ p ∈ L, 0 ≤ p.2) (hs : (L.map Prod.snd).sum = 1)
    (ev₁ ev₂ : List ℚ → Bool) (InvP : List ℚ → Prop)
    (hstep : ∀ h, InvP h → ∀ p ∈ L, InvP (h ++ [p.1]))
    (himp : ∀ h, InvP h → ev₁ h = true → ∃ k, 0 < k ∧ k ≤ h.length ∧ ev₂ (h.take k) = true) :
    ∀ n h, InvP h → NoProperPrefix ev₂ h → hitIID L ev₁ n h ≤ hitIID L ev₂ n h :=
  fun n h hI hno => hitIIDK_rat L ev₁ n h ▸ hitIIDK_rat L ev₂ n h ▸
    hitIIDK_mono_prefix L hw hs ev₁ ev₂ InvP hstep himp n h hI hno

/-! ### the enlarged event is no more likely than the last-entry event -/

theorem hitEv_any_le_last_null {V : List ℚ → Prop} {T : List ℚ → Except Err (XR × List XR)}
    (P : PrefixOK V T) (alpha : ℚ) {Q : ℚ → Prop} {t : ℚ} {n : Nat} (hV : ∀ R h, InvP Q n t R h → V h)
    (pop : List ℚ) (hlen : pop.length = n) (hrange : ∀ a ∈ pop, Q a)
    (hnull : pop.sum ≤ (n : ℚ) * t) :
    hitEv (fun h => anyLe alpha (T h)) pop.length pop [] ≤
      hitEv (fun h => lastLe alpha (T h)) pop.length pop [] :=
  hitEv_mono_prefix _ _ (InvP Q n t) (fun _ _ hI _ hi => hI.draw hi)
    (fun R h hI => any_prefix P alpha h (hV R h hI)) pop.length pop [] (InvP.init hlen hrange hnull)
    (noProperPrefix_nil _)

theorem ne_ok_of_error {α : Type} {a : Except Err α} {e : Err} (h : a = .error e) (r : α) : a ≠ .ok r := by
  rw [h]; exact nofun

/-! ### the martingale tests: `PrefixOK` from predictability -/

/-- the valid samples under the null: values in `[0,u]`, and for a finite population no more draws
than items and a total of at most `N t` (so that the final-sample clamp does not fire) -/
def VNull (cfg : Cfg) (h : List ℚ) : Prop :=
  (∀ a ∈ h, 0 ≤ a ∧ a ≤ cfg.u) ∧ ∀ n, cfg.N = some n → h.length ≤ n ∧ h.sum ≤ (n : ℚ) * cfg.t

theorem vNull_take (cfg : Cfg) (h : List ℚ) (k : Nat) (hV : VNull cfg h) : VNull cfg (h.take k) := by
  refine ⟨fun a ha => hV.1 a (List.mem_of_mem_take ha), fun n hn => ?_⟩
  obtain ⟨h1, h2⟩ := hV.2 n hn
  exact ⟨(List.length_take_le' k h).trans h1,
    ((List.take_sublist k h).sum_le_sum fun a ha => (hV.1 a ha).1).trans h2⟩

theorem vNull_not_clamped (cfg : Cfg) (h : List ℚ) (hV : VNull cfg h) : ¬ Clamped cfg h := by
  rintro ⟨n, hn, hlt⟩
  rw [xsum_eq] at hlt
  exact absurd (hV.2 n hn).2 (not_le.2 hlt)

theorem vNull_of_inv (cfg : Cfg) (n : Nat) (hN : cfg.N = some n) (R h : List ℚ)
    (hI : Inv cfg.u n cfg.t R h) : VNull cfg h :=
  ⟨hI.2.2.1, forall_of_some hN ⟨Nat.le.intro hI.1, hI.sum_le⟩⟩

theorem vNull_of_range (cfg : Cfg) (hN : cfg.N = none) (h : List ℚ) (hr : ∀ b ∈ h, 0 ≤ b ∧ b ≤ cfg.u) :
    VNull cfg h := ⟨hr, forall_of_none hN⟩

/-- the predictable estimator / bet `x ↦ [g [], g [x₁], …]` as a total function -/
def estimP (g : List ℚ → ℚ) : List ℚ → Except Err (List XR) := fun x => .ok ((params g x).map XR.fin)

theorem strictlyCausal_params (g : List ℚ → ℚ) :
    StrictlyCausal (fun x : List ℚ => (params g x).map XR.fin) := by
  refine (strictlyCausal_of_fun (fun x => (List.range (x.length + 1)).map fun i => g (x.take i)) ?_).map XR.fin
  intro x a y
  unfold params
  rw [← List.map_take, List.take_range, List.length_append, List.length_cons,
    min_eq_left (Nat.add_le_add_left (Nat.le_add_left 1 _) _)]
  exact List.map_congr_left fun i hi => by
    rw [List.take_append_of_le_length (Nat.le_of_lt_succ (List.mem_range.1 hi))]

theorem estimP_eq {g : List ℚ → ℚ} {x : List ℚ} {l : List XR} (h : estimP g x = .ok l) :
    l = (params g x).map XR.fin := (Except.ok.inj h).symm

theorem scE_estimP (g : List ℚ → ℚ) : StrictlyCausalE (estimP g) :=
  scE_of_pure (fun _ _ => estimP_eq) (strictlyCausal_params g)

theorem lpE_estimP (g : List ℚ → ℚ) : LenPresE (estimP g) :=
  lpE_of_pure (fun _ _ => estimP_eq) fun x => by simp

theorem wf_overall_mem {ro : Bool} {n : Nat} {r : XR × List XR} (W : C11.WellFormed ro n r) : r.1 ∈ r.2 := by
  obtain ⟨_, _, _, h4, h5⟩ := W
  cases ro with
  | true => exact (h4 rfl).1
  | false => exact List.mem_of_getLast? (h5 rfl)

/-- `mk par` is `alpha_mart` or `betting_mart` with parameter function `par`.  The result is well-formed
(C11), and since the clamp does not fire on a null sample, truncating the sample truncates the history
(C05, applied to the total predictable function `estimP g` that `par` agrees with on the null samples). -/
theorem prefixOK_mart (cfg : Cfg)
    (mk : (List ℚ → Except Err (List XR)) → List ℚ → Except Err (XR × List XR))
    (hnil : ∀ par, mk par [] = .error .index)
    (hcongr : ∀ e1 e2 x, e1 x = e2 x → mk e1 x = mk e2 x)
    (htr : ∀ par, StrictlyCausalE par → LenPresE par → ∀ x y p0 p1 h0 h1,
      mk par x = .ok (p0, h0) → mk par (x ++ y) = .ok (p1, h1) → ¬ Clamped cfg x → h0 = h1.take x.length)
    (par : List ℚ → Except Err (List XR)) (g : List ℚ → ℚ)
    (hest : ∀ h : List ℚ, h ≠ [] → (∀ n, cfg.N = some n → h.length ≤ n) → par h = estimP g h)
    (hwf : ∀ h, VNull cfg h → h ≠ [] →
      ∃ r, mk par h = .ok r ∧ C11.WellFormed cfg.randomOrder h.length r) :
    PrefixOK (VNull cfg) (mk par) where
  nil := ne_ok_of_error (hnil par)
  pre := fun h k hV _ _ => vNull_take cfg h k hV
  ok := by
    intro h hV hne
    obtain ⟨r, hr, W⟩ := hwf h hV hne
    exact ⟨r, hr, W.1, fun _ hle => ⟨r.1, wf_overall_mem W, hle⟩⟩
  trunc := by
    intro h k r0 r1 hV hk0 hk H0 H1
    have hV' := vNull_take cfg h k hV
    have hp : ∀ x, VNull cfg x → x ≠ [] → mk par x = mk (estimP g) x := fun x hx hne =>
      hcongr _ _ x (hest x hne fun n hn => (hx.2 n hn).1)
    have hne : h ≠ [] := List.ne_nil_of_length_pos (hk0.trans_le hk)
    rw [hp _ hV' fun h0 => (List.take_eq_nil_iff.1 h0).elim hk0.ne' hne] at H0
    rw [hp _ hV hne, ← List.take_append_drop k h] at H1
    have := htr (estimP g) (scE_estimP g) (lpE_estimP g) _ _ r0.1 r1.1 r0.2 r1.2 H0 H1
      (vNull_not_clamped cfg _ hV')
    rwa [List.length_take, min_eq_left hk] at this

theorem prefixOK_alpha (cfg : Cfg) (g : List ℚ → ℚ) (estim : List ℚ → Except Err (List XR))
    (hest : ∀ h : List ℚ, h ≠ [] → (∀ n, cfg.N = some n → h.length ≤ n) →
      estim h = .ok ((params g h).map XR.fin))
    (hat : 0 ≤ cfg.atol) (hrt : 0 ≤ cfg.rtol) : PrefixOK (VNull cfg) (alphaMart cfg estim) :=
  prefixOK_mart cfg (alphaMart cfg) (alphaMart_nil cfg)
    (fun e1 e2 x h => by unfold alphaMart alphaTerms; rw [h])
    (fun par hsc hl x y p0 p1 h0 h1 A B =>
      (hist_truncate_alpha_partial cfg par hsc hl x y p0 p1 h0 h1 A B).2.1)
    estim g hest
    (fun h hV hne =>
      have hN : ∀ n, cfg.N = some n → h.length ≤ n := fun n hn => (hV.2 n hn).1
      wellformed_alpha cfg estim h _ hne hN hV.1 hat hrt (hest h hne hN)
        (by simp)
        (by intro e he; obtain ⟨q, _, rfl⟩ := List.mem_map.1 he; exact ⟨q, rfl⟩))

theorem prefixOK_betting (cfg : Cfg) (g : List ℚ → ℚ) (bet : List ℚ → Except Err (List XR))
    (hest : ∀ h : List ℚ, h ≠ [] → (∀ n, cfg.N = some n → h.length ≤ n) →
      bet h = .ok ((params g h).map XR.fin))
    (hg0 : ∀ h : List ℚ, 0 ≤ g h)
    (hg1 : ∀ h : List ℚ, 0 < muAfter cfg.N cfg.t h → muAfter cfg.N cfg.t h < cfg.u →
      g h * muAfter cfg.N cfg.t h ≤ 1)
    (hat : 0 ≤ cfg.atol) (hrt : 0 ≤ cfg.rtol) : PrefixOK (VNull cfg) (bettingMart cfg bet) :=
  prefixOK_mart cfg (bettingMart cfg) (bettingMart_nil cfg)
    (fun e1 e2 x h => by unfold bettingMart bettingTerms; rw [h])
    (fun par hsc hl x y p0 p1 h0 h1 A B =>
      (hist_truncate_betting_partial cfg par hsc hl x y p0 p1 h0 h1 A B).2.1)
    bet g hest
    (fun h hV hne => by
      have hN : ∀ n, cfg.N = some n → h.length ≤ n := fun n hn => (hV.2 n hn).1
      have hlen : ((params g h).map XR.fin).length = h.length := by simp
      refine wellformed_betting_in cfg bet h _ hne hN hat hrt (hest h hne hN) hlen
        (okWalk_of_entries (okBetIn cfg.u) cfg.u cfg.N cfg.t h _ 0 1 hlen hV.1 ?_)
      -- entry `i`: the null mean is `muAfter … (h.take i)` (`nullMeans_params`) and the bet is `g (h.take i)`,
      -- so the range `okBetIn` asks for is `hg0`, `hg1` at the history `h.take i`
      intro i m hm
      rw [nullMeans_params] at hm
      obtain ⟨hi, -⟩ := List.getElem?_eq_some_iff.1 hm
      rw [length_params] at hi
      rw [params_getElem? _ _ hi] at hm
      cases hm
      exact ⟨XR.fin (g (h.take i)), by rw [List.getElem?_map, params_getElem? _ _ hi]; rfl,
        fun _ hm0 hmu => ⟨_, rfl, hg0 _, hg1 _ hm0 hmu⟩⟩)

/-! ### the Kaplan tests and the SPRT: `PrefixOK` from C11 (well-formed) and C05 (truncation) -/

theorem nm_wf_overall_mem {x : List ℚ} (hne : x ≠ []) {ro : Bool} {p : XR} {hist : List XR}
    (W : NM.WellFormed x.length ro p hist) : p ∈ hist := by
  obtain ⟨hl, hP, _, h4, h5⟩ := W
  cases ro with
  | true =>
    rw [h4 rfl]
    exact (minList_is_smallest (fun h0 => hne (List.length_eq_zero_iff.1 (hl ▸ congrArg _ h0))) hP).2.1
  | false => exact List.mem_of_getLast? (h5 rfl)

theorem prefixOK_of_wf (V : List ℚ → Prop) (T : List ℚ → Except Err (XR × List XR)) (ro : Bool)
    (nil : ∀ r, T [] ≠ .ok r)
    (pre : ∀ h k, V h → 0 < k → k ≤ h.length → V (h.take k))
    (wf : ∀ h, V h → h ≠ [] → ∃ p hist, T h = .ok (p, hist) ∧ NM.WellFormed h.length ro p hist)
    (tr : ∀ x y p0 p1 h0 h1, T x = .ok (p0, h0) → T (x ++ y) = .ok (p1, h1) → h0 = h1.take x.length) :
    PrefixOK V T where
  nil := nil
  pre := pre
  ok := by
    intro h hV hne
    obtain ⟨p, hist, he, W⟩ := wf h hV hne
    exact ⟨(p, hist), he, W.1, fun _ hle => ⟨p, nm_wf_overall_mem hne W, hle⟩⟩
  trunc := by
    intro h k r0 r1 _ _ hk H0 H1
    rw [← List.take_append_drop k h] at H1
    have := tr (h.take k) (h.drop k) r0.1 r1.1 r0.2 r1.2 H0 H1
    rwa [List.length_take, min_eq_left hk] at this

theorem nonneg_take {h : List ℚ} (k : Nat) (hx : ∀ a ∈ h, 0 ≤ a) : ∀ a ∈ h.take k, 0 ≤ a :=
  fun a ha => hx a (List.mem_of_mem_take ha)

theorem prefixOK_kk (cfg : Cfg) (n : Nat) (hN : cfg.N = some n) (hg : 0 ≤ cfg.kw.g.getD 0) :
    PrefixOK (fun h => (∀ a ∈ h, 0 ≤ a) ∧ h.length ≤ n) (kaplanKolmogorov cfg) :=
  prefixOK_of_wf _ _ cfg.randomOrder
    (by
      by_cases h0 : n = 0
      · subst h0; exact ne_ok_of_error (kk_err_N0 cfg [] hN)
      · exact ne_ok_of_error (kk_err_empty cfg n hN h0))
    (fun h k hV _ _ => ⟨nonneg_take k hV.1, (List.length_take_le' k h).trans hV.2⟩)
    (fun h hV hne => kk_wf cfg n h hN hne hV.1 hV.2 hg)
    (hist_truncate_kk cfg)

theorem prefixOK_sprt (cfg : Cfg) (hro : cfg.N ≠ none → cfg.randomOrder = true)
    (ht0 : 0 < cfg.t) (htu : cfg.t < cfg.u) (hte : cfg.t ≤ C11.sprtEta cfg) (heu : C11.sprtEta cfg ≤ cfg.u) :
    PrefixOK (fun h => (∀ a ∈ h, 0 ≤ a ∧ a ≤ cfg.u) ∧ FitsN cfg.N h.length) (waldSprt cfg) :=
  prefixOK_of_wf _ _ cfg.randomOrder
    (ne_ok_of_error (sprt_err_empty cfg hro))
    (fun h k hV _ _ => ⟨fun a ha => hV.1 a (List.mem_of_mem_take ha),
      fun n hn => (List.length_take_le' k h).trans (hV.2 n hn)⟩)
    (fun h hV hne => sprt_wf cfg h
      { ne := hne, range := hV.1, fits := hV.2, t_pos := ht0, t_lt_u := htu, t_le_eta := hte,
        eta_le_u := heu, ro := hro })
    (hist_truncate_sprt cfg)

theorem prefixOK_kw (cfg : Cfg) (ht : 0 < cfg.t) (hg0 : 0 ≤ cfg.kw.g.getD 0) (hg1 : cfg.kw.g.getD 0 ≤ 1) :
    PrefixOK (fun h => ∀ a ∈ h, 0 ≤ a) (kaplanWald cfg) :=
  prefixOK_of_wf _ _ cfg.randomOrder
    (ne_ok_of_error (kw_err_empty cfg hg0 hg1))
    (fun _ k hV _ _ => nonneg_take k hV)
    (fun h hV hne => kw_wf cfg h hne hV ht hg0 hg1)
    (hist_truncate_kw cfg)

theorem prefixOK_km (cfg : Cfg) (hg : 0 ≤ cfg.kw.g.getD 0) (htg : 0 < cfg.t + cfg.kw.g.getD 0) :
    PrefixOK (fun h => ∀ a ∈ h, 0 ≤ a) (kaplanMarkov cfg) :=
  prefixOK_of_wf _ _ cfg.randomOrder
    (ne_ok_of_error (km_err_empty cfg))
    (fun _ k hV _ _ => nonneg_take k hV)
    (fun h hV hne => km_wf cfg h hne hV hg htg)
    (hist_truncate_km cfg)

/-! ### the enlarged events

Each is `anyLe alpha (T h)` for its test `T`, and the last-entry events `reportedLast`, `reportedLastB`,
`reportedLastKK`, … are `lastLe alpha (T h)` by unfolding (`reportedLast_eq_lastLe`); the proofs below pass
from one form to the other without saying so. -/

/-- the overall p-value of `alpha_mart` on the draws `h`, or some entry of its history, is `≤ alpha`
(`reportedAnyB`: of `betting_mart`) -/
def reportedAny (cfg : Cfg) (estim : List ℚ → Except Err (List XR)) (alpha : ℚ) (h : List ℚ) : Bool :=
  anyLe alpha (alphaMart cfg estim h)

def reportedAnyB (cfg : Cfg) (bet : List ℚ → Except Err (List XR)) (alpha : ℚ) (h : List ℚ) : Bool :=
  anyLe alpha (bettingMart cfg bet h)

/-- overall p-value of `kaplan_kolmogorov` on the draws `h`, or some entry of its history, `≤ alpha` -/
def reportedAnyKK (cfg : Cfg) (alpha : ℚ) (h : List ℚ) : Bool := anyLe alpha (kaplanKolmogorov cfg h)
def reportedAnySprt (cfg : Cfg) (alpha : ℚ) (h : List ℚ) : Bool := anyLe alpha (waldSprt cfg h)
def reportedAnyKW (cfg : Cfg) (alpha : ℚ) (h : List ℚ) : Bool := anyLe alpha (kaplanWald cfg h)
def reportedAnyKM (cfg : Cfg) (alpha : ℚ) (h : List ℚ) : Bool := anyLe alpha (kaplanMarkov cfg h)

/-! ### sampling without replacement -/

theorem reportedAny_prefix (cfg : Cfg) (n : Nat) (hN : cfg.N = some n) (g : List ℚ → ℚ)
    (estim : List ℚ → Except Err (List XR))
    (hest : ∀ h : List ℚ, h ≠ [] → h.length ≤ n → estim h = .ok ((params g h).map XR.fin))
    (hat : 0 ≤ cfg.atol) (hrt : 0 ≤ cfg.rtol) (alpha : ℚ) (R h : List ℚ)
    (hI : Inv cfg.u n cfg.t R h) (hany : reportedAny cfg estim alpha h = true) :
    ∃ k, 0 < k ∧ k ≤ h.length ∧ reportedLast cfg estim alpha (h.take k) = true :=
  any_prefix (prefixOK_alpha cfg g estim (fun h hne hl => hest h hne (hl n hN)) hat hrt) alpha h
    (vNull_of_inv cfg n hN R h hI) hany

/-- **C01, ALPHA, sampling without replacement, overall p-value or any history entry.**  Same
hypotheses as `C01_finite_alpha`: the exact probability that, after some number of draws, the overall
p-value reported by `alpha_mart` or ANY entry of the history it reports is at most `alpha` does not
exceed `alpha`. -/
theorem C01_finite_alpha_any (cfg : Cfg) (n : Nat) (hN : cfg.N = some n) (g : List ℚ → ℚ)
    (estim : List ℚ → Except Err (List XR))
    (hest : ∀ h : List ℚ, h ≠ [] → h.length ≤ n → estim h = .ok ((params g h).map XR.fin))
    (hu : 0 ≤ cfg.u) (hat : 0 ≤ cfg.atol) (hat2 : cfg.atol < 1 / 2) (hrt : 0 ≤ cfg.rtol)
    (alpha : ℚ) (ha0 : 0 < alpha) (ha1 : alpha < 1)
    (pop : List ℚ) (hlen : pop.length = n) (hrange : ∀ a ∈ pop, 0 ≤ a ∧ a ≤ cfg.u)
    (hnull : pop.sum ≤ (n : ℚ) * cfg.t) :
    hitEv (reportedAny cfg estim alpha) pop.length pop [] ≤ alpha :=
  (hitEv_any_le_last_null (prefixOK_alpha cfg g estim (fun h hne hl => hest h hne (hl n hN)) hat hrt) alpha
      (vNull_of_inv cfg n hN) pop hlen hrange hnull).trans
    (C01_finite_alpha cfg n hN g estim hest hu hat hat2 hrt alpha ha0 ha1 pop hlen hrange hnull)

/-- **C01, betting martingale, sampling without replacement, overall p-value or any history entry** -/
theorem C01_finite_betting_any (cfg : Cfg) (n : Nat) (hN : cfg.N = some n) (g : List ℚ → ℚ)
    (bet : List ℚ → Except Err (List XR))
    (hest : ∀ h : List ℚ, h ≠ [] → h.length ≤ n → bet h = .ok ((params g h).map XR.fin))
    (hg0 : ∀ h : List ℚ, 0 ≤ g h)
    (hg1 : ∀ h : List ℚ, 0 < muAfter (some n) cfg.t h → muAfter (some n) cfg.t h < cfg.u →
      g h * muAfter (some n) cfg.t h ≤ 1)
    (hu : 0 ≤ cfg.u) (hat : 0 ≤ cfg.atol) (hat2 : cfg.atol < 1 / 2) (hrt : 0 ≤ cfg.rtol)
    (alpha : ℚ) (ha0 : 0 < alpha) (ha1 : alpha < 1)
    (pop : List ℚ) (hlen : pop.length = n) (hrange : ∀ a ∈ pop, 0 ≤ a ∧ a ≤ cfg.u)
    (hnull : pop.sum ≤ (n : ℚ) * cfg.t) :
    hitEv (reportedAnyB cfg bet alpha) pop.length pop [] ≤ alpha :=
  (hitEv_any_le_last_null
      (prefixOK_betting cfg g bet (fun h hne hl => hest h hne (hl n hN)) hg0 (hN ▸ hg1) hat hrt)
      alpha (vNull_of_inv cfg n hN) pop hlen hrange hnull).trans
    (C01_finite_betting cfg n hN g bet hest hg0 hg1 hu hat hat2 hrt alpha ha0 ha1 pop hlen hrange hnull)

/-- ALPHA with the default (fixed-alternative) estimator, without replacement: overall p-value or any
history entry -/
theorem C01_finite_alpha_fixed_any (cfg : Cfg) (n : Nat) (hN : cfg.N = some n)
    (hu : 0 ≤ cfg.u) (hat : 0 ≤ cfg.atol) (hat2 : cfg.atol < 1 / 2) (hrt : 0 ≤ cfg.rtol)
    (alpha : ℚ) (ha0 : 0 < alpha) (ha1 : alpha < 1)
    (pop : List ℚ) (hlen : pop.length = n) (hrange : ∀ a ∈ pop, 0 ≤ a ∧ a ≤ cfg.u)
    (hnull : pop.sum ≤ (n : ℚ) * cfg.t) :
    hitEv (reportedAny cfg (fixedAlternativeMean cfg) alpha) pop.length pop [] ≤ alpha :=
  C01_finite_alpha_any cfg n hN (gFixedAlt cfg) (fixedAlternativeMean cfg)
    (fun h hne hl => fixedAlt_params cfg h hne (forall_of_some hN hl)) hu hat hat2 hrt alpha ha0 ha1 pop hlen hrange hnull

/-- the betting martingale with a fixed bet `0 ≤ lam ≤ 1/u`, without replacement: overall p-value or any
history entry -/
theorem C01_finite_betting_fixed_any (cfg : Cfg) (n : Nat) (hN : cfg.N = some n) (lam : ℚ)
    (hlam : cfg.kw.lam = some lam) (hl0 : 0 ≤ lam) (hl1 : lam * cfg.u ≤ 1)
    (hu : 0 ≤ cfg.u) (hat : 0 ≤ cfg.atol) (hat2 : cfg.atol < 1 / 2) (hrt : 0 ≤ cfg.rtol)
    (alpha : ℚ) (ha0 : 0 < alpha) (ha1 : alpha < 1)
    (pop : List ℚ) (hlen : pop.length = n) (hrange : ∀ a ∈ pop, 0 ≤ a ∧ a ≤ cfg.u)
    (hnull : pop.sum ≤ (n : ℚ) * cfg.t) :
    hitEv (reportedAnyB cfg (fixedBet cfg) alpha) pop.length pop [] ≤ alpha :=
  C01_finite_betting_any cfg n hN (fun _ => lam) (fixedBet cfg)
    (fun h _ _ => fixedBet_params cfg lam hlam h) (fun _ => hl0)
    (fun _ _ hmu => (mul_le_mul_of_nonneg_left hmu.le hl0).trans hl1)
    hu hat hat2 hrt alpha ha0 ha1 pop hlen hrange hnull

/-- **C01, Kaplan-Kolmogorov, without replacement, overall p-value or any history entry** -/
theorem C01_finite_kk_any (cfg : Cfg) (n : Nat) (hN : cfg.N = some n) (hg : 0 ≤ cfg.kw.g.getD 0)
    (alpha : ℚ) (ha0 : 0 < alpha) (ha1 : alpha < 1)
    (pop : List ℚ) (hlen : pop.length = n) (hrange : ∀ a ∈ pop, 0 ≤ a)
    (hnull : pop.sum ≤ (n : ℚ) * cfg.t) :
    hitEv (reportedAnyKK cfg alpha) pop.length pop [] ≤ alpha :=
  (hitEv_any_le_last_null (prefixOK_kk cfg n hN hg) alpha
      (fun _ _ hI => ⟨hI.2.2.1, Nat.le.intro hI.1⟩) pop hlen hrange hnull).trans
    (C01_finite_kk cfg n hN hg alpha ha0 ha1 pop hlen hrange hnull)

/-- **C01, SPRT, without replacement, overall p-value or any history entry** -/
theorem C01_finite_sprt_any (cfg : Cfg) (n : Nat) (hN : cfg.N = some n) (hro : cfg.randomOrder = true)
    (ht0 : 0 < cfg.t) (htu : cfg.t < cfg.u) (hte : cfg.t ≤ C11.sprtEta cfg) (heu : C11.sprtEta cfg ≤ cfg.u)
    (alpha : ℚ) (ha0 : 0 < alpha) (ha1 : alpha < 1)
    (pop : List ℚ) (hlen : pop.length = n) (hrange : ∀ a ∈ pop, 0 ≤ a ∧ a ≤ cfg.u)
    (hnull : pop.sum ≤ (n : ℚ) * cfg.t) :
    hitEv (reportedAnySprt cfg alpha) pop.length pop [] ≤ alpha :=
  (hitEv_any_le_last_null (prefixOK_sprt cfg (fun _ => hro) ht0 htu hte heu) alpha
      (fun _ _ hI => ⟨hI.2.2.1, forall_of_some hN (Nat.le.intro hI.1)⟩)
      pop hlen hrange hnull).trans
    (C01_finite_sprt cfg n hN hro ht0 htu hte heu alpha ha0 ha1 pop hlen hrange hnull)

/-! ### independent draws

**C01, independent draws, overall p-value or any history entry**: `C01_iid_*_any_K` for a law with weights
in an ordered field `K`, `C01_iid_*_any` its case `K = ℚ`; for ALPHA, the betting martingale, the SPRT,
Kaplan-Wald and Kaplan-Markov. -/

section OrderedField

variable {K : Type} [Field K] [LinearOrder K] [IsStrictOrderedRing K]

/-- the probabilistic argument in one statement; the link `hev` (last reported p-value `≤ alpha` ⇒
statistic `≥ 1/alpha`) and the reduction `himp` to a prefix are free of weights -/
theorem ville_any_K (facQ : ℚ → ℚ → ℚ → ℚ) (u t : ℚ) (g : List ℚ → ℚ)
    (L : List (ℚ × K)) (hL : IsLawK u L)
    (hfacnn : ∀ (h : List ℚ) (a : ℚ), (∀ b ∈ h, 0 ≤ b ∧ b ≤ u) → 0 ≤ a → a ≤ u → 0 ≤ facQ t a (g h))
    (hfacsuper : ∀ h : List ℚ, (∀ b ∈ h, 0 ≤ b ∧ b ≤ u) →
      expLK L (fun v => ((facQ t v (g h) : ℚ) : K)) ≤ 1)
    (evAny evLast : List ℚ → Bool) (alpha : ℚ) (ha0 : 0 < alpha)
    (hev : ∀ h, (∀ b ∈ h, 0 ≤ b ∧ b ≤ u) → evLast h = true → 1 / alpha ≤ Tq facQ none t g h)
    (himp : ∀ h, (∀ b ∈ h, 0 ≤ b ∧ b ≤ u) → evAny h = true →
      ∃ k, 0 < k ∧ k ≤ h.length ∧ evLast (h.take k) = true)
    (n : Nat) : hitIIDK L evAny n [] ≤ (alpha : K) :=
  (hitIIDK_mono_prefix L hL.w_nonneg hL.w_sum evAny evLast (fun h => ∀ b ∈ h, 0 ≤ b ∧ b ≤ u)
    hL.range_step himp n [] nofun (noProperPrefix_nil _)).trans
    (ville_last_K facQ u t g L hL hfacnn hfacsuper evLast alpha ha0 hev n)

theorem C01_iid_alpha_any_K (cfg : Cfg) (hN : cfg.N = none) (g : List ℚ → ℚ)
    (estim : List ℚ → Except Err (List XR))
    (hest : ∀ h : List ℚ, h ≠ [] → estim h = .ok ((params g h).map XR.fin))
    (ht0 : 0 < cfg.t) (htu : cfg.t < cfg.u)
    (hat : 0 ≤ cfg.atol) (hat2 : cfg.atol < 1 / 2) (hrt : 0 ≤ cfg.rtol)
    (alpha : ℚ) (ha0 : 0 < alpha) (ha1 : alpha < 1)
    (L : List (ℚ × K)) (hL : IsLawK cfg.u L) (hmean : lawMeanK L ≤ (cfg.t : K)) (n : Nat) :
    hitIIDK L (reportedAny cfg estim alpha) n [] ≤ (alpha : K) :=
  ville_any_K (alphaQ cfg.u) cfg.u cfg.t g L hL
    (fun _ _ _ ha0' hau' => alphaQ_nonneg cfg.u _ _ _ ht0 htu ha0' hau')
    (fun h' _ => alphaQ_super_iid_K cfg.u cfg.t (g h') ht0 htu L hL hmean)
    (reportedAny cfg estim alpha) (reportedLast cfg estim alpha) alpha ha0
    (reported_implies_value_iid cfg hN g estim hest ht0 htu hat hat2 hrt alpha ha0 ha1)
    (fun h hr hany => any_prefix (prefixOK_alpha cfg g estim (fun h hne _ => hest h hne) hat hrt) alpha h
      (vNull_of_range cfg hN h hr) hany) n

theorem C01_iid_betting_any_K (cfg : Cfg) (hN : cfg.N = none) (g : List ℚ → ℚ)
    (bet : List ℚ → Except Err (List XR))
    (hest : ∀ h : List ℚ, h ≠ [] → bet h = .ok ((params g h).map XR.fin))
    (hg0 : ∀ h : List ℚ, 0 ≤ g h) (hg1 : ∀ h : List ℚ, g h * cfg.t ≤ 1)
    (ht0 : 0 < cfg.t) (htu : cfg.t < cfg.u)
    (hat : 0 ≤ cfg.atol) (hat2 : cfg.atol < 1 / 2) (hrt : 0 ≤ cfg.rtol)
    (alpha : ℚ) (ha0 : 0 < alpha) (ha1 : alpha < 1)
    (L : List (ℚ × K)) (hL : IsLawK cfg.u L) (hmean : lawMeanK L ≤ (cfg.t : K)) (n : Nat) :
    hitIIDK L (reportedAnyB cfg bet alpha) n [] ≤ (alpha : K) :=
  ville_any_K betQ cfg.u cfg.t g L hL
    (fun h' _ _ ha0' _ => betQ_nonneg _ _ _ ht0 ha0' (hg0 h') (hg1 h'))
    (fun h' _ => betQ_super_iid_K cfg.t (g h') (hg0 h') L hL hmean)
    (reportedAnyB cfg bet alpha) (reportedLastB cfg bet alpha) alpha ha0
    (reported_implies_value_iid_betting cfg hN g bet hest hg0 hg1 ht0 hat hrt alpha ha0 ha1)
    (fun h hr hany => any_prefix
      (prefixOK_betting cfg g bet (fun h hne _ => hest h hne) hg0
        (hN ▸ fun h' _ _ => hg1 h') hat hrt) alpha h
      (vNull_of_range cfg hN h hr) hany) n

theorem C01_iid_sprt_any_K (cfg : Cfg) (hN : cfg.N = none)
    (ht0 : 0 < cfg.t) (htu : cfg.t < cfg.u) (hte : cfg.t ≤ C11.sprtEta cfg) (heu : C11.sprtEta cfg ≤ cfg.u)
    (alpha : ℚ) (ha0 : 0 < alpha) (ha1 : alpha < 1)
    (L : List (ℚ × K)) (hL : IsLawK cfg.u L) (hmean : lawMeanK L ≤ (cfg.t : K)) (n : Nat) :
    hitIIDK L (reportedAnySprt cfg alpha) n [] ≤ (alpha : K) :=
  ville_any_K (alphaQ cfg.u) cfg.u cfg.t (sprtG cfg) L hL
    (fun _ _ _ ha0' hau' => alphaQ_nonneg cfg.u _ _ _ ht0 htu ha0' hau')
    (fun h' _ => alphaQ_super_iid_K cfg.u cfg.t (sprtG cfg h') ht0 htu L hL hmean)
    (reportedAnySprt cfg alpha) (reportedLastSprt cfg alpha) alpha ha0
    (sprt_reported_implies_value_iid cfg hN ht0 htu hte heu alpha ha0 ha1)
    (fun h hr hany => any_prefix (prefixOK_sprt cfg (fun hne => absurd hN hne) ht0 htu hte heu) alpha h
      ⟨hr, forall_of_none hN⟩ hany) n

theorem C01_iid_kw_any_K (cfg : Cfg) (ht : 0 < cfg.t) (hg0 : 0 ≤ cfg.kw.g.getD 0) (hg1 : cfg.kw.g.getD 0 ≤ 1)
    (alpha : ℚ) (ha0 : 0 < alpha) (ha1 : alpha < 1)
    {u : ℚ} (L : List (ℚ × K)) (hL : IsLawK u L) (hmean : lawMeanK L ≤ (cfg.t : K)) (n : Nat) :
    hitIIDK L (reportedAnyKW cfg alpha) n [] ≤ (alpha : K) := by
  have hl0 : 0 ≤ (1 - cfg.kw.g.getD 0) / cfg.t := div_nonneg (sub_nonneg.2 hg1) ht.le
  have hl1 : (1 - cfg.kw.g.getD 0) / cfg.t * cfg.t ≤ 1 := by
    rw [div_mul_cancel₀ _ ht.ne']; exact sub_le_self _ hg0
  exact ville_any_K betQ u cfg.t (fun _ => (1 - cfg.kw.g.getD 0) / cfg.t) L hL
    (fun _ _ _ ha0' _ => betQ_nonneg _ _ _ ht ha0' hl0 hl1)
    (fun _ _ => betQ_super_iid_K cfg.t _ hl0 L hL hmean)
    (reportedAnyKW cfg alpha) (reportedLastKW cfg alpha) alpha ha0
    (fun h hr hev => kw_reported_implies_value cfg ht hg0 hg1 h (fun a ha => (hr a ha).1) alpha ha0 ha1 hev)
    (fun h hr hany => any_prefix (prefixOK_kw cfg ht hg0 hg1) alpha h (fun a ha => (hr a ha).1) hany) n

theorem C01_iid_km_any_K (cfg : Cfg) (hg : 0 ≤ cfg.kw.g.getD 0) (htg : 0 < cfg.t + cfg.kw.g.getD 0)
    (alpha : ℚ) (ha0 : 0 < alpha) (ha1 : alpha < 1)
    {u : ℚ} (L : List (ℚ × K)) (hL : IsLawK u L) (hmean : lawMeanK L ≤ (cfg.t : K)) (n : Nat) :
    hitIIDK L (reportedAnyKM cfg alpha) n [] ≤ (alpha : K) :=
  ville_any_K (kmQ (cfg.t + cfg.kw.g.getD 0) (cfg.kw.g.getD 0)) u cfg.t (fun _ => 0) L hL
    (fun _ _ _ ha0' _ => div_nonneg (add_nonneg ha0' hg) htg.le)
    (fun _ _ => kmQ_super_iid_K cfg.t (cfg.kw.g.getD 0) htg L hL hmean)
    (reportedAnyKM cfg alpha) (reportedLastKM cfg alpha) alpha ha0
    (fun h hr hev => km_reported_implies_value cfg hg htg h (fun a ha => (hr a ha).1) alpha ha0 ha1 hev)
    (fun h hr hany => any_prefix (prefixOK_km cfg hg htg) alpha h (fun a ha => (hr a ha).1) hany) n

end OrderedField

theorem C01_iid_alpha_any (cfg : Cfg) (hN : cfg.N = none) (g : List ℚ → ℚ)
    (estim : List ℚ → Except Err (List XR))
    (hest : ∀ h : List ℚ, h ≠ [] → estim h = .ok ((params g h).map XR.fin))
    (ht0 : 0 < cfg.t) (htu : cfg.t < cfg.u)
    (hat : 0 ≤ cfg.atol) (hat2 : cfg.atol < 1 / 2) (hrt : 0 ≤ cfg.rtol)
    (alpha : ℚ) (ha0 : 0 < alpha) (ha1 : alpha < 1)
    (L : List (ℚ × ℚ)) (hL : IsLaw cfg.u L) (hmean : lawMean L ≤ cfg.t) (n : Nat) :
    hitIID L (reportedAny cfg estim alpha) n [] ≤ alpha :=
  hitIIDK_rat L _ n [] ▸
    C01_iid_alpha_any_K (K := ℚ) cfg hN g estim hest ht0 htu hat hat2 hrt alpha ha0 ha1 L hL.toK hmean n

theorem C01_iid_betting_any (cfg : Cfg) (hN : cfg.N = none) (g : List ℚ → ℚ)
    (bet : List ℚ → Except Err (List XR))
    (hest : ∀ h : List ℚ, h ≠ [] → bet h = .ok ((params g h).map XR.fin))
    (hg0 : ∀ h : List ℚ, 0 ≤ g h) (hg1 : ∀ h : List ℚ, g h * cfg.t ≤ 1)
    (ht0 : 0 < cfg.t) (htu : cfg.t < cfg.u)
    (hat : 0 ≤ cfg.atol) (hat2 : cfg.atol < 1 / 2) (hrt : 0 ≤ cfg.rtol)
    (alpha : ℚ) (ha0 : 0 < alpha) (ha1 : alpha < 1)
    (L : List (ℚ × ℚ)) (hL : IsLaw cfg.u L) (hmean : lawMean L ≤ cfg.t) (n : Nat) :
    hitIID L (reportedAnyB cfg bet alpha) n [] ≤ alpha :=
  hitIIDK_rat L _ n [] ▸
    C01_iid_betting_any_K (K := ℚ) cfg hN g bet hest hg0 hg1 ht0 htu hat hat2 hrt alpha ha0 ha1 L hL.toK hmean n

theorem C01_iid_sprt_any (cfg : Cfg) (hN : cfg.N = none)
    (ht0 : 0 < cfg.t) (htu : cfg.t < cfg.u) (hte : cfg.t ≤ C11.sprtEta cfg) (heu : C11.sprtEta cfg ≤ cfg.u)
    (alpha : ℚ) (ha0 : 0 < alpha) (ha1 : alpha < 1)
    (L : List (ℚ × ℚ)) (hL : IsLaw cfg.u L) (hmean : lawMean L ≤ cfg.t) (n : Nat) :
    hitIID L (reportedAnySprt cfg alpha) n [] ≤ alpha :=
  hitIIDK_rat L _ n [] ▸
    C01_iid_sprt_any_K (K := ℚ) cfg hN ht0 htu hte heu alpha ha0 ha1 L hL.toK hmean n

theorem C01_iid_kw_any (cfg : Cfg) (ht : 0 < cfg.t) (hg0 : 0 ≤ cfg.kw.g.getD 0) (hg1 : cfg.kw.g.getD 0 ≤ 1)
    (alpha : ℚ) (ha0 : 0 < alpha) (ha1 : alpha < 1)
    {u : ℚ} (L : List (ℚ × ℚ)) (hL : IsLaw u L) (hmean : lawMean L ≤ cfg.t) (n : Nat) :
    hitIID L (reportedAnyKW cfg alpha) n [] ≤ alpha :=
  hitIIDK_rat L _ n [] ▸ C01_iid_kw_any_K (K := ℚ) cfg ht hg0 hg1 alpha ha0 ha1 L hL.toK hmean n

theorem C01_iid_km_any (cfg : Cfg) (hg : 0 ≤ cfg.kw.g.getD 0) (htg : 0 < cfg.t + cfg.kw.g.getD 0)
    (alpha : ℚ) (ha0 : 0 < alpha) (ha1 : alpha < 1)
    {u : ℚ} (L : List (ℚ × ℚ)) (hL : IsLaw u L) (hmean : lawMean L ≤ cfg.t) (n : Nat) :
    hitIID L (reportedAnyKM cfg alpha) n [] ≤ alpha :=
  hitIIDK_rat L _ n [] ▸ C01_iid_km_any_K (K := ℚ) cfg hg htg alpha ha0 ha1 L hL.toK hmean n

/-! ### non-vacuity: the hypotheses can be met -/

example : hitEv (reportedAny { N := some 4, u := 1, t := 1/2, randomOrder := true, kw := { eta := some (3/4) } }
    (fixedAlternativeMean { N := some 4, u := 1, t := 1/2, randomOrder := true, kw := { eta := some (3/4) } })
    (1/20)) 4 [1, 0, 1/2, 0] [] ≤ 1/20 :=
  C01_finite_alpha_fixed_any _ 4 rfl (by decide +kernel) (by decide +kernel) (by decide +kernel)
    (by decide +kernel) (1/20) (by decide +kernel) (by decide +kernel) [1, 0, 1/2, 0] rfl
    (by decide +kernel) (by decide +kernel)

example : hitEv (reportedAnyB { N := some 4, u := 1, t := 1/2, randomOrder := false, kw := { lam := some (3/4) } }
    (fixedBet { N := some 4, u := 1, t := 1/2, randomOrder := false, kw := { lam := some (3/4) } })
    (1/20)) 4 [1, 0, 1/2, 0] [] ≤ 1/20 :=
  C01_finite_betting_fixed_any _ 4 rfl (3/4) rfl (by decide +kernel) (by decide +kernel) (by decide +kernel)
    (by decide +kernel) (by decide +kernel) (by decide +kernel) (1/20) (by decide +kernel) (by decide +kernel)
    [1, 0, 1/2, 0] rfl (by decide +kernel) (by decide +kernel)

example : hitEv (reportedAnyKK { N := some 4, u := 1, t := 1/2, randomOrder := true, kw := { g := some (1/10) } }
    (1/20)) 4 [1, 0, 1/2, 0] [] ≤ 1/20 :=
  C01_finite_kk_any _ 4 rfl (by decide +kernel) (1/20) (by decide +kernel) (by decide +kernel) [1, 0, 1/2, 0] rfl
    (by decide +kernel) (by decide +kernel)

example : hitEv (reportedAnySprt { N := some 4, u := 1, t := 1/2, randomOrder := true, kw := { eta := some (3/4) } }
    (1/20)) 4 [1, 0, 1/2, 0] [] ≤ 1/20 :=
  C01_finite_sprt_any _ 4 rfl rfl (by decide +kernel) (by decide +kernel) (by decide +kernel)
    (by decide +kernel) (1/20) (by decide +kernel) (by decide +kernel) [1, 0, 1/2, 0] rfl
    (by decide +kernel) (by decide +kernel)

example : hitIID [(0, 1/2), (1/2, 1/4), (1, 1/4)]
    (reportedAnyKM { N := none, u := 1, t := 1/2, randomOrder := true, kw := {} } (1/20)) 5 [] ≤ 1/20 :=
  C01_iid_km_any _ (by decide +kernel) (by decide +kernel) (1/20) (by decide +kernel) (by decide +kernel)
    (u := 1) _ ⟨by decide +kernel, by decide +kernel, by decide +kernel⟩ (by decide +kernel) 5

end Shangrla.C01
