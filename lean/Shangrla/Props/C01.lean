/-
  C01 — risk limit: the reported p-values are sequentially valid under every null population.

  Finite populations, sampling without replacement (this file): for every population of `n` values in
  `[0,u]` with mean at most `t`, every `alpha` in `(0,1)` and every predictable estimator / bet, the exact
  probability — over the uniformly random order in which the items are drawn — that the p-value
  reported by the literal model of `alpha_mart` / `betting_mart` after some number of draws is at most
  `alpha` does not exceed `alpha`.
-/
import Shangrla.Lemmas.NMVille
import Shangrla.Lemmas.NMKaplan
import Shangrla.Props.C11Mart

namespace Shangrla.C01
open Shangrla Shangrla.NM XR Shangrla.C12 Shangrla.Ville Shangrla.C11

theorem forall_of_none {N : Option Nat} (hN : N = none) {P : Nat → Prop} : ∀ k, N = some k → P k :=
  fun k hk => by rw [hN] at hk; cases hk

theorem forall_of_some {N : Option Nat} {n : Nat} (hN : N = some n) {P : Nat → Prop} (h : P n) :
    ∀ k, N = some k → P k :=
  fun k hk => by rw [hN] at hk; cases hk; exact h

/-- the bet implied by the (truncated) ALPHA estimate -/
def lamOf (u m q : ℚ) : ℚ := (min u (max q m) / m - 1) / (u - m)

theorem lamOf_nonneg (u m q : ℚ) (hm0 : 0 < m) (hmu : m < u) : 0 ≤ lamOf u m q :=
  div_nonneg (sub_nonneg.2 ((one_le_div hm0).2 (clip_range u m q hmu).1)) (sub_pos.2 hmu).le

theorem alphaQ_affine (u m a q : ℚ) (hm0 : 0 < m) (hmu : m < u) :
    alphaQ u m a q = 1 + lamOf u m q * (a - m) := by
  have hm : m ≠ 0 := hm0.ne'
  have hum : u - m ≠ 0 := (sub_pos.2 hmu).ne'
  have hu : u ≠ 0 := (hm0.trans hmu).ne'
  unfold alphaQ alphaFactorQ lamOf
  generalize min u (max q m) = c
  field_simp
  ring

theorem alphaQ_nonneg (u : ℚ) : ∀ m a q, 0 < m → m < u → 0 ≤ a → a ≤ u → 0 ≤ alphaQ u m a q := by
  intro m a q hm0 hmu ha0 hau
  obtain ⟨h1, h2⟩ := clip_range u m q hmu
  exact alphaFactorQ_nonneg u m a _ hm0 hmu ha0 hau (hm0.le.trans h1) h2

theorem alphaQ_super (u : ℚ) : ∀ m q (R : List ℚ), 0 < m → m < u → R ≠ [] →
    (∀ a ∈ R, 0 ≤ a ∧ a ≤ u) → R.sum ≤ m * R.length →
    avgIdx R.length (fun i => alphaQ u m (R.getD i 0) q) ≤ 1 := by
  intro m q R hm0 hmu hR _ hnull
  simp only [alphaQ_affine u m _ q hm0 hmu]
  exact superstep R hR (lamOf u m q) m (lamOf_nonneg u m q hm0 hmu) hnull

theorem betQ_nonneg (m a l : ℚ) (_hm0 : 0 < m) (ha0 : 0 ≤ a) (hl0 : 0 ≤ l) (hl1 : l * m ≤ 1) :
    0 ≤ betQ m a l := by
  unfold betQ
  linarith [mul_nonneg hl0 ha0]

theorem xsumFrom_eq (x : List ℚ) : ∀ S : ℚ, xsumFrom S x = S + x.sum := by
  induction x with
  | nil => intro S; simp [xsumFrom]
  | cons a x ih => intro S; simp [xsumFrom, ih]; ring

theorem xsum_eq (x : List ℚ) : xsum x = x.sum := by
  unfold xsum; rw [xsumFrom_eq]; ring

theorem forall₂_getLast {α β : Type} (R : α → β → Prop) :
    ∀ (l1 : List α) (l2 : List β), List.Forall₂ R l1 l2 → ∀ b, l2.getLast? = some b →
      ∃ a, l1.getLast? = some a ∧ R a b := by
  intro l1 l2 h b hb
  have h' := List.rel_reverse h
  rw [← List.head?_reverse] at hb ⊢
  generalize l1.reverse = r1 at h' ⊢
  generalize l2.reverse = r2 at h' hb
  cases h' with
  | nil => cases hb
  | cons hab _ => exact ⟨_, rfl, Option.some.inj hb ▸ hab⟩

theorem pOf_fin_le_alpha {q alpha : ℚ} (hq : 0 ≤ q) (ha0 : 0 < alpha) (ha1 : alpha < 1)
    (h : XR.le (pOf (.fin q)) (.fin alpha) = true) : 1 / alpha ≤ q := by
  rcases hq.eq_or_lt with rfl | hpos
  · rw [pOf_zero, XR.le_fin, decide_eq_true_eq] at h; linarith
  · rw [pOf_pos hpos, XR.le_fin, decide_eq_true_eq, min_le_iff] at h
    exact (one_div_le ha0 hpos).2 (h.resolve_left (not_le.2 ha1))

theorem maskTerm_le_alpha {u atol rtol m q alpha : ℚ} {T : XR} (hm : 0 ≤ m)
    (hat : 0 ≤ atol) (hrt : 0 ≤ rtol) (ha0 : 0 < alpha) (ha1 : alpha < 1)
    (hT : 0 < m → m < u → T = .fin q) (hq : 0 < m → m < u → 0 ≤ q)
    (hle : XR.le (pOf (maskTerm u atol rtol m T)) (.fin alpha) = true) :
    0 < m ∧ m < u ∧ 1 / alpha ≤ q := by
  -- outside `(0,u)` a non-negative null mean is masked to the term `1`, reported as p-value `1`
  rcases maskTermX_cases u atol rtol m T hat hrt with ⟨hneg, _⟩ | ⟨_, h1⟩ | ⟨hm0, hmu, hT'⟩
  · exact absurd hm hneg.not_ge
  · rw [maskTerm, h1] at hle
    exact absurd (pOf_fin_le_alpha zero_le_one ha0 ha1 hle) (one_lt_one_div ha0 ha1).not_ge
  · rw [maskTerm, hT', hT hm0 hmu] at hle
    exact ⟨hm0, hmu, pOf_fin_le_alpha (hq hm0 hmu) ha0 ha1 hle⟩

/-- `maskTerm_le_alpha`; `0 ≤ u` and `atol < 1/2` play no part -/
theorem mask_le_alpha (u atol rtol m q alpha : ℚ) (T : XR) (hm : 0 ≤ m) (hu : 0 ≤ u)
    (hat : 0 ≤ atol) (hat2 : atol < 1 / 2) (hrt : 0 ≤ rtol) (ha0 : 0 < alpha) (ha1 : alpha < 1)
    (hT : 0 < m → m < u → T = .fin q) (hq : 0 < m → m < u → 0 ≤ q)
    (hle : XR.le (pOf (maskTerm u atol rtol m T)) (.fin alpha) = true) :
    0 < m ∧ m < u ∧ 1 / alpha ≤ q :=
  maskTerm_le_alpha hm hat hrt ha0 ha1 hT hq hle

theorem muAfter_nonneg (u : ℚ) (n : Nat) (t : ℚ) (R l : List ℚ) (a : ℚ)
    (hI : Inv u n t R (l ++ [a])) : 0 ≤ muAfter (some n) t l := by
  have hs := hI.sum_le
  obtain ⟨h1, _, h3, _⟩ := hI
  rw [List.sum_append, List.sum_singleton] at hs
  rw [List.length_append, List.length_singleton] at h1
  have ha : 0 ≤ a := (h3 a (List.mem_append_right _ (List.mem_singleton_self a))).1
  have hl : ((l.length + 1 : Nat) : ℚ) ≤ n := Nat.cast_le.2 (h1 ▸ Nat.le_add_right _ _)
  show 0 ≤ ((n : ℚ) * t - l.sum) / ((n : ℚ) - ((l.length + 1 : Nat) : ℚ) + 1)
  exact div_nonneg (sub_nonneg.2 ((le_add_of_nonneg_right ha).trans hs))
    (add_nonneg (sub_nonneg.2 hl) zero_le_one)

theorem finishMart_getLast? (cfg : Cfg) (m : List ℚ) (Stot : ℚ) (terms : List XR) (pl : ℚ × XR)
    (hpl : (m.zip terms).getLast? = some pl)
    (hclamp : ∀ n, cfg.N = some n → ¬ (n : ℚ) * cfg.t < Stot) :
    (finishMart cfg (m, Stot, terms)).2.getLast?
      = some (pOf (maskTerm cfg.u cfg.atol cfg.rtol pl.1 pl.2)) := by
  have hc : ∀ L : List XR, clampLast cfg.N cfg.t Stot L = L := by
    intro L
    unfold clampLast
    cases hN : cfg.N with
    | none => rfl
    | some n => exact if_neg (hclamp n hN)
  simp only [finishMart, hc, pAndHist, List.getLast?_map, hpl, Option.map_some]
  rfl

/-- Link between the literal model and the defining product, for either martingale test and any
population size.  `terms` is the running product the code computes; `hag`: inside the zone it agrees with
the product of the rational factors `facQ`; `hclamp`: the final-sample clamp does not fire. -/
theorem mart_reported_value (cfg : Cfg) (facQ : ℚ → ℚ → ℚ → ℚ)
    (g : List ℚ → ℚ) (l : List ℚ) (a : ℚ) (terms : List XR)
    (hag : List.Forall₂ (Agree cfg.u) ((nullMeansFrom cfg.N cfg.t 0 1 (l ++ [a])).zip terms)
      (walkQ facQ cfg.N cfg.t 0 1 1 ((l ++ [a]).zip (params g (l ++ [a])))))
    (hfacnn : ∀ (h : List ℚ) (a : ℚ), (∀ b ∈ h, 0 ≤ b ∧ b ≤ cfg.u) →
      (∀ k, cfg.N = some k → h.length + 1 ≤ k) → 0 < muAfter cfg.N cfg.t h →
      muAfter cfg.N cfg.t h < cfg.u → 0 ≤ a → a ≤ cfg.u → 0 ≤ facQ (muAfter cfg.N cfg.t h) a (g h))
    (hr : ∀ b ∈ l ++ [a], 0 ≤ b ∧ b ≤ cfg.u)
    (hfit : ∀ k, cfg.N = some k → l.length + 1 ≤ k)
    (hclamp : ∀ k, cfg.N = some k → ¬ (k : ℚ) * cfg.t < xsum (l ++ [a]))
    (hm : 0 ≤ muAfter cfg.N cfg.t l)
    (hat : 0 ≤ cfg.atol) (hrt : 0 ≤ cfg.rtol)
    (alpha : ℚ) (ha0 : 0 < alpha) (ha1 : alpha < 1)
    (hev : (match (finishMart cfg (nullMeansFrom cfg.N cfg.t 0 1 (l ++ [a]), xsum (l ++ [a]),
        terms)).2.getLast? with
      | some p => XR.le p (.fin alpha)
      | none => false) = true) :
    0 < muAfter cfg.N cfg.t l ∧ muAfter cfg.N cfg.t l < cfg.u ∧
      1 / alpha ≤ Tq facQ cfg.N cfg.t g (l ++ [a]) := by
  obtain ⟨hTq, hlast⟩ := Tq_snoc facQ cfg.N cfg.t g l a
  -- `Agree` at the last entries: the code's last null mean `pl.1` is `muAfter … l`, and inside the zone its
  -- last term `pl.2` is the defining product
  obtain ⟨pl, hpl, hm_eq, hT_eq⟩ := forall₂_getLast _ _ _ hag _ hlast
  rw [finishMart_getLast? cfg _ _ _ pl hpl hclamp] at hev
  simp only at hm_eq hT_eq hev
  rw [hm_eq, ← hTq] at hT_eq
  rw [hm_eq] at hev
  have hroom : Room cfg.N (l.length + 1) 1 := by
    cases hN : cfg.N with
    | none => trivial
    | some k => exact Nat.succ_le_succ (hfit k hN)
  exact maskTerm_le_alpha hm hat hrt ha0 ha1 hT_eq
    (fun hm0 hmu => Tq_snoc_nonneg facQ cfg.u cfg.t g cfg.N hfacnn l a hr hfit
      ((Zst_iff_mu hroom).2 ⟨hm0, hmu⟩)) hev

/-- last entry of the reported history of `alpha_mart` on the sample `h` is `≤ alpha`
(`false` when the test raises, e.g. on the empty sample) -/
def reportedLast (cfg : Cfg) (estim : List ℚ → Except Err (List XR)) (alpha : ℚ) (h : List ℚ) : Bool :=
  match alphaMart cfg estim h with
  | .ok r => (match r.2.getLast? with
      | some p => XR.le p (.fin alpha)
      | none => false)
  | .error _ => false

/-- `alpha_mart` raises on the empty sample (the code takes `j[-1]`) -/
theorem alphaMart_nil (cfg : Cfg) (estim : List ℚ → Except Err (List XR)) :
    alphaMart cfg estim [] = .error .index := rfl

theorem reportedLast_nil (cfg : Cfg) (estim : List ℚ → Except Err (List XR)) (alpha : ℚ) :
    reportedLast cfg estim alpha [] = false := rfl

theorem alpha_reported_value (cfg : Cfg) (g : List ℚ → ℚ) (estim : List ℚ → Except Err (List XR))
    (l : List ℚ) (a : ℚ)
    (hest : estim (l ++ [a]) = .ok ((params g (l ++ [a])).map XR.fin))
    (hr : ∀ b ∈ l ++ [a], 0 ≤ b ∧ b ≤ cfg.u)
    (hfit : ∀ k, cfg.N = some k → l.length + 1 ≤ k)
    (hclamp : ∀ k, cfg.N = some k → ¬ (k : ℚ) * cfg.t < xsum (l ++ [a]))
    (hm : 0 ≤ muAfter cfg.N cfg.t l)
    (hat : 0 ≤ cfg.atol) (hrt : 0 ≤ cfg.rtol)
    (alpha : ℚ) (ha0 : 0 < alpha) (ha1 : alpha < 1)
    (hev : reportedLast cfg estim alpha (l ++ [a]) = true) :
    0 < muAfter cfg.N cfg.t l ∧ muAfter cfg.N cfg.t l < cfg.u ∧
      1 / alpha ≤ Tq (alphaQ cfg.u) cfg.N cfg.t g (l ++ [a]) := by
  have hfit' : ∀ k, cfg.N = some k → (l ++ [a]).length ≤ k := by
    simpa only [List.length_append, List.length_singleton] using hfit
  obtain ⟨terms, ht, hw⟩ := alphaTerms_eq cfg estim (l ++ [a]) _ (by simp) hfit' hest
    (by simp)
  unfold reportedLast alphaMart at hev
  rw [ht] at hev
  exact mart_reported_value cfg _ g l a terms
    (hw ▸ alpha_terms_def cfg (l ++ [a]) _ (length_params g _) hfit' hr)
    (fun _ _ _ _ hm0 hmu ha0' hau => alphaQ_nonneg cfg.u _ _ _ hm0 hmu ha0' hau)
    hr hfit hclamp hm hat hrt alpha ha0 ha1 hev

theorem inv_snoc_facts (cfg : Cfg) (n : Nat) (hN : cfg.N = some n) (R l : List ℚ) (a : ℚ)
    (hI : Inv cfg.u n cfg.t R (l ++ [a])) :
    (∀ k, cfg.N = some k → l.length + 1 ≤ k) ∧
      (∀ k, cfg.N = some k → ¬ (k : ℚ) * cfg.t < xsum (l ++ [a])) ∧ 0 ≤ muAfter cfg.N cfg.t l := by
  have hlen : l.length + 1 ≤ n := by
    have := hI.1; rw [List.length_append, List.length_singleton] at this; omega
  refine ⟨forall_of_some hN hlen, forall_of_some hN ?_, ?_⟩
  · rw [xsum_eq]; exact not_lt.2 hI.sum_le
  · rw [hN]; exact muAfter_nonneg cfg.u n cfg.t R l a hI

/-- the link between the model and the value process: on a history that can occur under the null, a last reported
p-value `≤ alpha` means the value process is `≥ 1/alpha` -/
theorem reported_implies_value (cfg : Cfg) (n : Nat) (hN : cfg.N = some n) (g : List ℚ → ℚ)
    (estim : List ℚ → Except Err (List XR))
    (hest : ∀ h : List ℚ, h ≠ [] → h.length ≤ n → estim h = .ok ((params g h).map XR.fin))
    (hu : 0 ≤ cfg.u) (hat : 0 ≤ cfg.atol) (hat2 : cfg.atol < 1 / 2) (hrt : 0 ≤ cfg.rtol)
    (alpha : ℚ) (ha0 : 0 < alpha) (ha1 : alpha < 1) :
    ∀ R h, Inv cfg.u n cfg.t R h → reportedLast cfg estim alpha h = true →
      1 / alpha ≤ valI (alphaQ cfg.u) cfg.u n cfg.t g h := by
  intro R h hI hev
  cases h using List.reverseRecOn with
  | nil => rw [reportedLast_nil] at hev; cases hev
  | append_singleton l a _ =>
    obtain ⟨hfit, hclamp, hm⟩ := inv_snoc_facts cfg n hN R l a hI
    have hlen := hfit n hN
    obtain ⟨hm0, hmu, hge⟩ := alpha_reported_value cfg g estim l a (hest _ (by simp) (by simpa using hlen))
      hI.2.2.1 hfit hclamp hm hat hrt alpha ha0 ha1 hev
    rw [hN] at hm0 hmu hge
    rwa [valI_snoc_of_zone _ _ _ _ _ l a hlen ⟨hm0, hmu⟩]

/-- **C01, ALPHA, sampling without replacement.**  For every population `pop` of `n` values in
`[0,u]` with total at most `n t` (mean at most `t`), every `alpha` in `(0,1)` and every estimator that
is *predictable* (the alternative applied to observation `j` is a function `g` of observations
`1..j-1`) and returns finite values, the exact probability — over the `n!` equally likely orders in
which the items are drawn without replacement — that the p-value reported by `alpha_mart` after some
number of draws is at most `alpha` is at most `alpha`. -/
theorem C01_finite_alpha (cfg : Cfg) (n : Nat) (hN : cfg.N = some n) (g : List ℚ → ℚ)
    (estim : List ℚ → Except Err (List XR))
    (hest : ∀ h : List ℚ, h ≠ [] → h.length ≤ n → estim h = .ok ((params g h).map XR.fin))
    (hu : 0 ≤ cfg.u) (hat : 0 ≤ cfg.atol) (hat2 : cfg.atol < 1 / 2) (hrt : 0 ≤ cfg.rtol)
    (alpha : ℚ) (ha0 : 0 < alpha) (ha1 : alpha < 1)
    (pop : List ℚ) (hlen : pop.length = n) (hrange : ∀ a ∈ pop, 0 ≤ a ∧ a ≤ cfg.u)
    (hnull : pop.sum ≤ (n : ℚ) * cfg.t) :
    hitEv (reportedLast cfg estim alpha) pop.length pop [] ≤ alpha := by
  have h := process_ville (alphaQ cfg.u) cfg.u n cfg.t g
    (fun h' a' _ _ hm0' hmu' ha0' hau' => alphaQ_nonneg cfg.u _ _ _ hm0' hmu' ha0' hau')
    (fun h' R' _ _ hm0' hmu' hR' hr' hs' => alphaQ_super cfg.u _ _ R' hm0' hmu' hR' hr' hs')
    (reportedLast cfg estim alpha) (1 / alpha) (one_div_pos.2 ha0)
    (reported_implies_value cfg n hN g estim hest hu hat hat2 hrt alpha ha0 ha1)
    pop (InvP.init hlen hrange hnull)
  rwa [one_div_one_div] at h

/-- last entry of the reported history of `betting_mart` on the sample `h` is `≤ alpha` -/
def reportedLastB (cfg : Cfg) (bet : List ℚ → Except Err (List XR)) (alpha : ℚ) (h : List ℚ) : Bool :=
  match bettingMart cfg bet h with
  | .ok r => (match r.2.getLast? with
      | some p => XR.le p (.fin alpha)
      | none => false)
  | .error _ => false

theorem bettingMart_nil (cfg : Cfg) (bet : List ℚ → Except Err (List XR)) :
    bettingMart cfg bet [] = .error .index := rfl

theorem reportedLastB_nil (cfg : Cfg) (bet : List ℚ → Except Err (List XR)) (alpha : ℚ) :
    reportedLastB cfg bet alpha [] = false := rfl

theorem betting_reported_value (cfg : Cfg) (g : List ℚ → ℚ) (bet : List ℚ → Except Err (List XR))
    (l : List ℚ) (a : ℚ)
    (hest : bet (l ++ [a]) = .ok ((params g (l ++ [a])).map XR.fin))
    (hg0 : ∀ h : List ℚ, 0 ≤ g h)
    (hg1 : ∀ h : List ℚ, 0 < muAfter cfg.N cfg.t h → muAfter cfg.N cfg.t h < cfg.u →
      g h * muAfter cfg.N cfg.t h ≤ 1)
    (hr : ∀ b ∈ l ++ [a], 0 ≤ b ∧ b ≤ cfg.u)
    (hfit : ∀ k, cfg.N = some k → l.length + 1 ≤ k)
    (hclamp : ∀ k, cfg.N = some k → ¬ (k : ℚ) * cfg.t < xsum (l ++ [a]))
    (hm : 0 ≤ muAfter cfg.N cfg.t l)
    (hat : 0 ≤ cfg.atol) (hrt : 0 ≤ cfg.rtol)
    (alpha : ℚ) (ha0 : 0 < alpha) (ha1 : alpha < 1)
    (hev : reportedLastB cfg bet alpha (l ++ [a]) = true) :
    0 < muAfter cfg.N cfg.t l ∧ muAfter cfg.N cfg.t l < cfg.u ∧
      1 / alpha ≤ Tq betQ cfg.N cfg.t g (l ++ [a]) := by
  have hfit' : ∀ k, cfg.N = some k → (l ++ [a]).length ≤ k := by
    simpa only [List.length_append, List.length_singleton] using hfit
  obtain ⟨terms, ht, hw⟩ := bettingTerms_eq cfg bet (l ++ [a]) _ (by simp) hfit' hest
    (by simp)
  unfold reportedLastB bettingMart at hev
  rw [ht] at hev
  exact mart_reported_value cfg _ g l a terms
    (hw ▸ betting_terms_def cfg (l ++ [a]) _ (length_params g _) hfit' hr)
    (fun h' _ _ _ hm0 hmu ha0' _ => betQ_nonneg _ _ _ hm0 ha0' (hg0 h') (hg1 h' hm0 hmu))
    hr hfit hclamp hm hat hrt alpha ha0 ha1 hev

theorem reported_implies_value_betting (cfg : Cfg) (n : Nat) (hN : cfg.N = some n) (g : List ℚ → ℚ)
    (bet : List ℚ → Except Err (List XR))
    (hest : ∀ h : List ℚ, h ≠ [] → h.length ≤ n → bet h = .ok ((params g h).map XR.fin))
    (hg0 : ∀ h : List ℚ, 0 ≤ g h)
    (hg1 : ∀ h : List ℚ, 0 < muAfter (some n) cfg.t h → muAfter (some n) cfg.t h < cfg.u →
      g h * muAfter (some n) cfg.t h ≤ 1)
    (hu : 0 ≤ cfg.u) (hat : 0 ≤ cfg.atol) (hat2 : cfg.atol < 1 / 2) (hrt : 0 ≤ cfg.rtol)
    (alpha : ℚ) (ha0 : 0 < alpha) (ha1 : alpha < 1) :
    ∀ R h, Inv cfg.u n cfg.t R h → reportedLastB cfg bet alpha h = true →
      1 / alpha ≤ valI betQ cfg.u n cfg.t g h := by
  intro R h hI hev
  cases h using List.reverseRecOn with
  | nil => rw [reportedLastB_nil] at hev; cases hev
  | append_singleton l a _ =>
    obtain ⟨hfit, hclamp, hm⟩ := inv_snoc_facts cfg n hN R l a hI
    have hlen := hfit n hN
    obtain ⟨hm0, hmu, hge⟩ := betting_reported_value cfg g bet l a (hest _ (by simp) (by simpa using hlen))
      hg0 (hN ▸ hg1) hI.2.2.1 hfit hclamp hm hat hrt alpha ha0 ha1 hev
    rw [hN] at hm0 hmu hge
    rwa [valI_snoc_of_zone _ _ _ _ _ l a hlen ⟨hm0, hmu⟩]

/-- **C01, betting martingale, sampling without replacement.**  As `C01_finite_alpha`, for every bet
that is *predictable* (the bet on observation `j` is a function `g` of observations `1..j-1`) with
`0 <= g <= 1/mu_j` wherever the null conditional mean `mu_j` is inside `(0,u)`, and the p-value
reported by `betting_mart`. -/
theorem C01_finite_betting (cfg : Cfg) (n : Nat) (hN : cfg.N = some n) (g : List ℚ → ℚ)
    (bet : List ℚ → Except Err (List XR))
    (hest : ∀ h : List ℚ, h ≠ [] → h.length ≤ n → bet h = .ok ((params g h).map XR.fin))
    (hg0 : ∀ h : List ℚ, 0 ≤ g h)
    (hg1 : ∀ h : List ℚ, 0 < muAfter (some n) cfg.t h → muAfter (some n) cfg.t h < cfg.u →
      g h * muAfter (some n) cfg.t h ≤ 1)
    (hu : 0 ≤ cfg.u) (hat : 0 ≤ cfg.atol) (hat2 : cfg.atol < 1 / 2) (hrt : 0 ≤ cfg.rtol)
    (alpha : ℚ) (ha0 : 0 < alpha) (ha1 : alpha < 1)
    (pop : List ℚ) (hlen : pop.length = n) (hrange : ∀ a ∈ pop, 0 ≤ a ∧ a ≤ cfg.u)
    (hnull : pop.sum ≤ (n : ℚ) * cfg.t) :
    hitEv (reportedLastB cfg bet alpha) pop.length pop [] ≤ alpha := by
  have h := process_ville betQ cfg.u n cfg.t g
    (fun h' a' _ _ hm0' hmu' ha0' hau' => betQ_nonneg _ _ _ hm0' ha0' (hg0 h') (hg1 h' hm0' hmu'))
    (fun h' R' _ _ hm0' hmu' hR' hr' hs' => superstep R' hR' (g h') _ (hg0 h') hs')
    (reportedLastB cfg bet alpha) (1 / alpha) (one_div_pos.2 ha0)
    (reported_implies_value_betting cfg n hN g bet hest hg0 hg1 hu hat hat2 hrt alpha ha0 ha1)
    pop (InvP.init hlen hrange hnull)
  rwa [one_div_one_div] at h

/-- the fixed alternative as a function of the earlier draws -/
def gFixedAlt (cfg : Cfg) (h : List ℚ) : ℚ :=
  let e := muAfter cfg.N (cfg.kw.eta.getD (cfg.u * (1 - eps))) h
  if cfg.u < e then cfg.u else e

theorem fixedAlt_params (cfg : Cfg) (h : List ℚ) (hne : h ≠ [])
    (hfit : ∀ k, cfg.N = some k → h.length ≤ k) :
    fixedAlternativeMean cfg h = .ok ((params (gFixedAlt cfg) h).map XR.fin) := by
  unfold fixedAlternativeMean
  simp only [sjm_ok cfg.N (cfg.kw.eta.getD (cfg.u * (1 - eps))) h hne hfit, bind, Except.bind, pure,
    Except.pure]
  rw [nullMeans_params]
  unfold params gFixedAlt
  simp only [List.map_map]
  -- entry by entry, the code's clip `if u < e then u else e` of the shifted mean is `gFixedAlt`
  rfl

/-- **C01 for ALPHA with the default (fixed-alternative) estimator**, without replacement -/
theorem C01_finite_alpha_fixed (cfg : Cfg) (n : Nat) (hN : cfg.N = some n)
    (hu : 0 ≤ cfg.u) (hat : 0 ≤ cfg.atol) (hat2 : cfg.atol < 1 / 2) (hrt : 0 ≤ cfg.rtol)
    (alpha : ℚ) (ha0 : 0 < alpha) (ha1 : alpha < 1)
    (pop : List ℚ) (hlen : pop.length = n) (hrange : ∀ a ∈ pop, 0 ≤ a ∧ a ≤ cfg.u)
    (hnull : pop.sum ≤ (n : ℚ) * cfg.t) :
    hitEv (reportedLast cfg (fixedAlternativeMean cfg) alpha) pop.length pop [] ≤ alpha :=
  C01_finite_alpha cfg n hN (gFixedAlt cfg) (fixedAlternativeMean cfg)
    (fun h hne hl => fixedAlt_params cfg h hne (forall_of_some hN hl))
    hu hat hat2 hrt alpha ha0 ha1 pop hlen hrange hnull

theorem map_const_params (c : ℚ) (x : List ℚ) :
    x.map (fun _ => XR.fin c) = (params (fun _ => c) x).map XR.fin := by
  unfold params
  rw [List.map_map]
  exact List.ext_getElem (by simp) fun i _ _ => by simp

/-- the constant the (repaired) `optimal_comparison` returns for every draw: `min(u, max(0, eta))` -/
def gOptimal (cfg : Cfg) : ℚ :=
  let p2 := cfg.kw.rateError2.getD (1 / 10000)       -- `getattr(self, "rate_error_2", 1e-4)`
  let eta := (1 - cfg.u * (1 - p2)) / (2 - 2 * cfg.u) + cfg.u * (1 - p2) - 1 / 2
  let e1 := if 0 < eta then eta else 0
  if e1 < cfg.u then e1 else cfg.u

/-- `hu1`: for `u = 1` the code raises `ZeroDivisionError` -/
theorem optimal_predictable (cfg : Cfg) (hu1 : 2 - 2 * cfg.u ≠ 0) (h : List ℚ) :
    optimalComparison cfg h = .ok ((params (fun _ => gOptimal cfg) h).map XR.fin) := by
  unfold optimalComparison
  rw [if_neg hu1]
  exact congrArg _ (map_const_params (gOptimal cfg) h)

/-- **C01 for ALPHA with the optimal-comparison estimator**, without replacement (`u ≠ 1`) -/
theorem C01_finite_alpha_optimal (cfg : Cfg) (n : Nat) (hN : cfg.N = some n) (hu1 : 2 - 2 * cfg.u ≠ 0)
    (hu : 0 ≤ cfg.u) (hat : 0 ≤ cfg.atol) (hat2 : cfg.atol < 1 / 2) (hrt : 0 ≤ cfg.rtol)
    (alpha : ℚ) (ha0 : 0 < alpha) (ha1 : alpha < 1)
    (pop : List ℚ) (hlen : pop.length = n) (hrange : ∀ a ∈ pop, 0 ≤ a ∧ a ≤ cfg.u)
    (hnull : pop.sum ≤ (n : ℚ) * cfg.t) :
    hitEv (reportedLast cfg (optimalComparison cfg) alpha) pop.length pop [] ≤ alpha :=
  C01_finite_alpha cfg n hN (fun _ => gOptimal cfg) (optimalComparison cfg)
    (fun h _ _ => optimal_predictable cfg hu1 h) hu hat hat2 hrt alpha ha0 ha1 pop hlen hrange hnull

theorem fixedBet_params (cfg : Cfg) (lam : ℚ) (hlam : cfg.kw.lam = some lam) (h : List ℚ) :
    fixedBet cfg h = .ok ((params (fun _ => lam) h).map XR.fin) := by
  unfold fixedBet
  rw [hlam]
  exact congrArg _ (map_const_params lam h)

/-- **C01 for the betting martingale with a fixed bet** `0 ≤ lam ≤ 1/u`, without replacement -/
theorem C01_finite_betting_fixed (cfg : Cfg) (n : Nat) (hN : cfg.N = some n) (lam : ℚ)
    (hlam : cfg.kw.lam = some lam) (hl0 : 0 ≤ lam) (hl1 : lam * cfg.u ≤ 1)
    (hu : 0 ≤ cfg.u) (hat : 0 ≤ cfg.atol) (hat2 : cfg.atol < 1 / 2) (hrt : 0 ≤ cfg.rtol)
    (alpha : ℚ) (ha0 : 0 < alpha) (ha1 : alpha < 1)
    (pop : List ℚ) (hlen : pop.length = n) (hrange : ∀ a ∈ pop, 0 ≤ a ∧ a ≤ cfg.u)
    (hnull : pop.sum ≤ (n : ℚ) * cfg.t) :
    hitEv (reportedLastB cfg (fixedBet cfg) alpha) pop.length pop [] ≤ alpha :=
  C01_finite_betting cfg n hN (fun _ => lam) (fixedBet cfg) (fun h _ _ => fixedBet_params cfg lam hlam h)
    (fun _ => hl0) (fun _ _ hmu => (mul_le_mul_of_nonneg_left hmu.le hl0).trans hl1) hu hat hat2 hrt
    alpha ha0 ha1 pop hlen hrange hnull

end Shangrla.C01
