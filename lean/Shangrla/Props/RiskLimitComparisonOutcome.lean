/-
  C02 ∘ C03 ∘ C06 ∘ C09 ∘ C01 for comparison audits of plurality / super-majority contests: if the reported
  outcome is wrong on the manual records, the comparison (or ONEAudit) audit is ever reported complete with
  probability at most the risk limit.

  `comparison_full_risk_limit` is stated on the literal overstatement model (`Model/Overstatement.lean`), whose
  manual records `Mvr` carry the assorter value `a = A(mvr)` as a parameter, and its hypothesis is "the assorter mean
  over the manual records is at most 1/2".  C02 (`Model/Assorter.lean`, `Model/Vote.lean`) is about the assorter
  applied to a ballot `b : Vote.CVR` (votes, phantom flag) and relates its sum to counts of marks.  This file joins
  the two models (`mvrOf`) and says what "false on the manual records" means in marks on the true ballots.
-/
import Shangrla.Props.RiskLimitComparisonFull
import Shangrla.Props.RiskLimitPlurality

namespace Shangrla.RiskLimit
open Shangrla Shangrla.Ville Shangrla.Status Shangrla.AuditLoop Shangrla.Overstatement Shangrla.Vote

/-! ### the bridge between the two models -/

/-- **The overstatement model's manual record of a ballot.**  `Assorter.overstatement(mvr, cvr, use_style)`
(Audit.py L2578-2585) reads exactly three things off the manual record `mvr` (a `CVR` object):

* `hasContest` = `mvr.has_contest(self.contest.id)` — `Vote.CVR.hasContest b contest` (L207-208);
* `phantom`    = `mvr.phantom`                       — `Vote.CVR.phantom b`;
* `a`          = `self.assort(mvr)`                  — the assertion's assorter applied to the ballot, here
  `assort b` with `assort = Assorter.plurality contest w l` or `Assorter.supermajority contest w cands f`
  (the lambdas of `make_plurality_assertions` / `make_supermajority_assertion`). -/
def mvrOf (assort : CVR → ℚ) (contest : String) (b : CVR) : Mvr :=
  { hasContest := b.hasContest contest, phantom := b.phantom, a := assort b }

/-- The CVR side, when the machine record is itself given as a `Vote.CVR`: `has_contest`, `phantom` and
`self.assort(cvr)` are read off the record; `pool`, `tally_pool` and `sample_num` are attributes the `Vote` model
does not carry.  The risk-limit theorems do not use this: they hold for any `Cvr`s with `a ∈ [0,u]` — an audit must
work whatever the machine reported.  It is used in the example, to let the CVRs "say" who won. -/
def cvrOf (assort : CVR → ℚ) (contest : String) (pool : Bool) (tallyPool : PoolKey) (sampleNum : Nat)
    (r : CVR) : Cvr :=
  { hasContest := r.hasContest contest, phantom := r.phantom, pool := pool, tallyPool := tallyPool,
    a := assort r, sampleNum := sampleNum }

/-- the manual record is scored 0 instead of `A(mvr)` (`mvr_assort`, L2578-2585): the card could not be found
(`mvr.phantom`) or, under style-based sampling, its manual record does not list the contest -/
def zeroed (useStyle : Bool) (contest : String) (b : CVR) : Bool :=
  b.phantom || (useStyle && !b.hasContest contest)

theorem mvrAssort_mvrOf (useStyle : Bool) (assort : CVR → ℚ) (contest : String) (b : CVR) :
    mvrAssort useStyle (mvrOf assort contest b) = if zeroed useStyle contest b then 0 else assort b := rfl

/-- the manual records (true ballots) of the cards under audit: those whose CVR passes the style filter -/
def audBallots {α : Type} (useStyle : Bool) (ballot : α → CVR) (cv : α → Cvr) (cards : List α) : List CVR :=
  (cards.filter (fun x => passes useStyle (cv x))).map ballot

/-- the found ballots of the cards under audit: the card was found and (under style) its manual record lists the
contest — the cards whose manual record enters the overstatement with its own assorter value -/
def foundBallots {α : Type} (useStyle : Bool) (contest : String) (ballot : α → CVR) (cv : α → Cvr)
    (cards : List α) : List CVR :=
  (audBallots useStyle ballot cv cards).filter (fun b => !zeroed useStyle contest b)

/-- the number of cards under audit whose manual record is scored 0 (unfindable, or under style lacking the
contest) -/
def lostCount {α : Type} (useStyle : Bool) (contest : String) (ballot : α → CVR) (cv : α → Cvr)
    (cards : List α) : Nat :=
  (audBallots useStyle ballot cv cards).countP (zeroed useStyle contest)

/-! ### `C03.mvrA` / `C03.aud` on a population of cards -/

theorem mvrA_cards {α : Type} (useStyle : Bool) (mv : α → Mvr) (cv : α → Cvr) (cards : List α) :
    C03.mvrA useStyle (cards.map mv) (cards.map cv)
      = (cards.filter (fun x => passes useStyle (cv x))).map (fun x => mvrAssort useStyle (mv x)) := by
  unfold C03.mvrA C03.audPairs
  rw [List.zip_map', List.filter_map, List.map_map]
  rfl

theorem aud_cards {α : Type} (useStyle : Bool) (cv : α → Cvr) (cards : List α) :
    C03.aud useStyle (cards.map cv) = (cards.filter (fun x => passes useStyle (cv x))).map cv := by
  unfold C03.aud
  rw [List.filter_map]
  rfl

theorem mvrA_ballots {α : Type} (useStyle : Bool) (assort : CVR → ℚ) (contest : String) (ballot : α → CVR)
    (cv : α → Cvr) (cards : List α) :
    C03.mvrA useStyle (cards.map (fun x => mvrOf assort contest (ballot x))) (cards.map cv)
      = (audBallots useStyle ballot cv cards).map (fun b => if zeroed useStyle contest b then 0 else assort b) := by
  rw [mvrA_cards]
  unfold audBallots
  rw [List.map_map]
  rfl

theorem sum_zeroed {β : Type} (z : β → Bool) (A : β → ℚ) : ∀ L : List β,
    (L.map (fun b => if z b then 0 else A b)).sum = ((L.filter (fun b => !z b)).map A).sum
  | [] => rfl
  | b :: L => by
    have ih := sum_zeroed z A L
    cases hb : z b <;> simp [hb, ih]

theorem length_zeroed {β : Type} (z : β → Bool) (L : List β) :
    L.length = (L.filter (fun b => !z b)).length + L.countP z := by
  rw [← List.countP_eq_length_filter, add_comm]
  simpa using List.length_eq_countP_add_countP z (l := L)

theorem sum_mvrA_ballots {α : Type} (useStyle : Bool) (assort : CVR → ℚ) (contest : String) (ballot : α → CVR)
    (cv : α → Cvr) (cards : List α) :
    (C03.mvrA useStyle (cards.map (fun x => mvrOf assort contest (ballot x))) (cards.map cv)).sum
      = ((foundBallots useStyle contest ballot cv cards).map assort).sum := by
  rw [mvrA_ballots, sum_zeroed]
  rfl

theorem length_mvrA_ballots {α : Type} (useStyle : Bool) (assort : CVR → ℚ) (contest : String) (ballot : α → CVR)
    (cv : α → Cvr) (cards : List α) :
    (C03.mvrA useStyle (cards.map (fun x => mvrOf assort contest (ballot x))) (cards.map cv)).length
      = (foundBallots useStyle contest ballot cv cards).length + lostCount useStyle contest ballot cv cards := by
  rw [mvrA_ballots, List.length_map, length_zeroed (zeroed useStyle contest)]
  rfl

/-! ### a wrong outcome makes the assertion false on the manual records

The direction is conservative.  A record scored 0 is scored like a vote for the loser alone (`plurality = 0`), which
is worse for the reported winner than the non-vote 1/2 an absent record "really" is.  So the assertion "`w` beat `l`"
is false on the manual records — `Σ mvrAssort ≤ n/2` — exactly when, over the found ballots, `w` has at most as many
marks as `l` plus the number of records scored 0.  The plain hypothesis "on the found ballots `l` has at least as
many marks as `w`" (`marks w F ≤ marks l F`) is stronger than needed, and is what "the reported outcome is wrong on
the cards that could be examined" gives; whatever marks an unfindable card or (under style) a record lacking the
contest may carry are irrelevant: the code does not look at them. -/

theorem plurality_comparison_null_iff {α : Type} (useStyle : Bool) (contest w l : String) (ballot : α → CVR)
    (cv : α → Cvr) (cards : List α) :
    (C03.mvrA useStyle (cards.map (fun x => mvrOf (Assorter.plurality contest w l) contest (ballot x)))
        (cards.map cv)).sum
      ≤ ((C03.mvrA useStyle (cards.map (fun x => mvrOf (Assorter.plurality contest w l) contest (ballot x)))
        (cards.map cv)).length : ℚ) / 2
    ↔ C02.marks contest w (foundBallots useStyle contest ballot cv cards)
        ≤ C02.marks contest l (foundBallots useStyle contest ballot cv cards)
          + lostCount useStyle contest ballot cv cards := by
  rw [sum_mvrA_ballots, length_mvrA_ballots, C02.sum_plurality, Nat.cast_add, half_le_iff, sub_le_iff_le_add,
    add_comm, ← Nat.cast_add, Nat.cast_le]

theorem plurality_comparison_null {α : Type} (useStyle : Bool) (contest w l : String) (ballot : α → CVR)
    (cv : α → Cvr) (cards : List α)
    (hwrong : C02.marks contest w (foundBallots useStyle contest ballot cv cards)
        ≤ C02.marks contest l (foundBallots useStyle contest ballot cv cards)
          + lostCount useStyle contest ballot cv cards) :
    (C03.mvrA useStyle (cards.map (fun x => mvrOf (Assorter.plurality contest w l) contest (ballot x)))
        (cards.map cv)).sum
      ≤ ((C03.mvrA useStyle (cards.map (fun x => mvrOf (Assorter.plurality contest w l) contest (ballot x)))
        (cards.map cv)).length : ℚ) / 2 :=
  (plurality_comparison_null_iff useStyle contest w l ballot cv cards).2 hwrong

/-- for the super-majority assertion, every record scored 0 counts as one more valid vote (for someone else) -/
theorem supermajority_comparison_null_iff {α : Type} (useStyle : Bool) (contest w : String) (cands : List String)
    (f : ℚ) (hf0 : 0 < f) (ballot : α → CVR) (cv : α → Cvr) (cards : List α) :
    (C03.mvrA useStyle (cards.map (fun x => mvrOf (Assorter.supermajority contest w cands f) contest (ballot x)))
        (cards.map cv)).sum
      ≤ ((C03.mvrA useStyle (cards.map (fun x => mvrOf (Assorter.supermajority contest w cands f) contest (ballot x)))
        (cards.map cv)).length : ℚ) / 2
    ↔ (C02.wvalid contest cands w (foundBallots useStyle contest ballot cv cards) : ℚ)
        ≤ f * ((C02.valid contest cands (foundBallots useStyle contest ballot cv cards) : ℚ)
          + (lostCount useStyle contest ballot cv cards : ℚ)) := by
  rw [sum_mvrA_ballots, length_mvrA_ballots, C02.sum_supermajority_weighted, Nat.cast_add, half_le_iff,
    sub_le_iff_le_add, div_le_iff₀ hf0, add_comm, mul_comm]

theorem supermajority_comparison_null {α : Type} (useStyle : Bool) (contest w : String) (cands : List String)
    (f : ℚ) (hf0 : 0 < f) (ballot : α → CVR) (cv : α → Cvr) (cards : List α)
    (hwrong : (C02.wvalid contest cands w (foundBallots useStyle contest ballot cv cards) : ℚ)
        ≤ f * ((C02.valid contest cands (foundBallots useStyle contest ballot cv cards) : ℚ)
          + (lostCount useStyle contest ballot cv cards : ℚ))) :
    (C03.mvrA useStyle (cards.map (fun x => mvrOf (Assorter.supermajority contest w cands f) contest (ballot x)))
        (cards.map cv)).sum
      ≤ ((C03.mvrA useStyle (cards.map (fun x => mvrOf (Assorter.supermajority contest w cands f) contest (ballot x)))
        (cards.map cv)).length : ℚ) / 2 :=
  (supermajority_comparison_null_iff useStyle contest w cands f hf0 ballot cv cards).2 hwrong

/-! ### the marks on the found ballots are the marks on the cards that could be examined

A manual record that does not list the contest shows no mark and is no valid vote, so the counts over the found
ballots are the counts over all the cards under audit that could be found (`phantom = false`), style or not: the
hypothesis `hwrong` of the risk-limit theorems can be read on either list. -/

theorem found_congr {γ : Type} {contest : String} {F : List CVR → γ}
    (hF : ∀ A : List CVR, F (A.filter (fun b => b.hasContest contest)) = F A) {useStyle : Bool} {A : List CVR} :
    F (A.filter (fun b => !zeroed useStyle contest b)) = F (A.filter (fun b => !b.phantom)) := by
  cases useStyle
  · simp [zeroed]
  · rw [← hF (A.filter fun b => !b.phantom), List.filter_filter]
    congr 1
    apply List.filter_congr
    intro b _
    unfold zeroed
    cases b.phantom <;> cases b.hasContest contest <;> rfl

theorem marks_foundBallots {α : Type} (useStyle : Bool) (contest x : String) (ballot : α → CVR) (cv : α → Cvr)
    (cards : List α) :
    C02.marks contest x (foundBallots useStyle contest ballot cv cards)
      = C02.marks contest x ((audBallots useStyle ballot cv cards).filter (fun b => !b.phantom)) :=
  found_congr (C02.marks_filter_hasContest contest x)

theorem valid_foundBallots {α : Type} (useStyle : Bool) (contest : String) (cands : List String) (ballot : α → CVR)
    (cv : α → Cvr) (cards : List α) :
    C02.valid contest cands (foundBallots useStyle contest ballot cv cards)
      = C02.valid contest cands ((audBallots useStyle ballot cv cards).filter (fun b => !b.phantom)) :=
  found_congr (C02.valid_filter_hasContest contest cands)

theorem wvalid_foundBallots {α : Type} (useStyle : Bool) (contest : String) (cands : List String) (w : String)
    (ballot : α → CVR) (cv : α → Cvr) (cards : List α) :
    C02.wvalid contest cands w (foundBallots useStyle contest ballot cv cards)
      = C02.wvalid contest cands w ((audBallots useStyle ballot cv cards).filter (fun b => !b.phantom)) :=
  found_congr (C02.wvalid_filter_hasContest contest cands w)

/-! ### `comparison_full_risk_limit` for cards of any type -/

/-- A card `x` gives the manual record `mv x` and the CVR `cv x` this assertion's overstatement reads; the assertion's
datum for a card is `cardDatum … (mv x, cv x)`.  The data functions of all the other assertions and contests are
arbitrary functions of the card — they may read anything a card carries, not only this assertion's `Mvr × Cvr`.
Hypotheses: those of `comparison_full_risk_limit` for `mvrs = cards.map mv`, `cvrs = cards.map cv`. -/
theorem comparison_full_risk_limit_cards {α : Type} (mv : α → Mvr) (cv : α → Cvr) (cards : List α)
    (ty : AuditType) (hty : ty = .cardComparison ∨ ty = .oneaudit)
    (useStyle : Bool) (u : ℚ) (means : Option Means)
    (hm : MeansFrom useStyle (cards.map cv) means) (hu : 0 < u)
    (hcv : ∀ c ∈ cards.map cv, 0 ≤ c.a ∧ c.a ≤ u) (hmv : ∀ m ∈ cards.map mv, 0 ≤ m.a ∧ m.a ≤ u)
    (hne : C03.aud useStyle (cards.map cv) ≠ [])
    (hph : ∀ c ∈ C03.aud useStyle (cards.map cv), c.phantom = true → usesPool means c = false → c.a = 1 / 2)
    (margin U : XR) (hmargin : setMarginFromCvrs 1 useStyle ty u (cards.map cv) = .ok (margin, U))
    (data : String → String → α → Option ℚ) (T : String → String → SeqTest) (s : State)
    (c : Contest) (hc : c ∈ s) (a : Assertion) (ha : a ∈ c.assertions)
    (hdata : data c.id a.name = fun x => cardDatum ty useStyle margin u means (mv x, cv x))
    (sqrtF : ℚ → ℚ) (cfg : NM.Cfg) (test : NM.Test)
    (hN : cfg.N = some (C03.aud useStyle (cards.map cv)).length) (ht : cfg.t = 1 / 2) (hcu : XR.fin cfg.u = U)
    (hT : T c.id a.name = NM.run sqrtF cfg test)
    (hdoc : C01.DocumentedFinite sqrtF cfg test)
    (hr0 : 0 < c.riskLimit) (hr1 : c.riskLimit < 1)
    (hfalse : (C03.mvrA useStyle (cards.map mv) (cards.map cv)).sum
      ≤ ((C03.mvrA useStyle (cards.map mv) (cards.map cv)).length : ℚ) / 2) :
    hitG (auditCompleteOpt data T s) cards.length cards [] ≤ c.riskLimit := by
  have hD : cards.filterMap (data c.id a.name)
      = ((cards.map mv).zip (cards.map cv)).filterMap (cardDatum ty useStyle margin u means) := by
    rw [hdata, List.zip_map', List.filterMap_map]
    rfl
  obtain ⟨hr, hl, hn⟩ := comparison_full_data ty hty useStyle u (cards.map cv) (cards.map mv) means hm (by simp) hu
    hcv hmv hne hph margin U hmargin cfg.u hcu
  apply audit_risk_limit_style_run data T s c hc a ha cards sqrtF cfg test _ hT hdoc hr0 hr1
  · rw [hD]; exact hr
  · rw [hD, ht]; exact hn hfalse
  · rw [hD, hl]; exact hN

/-! ### plurality and super-majority contests -/

/-- **Risk limit of a comparison / ONEAudit audit of a plurality contest: a wrong reported outcome.**

* `cards : List α` — the population; a card `x` carries its manual record `ballot x : Vote.CVR` (what a full hand
  count would see: votes, phantom flag = the card could not be found) and the CVR `cv x` as the overstatement model
  reads it — any `Cvr`s: phantoms, pooled or not, any pool labelling, any reported assorter values in `[0,1]`
  (`hcv`), whatever they say about who won.
* assertion `a` of contest `c` is "`w` beat `l`" in `contest`: its datum for a card is what `mvrs_to_data` returns
  for the manual record `mvrOf (plurality contest w l) contest (ballot x)` and the CVR `cv x` (`hdata`), assorter
  upper bound 1; `ty`, `useStyle`, `means`, `hm`, `hne`, `hph`, `margin`, `U`, `hmargin`, the test (`N` = number of
  cards under audit, `t = 1/2`, `u = U`, any shipped `NonnegMean` test in its documented range) are as in
  `comparison_full_risk_limit`.
* `hwrong`: on the manual records the reported outcome is wrong (or a tie): over the found ballots of the cards under
  audit `w` has at most as many marks as `l`, an unfindable card and (under style) a record lacking the contest
  counting as one more mark for `l`.  In particular `marks w F ≤ marks l F` suffices
  (`plurality_comparison_risk_limit_found`); the marks over the found ballots are the marks over all the cards under
  audit that could be found (`marks_foundBallots`: a record lacking the contest shows no mark).

Then the probability, over all orders in which the cards are drawn, that the audit is ever reported complete is at
most the contest's risk limit — whatever the CVRs say, whatever the other assertions, contests and tests are. -/
theorem plurality_comparison_risk_limit {α : Type} (ballot : α → CVR) (cv : α → Cvr) (cards : List α)
    (contest w l : String)
    (ty : AuditType) (hty : ty = .cardComparison ∨ ty = .oneaudit)
    (useStyle : Bool) (means : Option Means)
    (hm : MeansFrom useStyle (cards.map cv) means)
    (hcv : ∀ c ∈ cards.map cv, 0 ≤ c.a ∧ c.a ≤ 1)
    (hne : C03.aud useStyle (cards.map cv) ≠ [])
    (hph : ∀ c ∈ C03.aud useStyle (cards.map cv), c.phantom = true → usesPool means c = false → c.a = 1 / 2)
    (margin U : XR) (hmargin : setMarginFromCvrs 1 useStyle ty 1 (cards.map cv) = .ok (margin, U))
    (data : String → String → α → Option ℚ) (T : String → String → SeqTest) (s : State)
    (c : Contest) (hc : c ∈ s) (a : Assertion) (ha : a ∈ c.assertions)
    (hdata : data c.id a.name = fun x =>
      cardDatum ty useStyle margin 1 means (mvrOf (Assorter.plurality contest w l) contest (ballot x), cv x))
    (sqrtF : ℚ → ℚ) (cfg : NM.Cfg) (test : NM.Test)
    (hN : cfg.N = some (C03.aud useStyle (cards.map cv)).length) (ht : cfg.t = 1 / 2) (hcu : XR.fin cfg.u = U)
    (hT : T c.id a.name = NM.run sqrtF cfg test)
    (hdoc : C01.DocumentedFinite sqrtF cfg test)
    (hr0 : 0 < c.riskLimit) (hr1 : c.riskLimit < 1)
    (hwrong : C02.marks contest w (foundBallots useStyle contest ballot cv cards)
        ≤ C02.marks contest l (foundBallots useStyle contest ballot cv cards)
          + lostCount useStyle contest ballot cv cards) :
    hitG (auditCompleteOpt data T s) cards.length cards [] ≤ c.riskLimit :=
  comparison_full_risk_limit_cards (fun x => mvrOf (Assorter.plurality contest w l) contest (ballot x)) cv cards
    ty hty useStyle 1 means hm one_pos hcv
    (List.forall_mem_map.2 fun x _ => plurality_range contest w l (ballot x))
    hne hph margin U hmargin data T s c hc a ha hdata sqrtF cfg test hN ht hcu hT hdoc hr0 hr1
    (plurality_comparison_null useStyle contest w l ballot cv cards hwrong)

/-- the same with the plain hypothesis: on the found ballots of the cards under audit the reported loser `l` has at
least as many marks as the reported winner `w` -/
theorem plurality_comparison_risk_limit_found {α : Type} (ballot : α → CVR) (cv : α → Cvr) (cards : List α)
    (contest w l : String)
    (ty : AuditType) (hty : ty = .cardComparison ∨ ty = .oneaudit)
    (useStyle : Bool) (means : Option Means)
    (hm : MeansFrom useStyle (cards.map cv) means)
    (hcv : ∀ c ∈ cards.map cv, 0 ≤ c.a ∧ c.a ≤ 1)
    (hne : C03.aud useStyle (cards.map cv) ≠ [])
    (hph : ∀ c ∈ C03.aud useStyle (cards.map cv), c.phantom = true → usesPool means c = false → c.a = 1 / 2)
    (margin U : XR) (hmargin : setMarginFromCvrs 1 useStyle ty 1 (cards.map cv) = .ok (margin, U))
    (data : String → String → α → Option ℚ) (T : String → String → SeqTest) (s : State)
    (c : Contest) (hc : c ∈ s) (a : Assertion) (ha : a ∈ c.assertions)
    (hdata : data c.id a.name = fun x =>
      cardDatum ty useStyle margin 1 means (mvrOf (Assorter.plurality contest w l) contest (ballot x), cv x))
    (sqrtF : ℚ → ℚ) (cfg : NM.Cfg) (test : NM.Test)
    (hN : cfg.N = some (C03.aud useStyle (cards.map cv)).length) (ht : cfg.t = 1 / 2) (hcu : XR.fin cfg.u = U)
    (hT : T c.id a.name = NM.run sqrtF cfg test)
    (hdoc : C01.DocumentedFinite sqrtF cfg test)
    (hr0 : 0 < c.riskLimit) (hr1 : c.riskLimit < 1)
    (hwrong : C02.marks contest w (foundBallots useStyle contest ballot cv cards)
        ≤ C02.marks contest l (foundBallots useStyle contest ballot cv cards)) :
    hitG (auditCompleteOpt data T s) cards.length cards [] ≤ c.riskLimit :=
  plurality_comparison_risk_limit ballot cv cards contest w l ty hty useStyle means hm hcv hne hph margin U hmargin
    data T s c hc a ha hdata sqrtF cfg test hN ht hcu hT hdoc hr0 hr1 (Nat.le_add_right_of_le hwrong)

/-- **Risk limit of a comparison / ONEAudit audit of a super-majority contest** (`0 < f < 1`, assorter upper bound
`superUpper f = 1/(2f)`): as `plurality_comparison_risk_limit`, with `hwrong`: over the found ballots of the cards
under audit the reported winner's valid votes are at most the share `f` of the valid votes, an unfindable card and
(under style) a record lacking the contest counting as one more valid vote for someone else.  In particular
`wvalid F ≤ f · valid F` suffices (`supermajority_comparison_risk_limit_found`). -/
theorem supermajority_comparison_risk_limit {α : Type} (ballot : α → CVR) (cv : α → Cvr) (cards : List α)
    (contest w : String) (cands : List String) (f : ℚ) (hf0 : 0 < f) (hf1 : f < 1)
    (ty : AuditType) (hty : ty = .cardComparison ∨ ty = .oneaudit)
    (useStyle : Bool) (means : Option Means)
    (hm : MeansFrom useStyle (cards.map cv) means)
    (hcv : ∀ c ∈ cards.map cv, 0 ≤ c.a ∧ c.a ≤ Assorter.superUpper f)
    (hne : C03.aud useStyle (cards.map cv) ≠ [])
    (hph : ∀ c ∈ C03.aud useStyle (cards.map cv), c.phantom = true → usesPool means c = false → c.a = 1 / 2)
    (margin U : XR)
    (hmargin : setMarginFromCvrs 1 useStyle ty (Assorter.superUpper f) (cards.map cv) = .ok (margin, U))
    (data : String → String → α → Option ℚ) (T : String → String → SeqTest) (s : State)
    (c : Contest) (hc : c ∈ s) (a : Assertion) (ha : a ∈ c.assertions)
    (hdata : data c.id a.name = fun x =>
      cardDatum ty useStyle margin (Assorter.superUpper f) means
        (mvrOf (Assorter.supermajority contest w cands f) contest (ballot x), cv x))
    (sqrtF : ℚ → ℚ) (cfg : NM.Cfg) (test : NM.Test)
    (hN : cfg.N = some (C03.aud useStyle (cards.map cv)).length) (ht : cfg.t = 1 / 2) (hcu : XR.fin cfg.u = U)
    (hT : T c.id a.name = NM.run sqrtF cfg test)
    (hdoc : C01.DocumentedFinite sqrtF cfg test)
    (hr0 : 0 < c.riskLimit) (hr1 : c.riskLimit < 1)
    (hwrong : (C02.wvalid contest cands w (foundBallots useStyle contest ballot cv cards) : ℚ)
        ≤ f * ((C02.valid contest cands (foundBallots useStyle contest ballot cv cards) : ℚ)
          + (lostCount useStyle contest ballot cv cards : ℚ))) :
    hitG (auditCompleteOpt data T s) cards.length cards [] ≤ c.riskLimit :=
  comparison_full_risk_limit_cards (fun x => mvrOf (Assorter.supermajority contest w cands f) contest (ballot x))
    cv cards ty hty useStyle (Assorter.superUpper f) means hm
    (by unfold Assorter.superUpper; positivity) hcv
    (List.forall_mem_map.2 fun x _ => C02.assort_range_super contest w cands f hf0 hf1 (ballot x))
    hne hph margin U hmargin data T s c hc a ha hdata sqrtF cfg test hN ht hcu hT hdoc hr0 hr1
    (supermajority_comparison_null useStyle contest w cands f hf0 ballot cv cards hwrong)

/-- the same with the plain hypothesis `wvalid ≤ f · valid` on the found ballots of the cards under audit -/
theorem supermajority_comparison_risk_limit_found {α : Type} (ballot : α → CVR) (cv : α → Cvr) (cards : List α)
    (contest w : String) (cands : List String) (f : ℚ) (hf0 : 0 < f) (hf1 : f < 1)
    (ty : AuditType) (hty : ty = .cardComparison ∨ ty = .oneaudit)
    (useStyle : Bool) (means : Option Means)
    (hm : MeansFrom useStyle (cards.map cv) means)
    (hcv : ∀ c ∈ cards.map cv, 0 ≤ c.a ∧ c.a ≤ Assorter.superUpper f)
    (hne : C03.aud useStyle (cards.map cv) ≠ [])
    (hph : ∀ c ∈ C03.aud useStyle (cards.map cv), c.phantom = true → usesPool means c = false → c.a = 1 / 2)
    (margin U : XR)
    (hmargin : setMarginFromCvrs 1 useStyle ty (Assorter.superUpper f) (cards.map cv) = .ok (margin, U))
    (data : String → String → α → Option ℚ) (T : String → String → SeqTest) (s : State)
    (c : Contest) (hc : c ∈ s) (a : Assertion) (ha : a ∈ c.assertions)
    (hdata : data c.id a.name = fun x =>
      cardDatum ty useStyle margin (Assorter.superUpper f) means
        (mvrOf (Assorter.supermajority contest w cands f) contest (ballot x), cv x))
    (sqrtF : ℚ → ℚ) (cfg : NM.Cfg) (test : NM.Test)
    (hN : cfg.N = some (C03.aud useStyle (cards.map cv)).length) (ht : cfg.t = 1 / 2) (hcu : XR.fin cfg.u = U)
    (hT : T c.id a.name = NM.run sqrtF cfg test)
    (hdoc : C01.DocumentedFinite sqrtF cfg test)
    (hr0 : 0 < c.riskLimit) (hr1 : c.riskLimit < 1)
    (hwrong : (C02.wvalid contest cands w (foundBallots useStyle contest ballot cv cards) : ℚ)
        ≤ f * (C02.valid contest cands (foundBallots useStyle contest ballot cv cards) : ℚ)) :
    hitG (auditCompleteOpt data T s) cards.length cards [] ≤ c.riskLimit := by
  apply supermajority_comparison_risk_limit ballot cv cards contest w cands f hf0 hf1 ty hty useStyle means hm hcv
    hne hph margin U hmargin data T s c hc a ha hdata sqrtF cfg test hN ht hcu hT hdoc hr0 hr1
  exact le_trans hwrong (mul_le_mul_of_nonneg_left (le_add_of_nonneg_right (Nat.cast_nonneg _)) hf0.le)

/-! ### the literal form: a list of true ballots and a list of CVRs

The population of `comparison_full_risk_limit` — `mvrs.zip cvrs : List MCard` — with `mvrs` obtained by `mvrOf` from
the list of true ballots; the data function is `cardDatum` itself. -/

theorem zip_ballots (assort : CVR → ℚ) (contest : String) (ballots : List CVR) (cvrs : List Cvr)
    (hlen : ballots.length = cvrs.length) :
    (ballots.zip cvrs).map (fun x => mvrOf assort contest x.1) = ballots.map (mvrOf assort contest) ∧
    (ballots.zip cvrs).map Prod.snd = cvrs := by
  constructor
  · have : (fun x : CVR × Cvr => mvrOf assort contest x.1) = mvrOf assort contest ∘ Prod.fst := rfl
    rw [this, ← List.map_map, List.map_fst_zip (by omega)]
  · exact List.map_snd_zip (by omega)

theorem plurality_comparison_risk_limit_zip (ballots : List CVR) (cvrs : List Cvr)
    (hlen : ballots.length = cvrs.length) (contest w l : String)
    (ty : AuditType) (hty : ty = .cardComparison ∨ ty = .oneaudit)
    (useStyle : Bool) (means : Option Means)
    (hm : MeansFrom useStyle cvrs means)
    (hcv : ∀ c ∈ cvrs, 0 ≤ c.a ∧ c.a ≤ 1)
    (hne : C03.aud useStyle cvrs ≠ [])
    (hph : ∀ c ∈ C03.aud useStyle cvrs, c.phantom = true → usesPool means c = false → c.a = 1 / 2)
    (margin U : XR) (hmargin : setMarginFromCvrs 1 useStyle ty 1 cvrs = .ok (margin, U))
    (data : String → String → MCard → Option ℚ) (T : String → String → SeqTest) (s : State)
    (c : Contest) (hc : c ∈ s) (a : Assertion) (ha : a ∈ c.assertions)
    (hdata : data c.id a.name = cardDatum ty useStyle margin 1 means)
    (sqrtF : ℚ → ℚ) (cfg : NM.Cfg) (test : NM.Test)
    (hN : cfg.N = some (C03.aud useStyle cvrs).length) (ht : cfg.t = 1 / 2) (hcu : XR.fin cfg.u = U)
    (hT : T c.id a.name = NM.run sqrtF cfg test)
    (hdoc : C01.DocumentedFinite sqrtF cfg test)
    (hr0 : 0 < c.riskLimit) (hr1 : c.riskLimit < 1)
    (hwrong : C02.marks contest w (foundBallots useStyle contest Prod.fst Prod.snd (ballots.zip cvrs))
        ≤ C02.marks contest l (foundBallots useStyle contest Prod.fst Prod.snd (ballots.zip cvrs))
          + lostCount useStyle contest Prod.fst Prod.snd (ballots.zip cvrs)) :
    hitG (auditCompleteOpt data T s) ((ballots.map (mvrOf (Assorter.plurality contest w l) contest)).zip cvrs).length
      ((ballots.map (mvrOf (Assorter.plurality contest w l) contest)).zip cvrs) [] ≤ c.riskLimit := by
  obtain ⟨h1, h2⟩ := zip_ballots (Assorter.plurality contest w l) contest ballots cvrs hlen
  have hfalse := plurality_comparison_null useStyle contest w l Prod.fst Prod.snd (ballots.zip cvrs) hwrong
  rw [h1, h2] at hfalse
  exact comparison_full_risk_limit ty hty useStyle 1 cvrs (ballots.map (mvrOf (Assorter.plurality contest w l) contest))
    means hm (by simpa using hlen) one_pos hcv
    (List.forall_mem_map.2 fun b _ => plurality_range contest w l b)
    hne hph margin U hmargin data T s c hc a ha hdata sqrtF cfg test hN ht hcu hT hdoc hr0 hr1 hfalse

theorem supermajority_comparison_risk_limit_zip (ballots : List CVR) (cvrs : List Cvr)
    (hlen : ballots.length = cvrs.length) (contest w : String) (cands : List String) (f : ℚ)
    (hf0 : 0 < f) (hf1 : f < 1)
    (ty : AuditType) (hty : ty = .cardComparison ∨ ty = .oneaudit)
    (useStyle : Bool) (means : Option Means)
    (hm : MeansFrom useStyle cvrs means)
    (hcv : ∀ c ∈ cvrs, 0 ≤ c.a ∧ c.a ≤ Assorter.superUpper f)
    (hne : C03.aud useStyle cvrs ≠ [])
    (hph : ∀ c ∈ C03.aud useStyle cvrs, c.phantom = true → usesPool means c = false → c.a = 1 / 2)
    (margin U : XR) (hmargin : setMarginFromCvrs 1 useStyle ty (Assorter.superUpper f) cvrs = .ok (margin, U))
    (data : String → String → MCard → Option ℚ) (T : String → String → SeqTest) (s : State)
    (c : Contest) (hc : c ∈ s) (a : Assertion) (ha : a ∈ c.assertions)
    (hdata : data c.id a.name = cardDatum ty useStyle margin (Assorter.superUpper f) means)
    (sqrtF : ℚ → ℚ) (cfg : NM.Cfg) (test : NM.Test)
    (hN : cfg.N = some (C03.aud useStyle cvrs).length) (ht : cfg.t = 1 / 2) (hcu : XR.fin cfg.u = U)
    (hT : T c.id a.name = NM.run sqrtF cfg test)
    (hdoc : C01.DocumentedFinite sqrtF cfg test)
    (hr0 : 0 < c.riskLimit) (hr1 : c.riskLimit < 1)
    (hwrong : (C02.wvalid contest cands w (foundBallots useStyle contest Prod.fst Prod.snd (ballots.zip cvrs)) : ℚ)
        ≤ f * ((C02.valid contest cands (foundBallots useStyle contest Prod.fst Prod.snd (ballots.zip cvrs)) : ℚ)
          + (lostCount useStyle contest Prod.fst Prod.snd (ballots.zip cvrs) : ℚ))) :
    hitG (auditCompleteOpt data T s)
      ((ballots.map (mvrOf (Assorter.supermajority contest w cands f) contest)).zip cvrs).length
      ((ballots.map (mvrOf (Assorter.supermajority contest w cands f) contest)).zip cvrs) [] ≤ c.riskLimit := by
  obtain ⟨h1, h2⟩ := zip_ballots (Assorter.supermajority contest w cands f) contest ballots cvrs hlen
  have hfalse := supermajority_comparison_null useStyle contest w cands f hf0 Prod.fst Prod.snd (ballots.zip cvrs)
    hwrong
  rw [h1, h2] at hfalse
  exact comparison_full_risk_limit ty hty useStyle (Assorter.superUpper f) cvrs
    (ballots.map (mvrOf (Assorter.supermajority contest w cands f) contest)) means hm (by simpa using hlen)
    (by unfold Assorter.superUpper; positivity) hcv
    (List.forall_mem_map.2 fun b _ => C02.assort_range_super contest w cands f hf0 hf1 b)
    hne hph margin U hmargin data T s c hc a ha hdata sqrtF cfg test hN ht hcu hT hdoc hr0 hr1 hfalse

/-! ### non-vacuity

Contest "AvB", reported winner `a`, reported loser `b`; card comparison under style-based sampling, five cards.
The machine reported `a, a, a, b` and one phantom CVR (`make_phantoms`: the contest listed, no votes): `a` wins 3 to 1,
reported assorter mean 7/10, reported margin 2/5 > 0, test bound 2/(2 − 2/5) = 5/4.
The manual records: `a`; `b` (the CVR said `a`); a record that does not list the contest (the CVR said `a`); `b`; the
phantom's card cannot be found.  On the three found ballots `a` has 1 mark and `b` has 2; two records are scored 0.
The overstatement-assorter values are 5/8, 0, 0, 5/8, 5/16 (mean 5/16 ≤ 1/2). -/

section example_
open Shangrla.NM

def exBallot (id : String) (m : Marks) : CVR := { id := id, votes := [("AvB", m)] }

/-- what the machine reported -/
def exReported : List CVR :=
  [exBallot "1" [("a", .b true)], exBallot "2" [("a", .b true)], exBallot "3" [("a", .b true)],
   exBallot "4" [("b", .b true)], { id := "5", votes := [("AvB", [])], phantom := true }]

/-- what the auditors see -/
def exManual : List CVR :=
  [exBallot "1" [("a", .b true)], exBallot "2" [("b", .b true)],
   { id := "3", votes := [("other", [("x", .b true)])] }, exBallot "4" [("b", .b true)],
   { id := "5", phantom := true }]

/-- the CVRs as the overstatement model reads them (no pools) -/
def exCvrsO : List Cvr := exReported.map (cvrOf (Assorter.plurality "AvB" "a" "b") "AvB" false none 0)

/-- a card: its true ballot and its CVR -/
def cardsO : List (CVR × Cvr) := exManual.zip exCvrsO

def cfgO : Cfg := { N := some 5, u := 5/4, t := 1/2, randomOrder := true, kw := { eta := some 1 } }
def dataO : String → String → CVR × Cvr → Option ℚ :=
  fun _ _ x => cardDatum .cardComparison true (XR.fin (2/5)) 1 none
    (mvrOf (Assorter.plurality "AvB" "a" "b") "AvB" x.1, x.2)
def TO : String → String → SeqTest := fun _ _ => NM.run sqrtRat cfgO (.alpha .fixedAlt)
def sO : State := [{ id := "c", riskLimit := 9/10, assertions := [{ name := "a" }] }]

/-- the CVRs say `a` won comfortably: 3 marks to 1, reported margin 2/5, test bound 5/4 -/
example : C02.marks "AvB" "a" exReported = 3 ∧ C02.marks "AvB" "b" exReported = 1 ∧
    setMarginFromCvrs 1 true .cardComparison 1 (cardsO.map Prod.snd) = .ok (XR.fin (2/5), XR.fin (5/4)) := by
  decide +kernel

/-- the manual records say otherwise -/
example : C02.marks "AvB" "a" (foundBallots true "AvB" Prod.fst Prod.snd cardsO) = 1 ∧
    C02.marks "AvB" "b" (foundBallots true "AvB" Prod.fst Prod.snd cardsO) = 2 ∧
    lostCount true "AvB" Prod.fst Prod.snd cardsO = 2 := by
  decide +kernel

/-- the data are read off the two models: `mvrOf` of the true ballot, then `mvrs_to_data` -/
example : cardsO.map (dataO "c" "a") = [some (5 / 8), some 0, some 0, some (5 / 8), some (5 / 16)] := by
  decide +kernel

/-- every hypothesis of `plurality_comparison_risk_limit_found` is satisfied by this population -/
example : hitG (auditCompleteOpt dataO TO sO) 5 cardsO [] ≤ 9/10 :=
  plurality_comparison_risk_limit_found Prod.fst Prod.snd cardsO "AvB" "a" "b" .cardComparison (Or.inl rfl) true none
    MeansFrom.unset (by decide +kernel) (by decide +kernel) (by decide +kernel)
    (XR.fin (2/5)) (XR.fin (5/4)) (by decide +kernel)
    dataO TO sO { id := "c", riskLimit := 9/10, assertions := [{ name := "a" }] } (List.mem_singleton.2 rfl)
    { name := "a" } (List.mem_singleton.2 rfl) rfl
    sqrtRat cfgO (.alpha .fixedAlt) (by decide +kernel) rfl rfl rfl
    (documentedFinite_alpha_fixed (by decide +kernel) rfl rfl)
    (by decide +kernel) (by decide +kernel) (by decide +kernel)

/-- the event bounded by 9/10 above really happens: although on the manual records `b` beat `a`, over the 120 orders of
the five cards the audit is reported complete with probability 2/5 (kernel-computed) — below the bound 9/10 -/
theorem example_comparison_outcome_exact : hitG (auditCompleteOpt dataO TO sO) 5 cardsO [] = 2/5 := by
  have hd : cardsO.filterMap (dataO "c" "a") = [5/8, 0, 0, 5/8, 5/16] := by decide +kernel
  refine (hitG_auditCompleteOpt_const (dataO "c" "a") TO sO cardsO).trans ?_
  rw [hd]
  decide +kernel

/-! the same five cards for the super-majority assertion "`a` has more than 2/3 of the valid votes" (assorter bound
`1/(2f) = 3/4`): the CVRs say 3 of 4 valid votes (reported assorter mean 11/20, margin 1/10, test bound 15/14); on
the found ballots `a` has 1 of 3 valid votes. -/

def exCvrsS : List Cvr :=
  exReported.map (cvrOf (Assorter.supermajority "AvB" "a" ["b", "a"] (2/3)) "AvB" false none 0)
def cardsS2 : List (CVR × Cvr) := exManual.zip exCvrsS
def cfgS2 : Cfg := { N := some 5, u := 15/14, t := 1/2, randomOrder := true, kw := { eta := some (3/4) } }
def dataS2 : String → String → CVR × Cvr → Option ℚ :=
  fun _ _ x => cardDatum .cardComparison true (XR.fin (1/10)) (Assorter.superUpper (2/3)) none
    (mvrOf (Assorter.supermajority "AvB" "a" ["b", "a"] (2/3)) "AvB" x.1, x.2)
def TS2 : String → String → SeqTest := fun _ _ => NM.run sqrtRat cfgS2 (.alpha .fixedAlt)

example : C02.wvalid "AvB" ["b", "a"] "a" exReported = 3 ∧ C02.valid "AvB" ["b", "a"] exReported = 4 ∧
    C02.wvalid "AvB" ["b", "a"] "a" (foundBallots true "AvB" Prod.fst Prod.snd cardsS2) = 1 ∧
    C02.valid "AvB" ["b", "a"] (foundBallots true "AvB" Prod.fst Prod.snd cardsS2) = 3 := by
  decide +kernel

/-- every hypothesis of `supermajority_comparison_risk_limit_found` is satisfied -/
example : hitG (auditCompleteOpt dataS2 TS2 sO) 5 cardsS2 [] ≤ 9/10 :=
  supermajority_comparison_risk_limit_found Prod.fst Prod.snd cardsS2 "AvB" "a" ["b", "a"] (2/3)
    (by decide +kernel) (by decide +kernel) .cardComparison (Or.inl rfl) true none
    MeansFrom.unset (by decide +kernel) (by decide +kernel) (by decide +kernel)
    (XR.fin (1/10)) (XR.fin (15/14)) (by decide +kernel)
    dataS2 TS2 sO { id := "c", riskLimit := 9/10, assertions := [{ name := "a" }] } (List.mem_singleton.2 rfl)
    { name := "a" } (List.mem_singleton.2 rfl) rfl
    sqrtRat cfgS2 (.alpha .fixedAlt) (by decide +kernel) rfl rfl rfl
    (documentedFinite_alpha_fixed (by decide +kernel) rfl rfl)
    (by decide +kernel) (by decide +kernel) (by decide +kernel)

end example_

end Shangrla.RiskLimit
