/-
  C05 — non-anticipation: the p-value after j draws depends only on those j draws.

  Theorems are about the definitions of `Shangrla.NM` (the literal model of `NonnegMean.py` that
  the driver executes).  Positions in vectors are 0-based: entry `j` is what is applied to
  observation `j+1`.

  The estimate / bet applied to observation `j+1` is the same for two samples that share observations
  `1..j`, whenever neither call raises (when a call raises is stated separately).  Hence the p-value
  histories of two such samples agree up to the shared length, and truncating a sample changes its history
  in the last entry only, and only through the final-sample clamp (`terms[-1] = inf if Stot > N*t`), which
  makes it 0; for kk/km/kw/sprt nothing changes at all.  Not true without a guard, for the two martingale
  tests: "the last entry of the truncated history is `≤` that of the longer one" needs the longer one's
  entry to be a number `≥ 0`: `hist_truncate_alpha_full_false` (`d = 0`, a `nan` history),
  `hist_truncate_betting_full_false` (a negative bet).
-/
import Shangrla.Lemmas.NMTests
import Shangrla.Lemmas.Except

namespace Shangrla.C05
open Shangrla Shangrla.NM

/-! ### predictability of functions that may raise -/

/-- `StrictlyCausal` for a function that may raise: whenever both calls return -/
def StrictlyCausalE (f : List Rat → Except Err (List XR)) : Prop :=
  ∀ x y z l1 l2, y ≠ [] → z ≠ [] → f (x ++ y) = .ok l1 → f (x ++ z) = .ok l2 →
    l1.take (x.length + 1) = l2.take (x.length + 1)

/-- `f`, when it returns, returns one value per observation (numpy would refuse to broadcast anything else) -/
def LenPresE (f : List Rat → Except Err (List XR)) : Prop :=
  ∀ x l, f x = .ok l → l.length = x.length

theorem scE_of_pure {f : List Rat → Except Err (List XR)} {fp : List Rat → List XR}
    (h : ∀ x l, f x = .ok l → l = fp x) (hs : StrictlyCausal fp) : StrictlyCausalE f := by
  intro x y z l1 l2 hy hz h1 h2
  rw [h _ _ h1, h _ _ h2]
  exact hs x y z hy hz

theorem lpE_of_pure {f : List Rat → Except Err (List XR)} {fp : List Rat → List XR}
    (h : ∀ x l, f x = .ok l → l = fp x) (hl : LenPres fp) : LenPresE f := by
  intro x l hx
  rw [h _ _ hx]
  exact hl x

/-- the form in which predictability is stated for the shipped estimators and bets: entries `0..|x|`
coincide; they exist -/
theorem StrictlyCausalE.predictable {f : List Rat → Except Err (List XR)} (h : StrictlyCausalE f)
    (hl : LenPresE f) {x y z : List Rat} {l1 l2 : List XR} (hy : y ≠ []) (hz : z ≠ [])
    (h1 : f (x ++ y) = .ok l1) (h2 : f (x ++ z) = .ok l2) :
    l1.take (x.length + 1) = l2.take (x.length + 1) ∧
      ∀ j, j ≤ x.length → ∃ v, l1[j]? = some v ∧ l2[j]? = some v := by
  have e := h x y z l1 l2 hy hz h1 h2
  refine ⟨e, fun j hj => ?_⟩
  have hlen : j < l1.length := by
    rw [hl _ _ h1, List.length_append]
    have := List.length_pos_iff.mpr hy
    omega
  have e := congrArg (fun l => l[j]?) e
  simp only [List.getElem?_take_of_lt (Nat.lt_succ_of_le hj)] at e
  exact ⟨l1[j], List.getElem?_eq_getElem hlen, e ▸ List.getElem?_eq_getElem hlen⟩

theorem StrictlyCausalE.causal {f : List Rat → Except Err (List XR)} (h : StrictlyCausalE f)
    (hl : LenPresE f) {x y : List Rat} {e0 e1 : List XR} (hx : x ≠ []) (h0 : f x = .ok e0)
    (h1 : f (x ++ y) = .ok e1) : e1.take x.length = e0 := by
  rcases List.eq_nil_or_concat x with rfl | ⟨x', a, rfl⟩
  · exact absurd rfl hx
  · -- `x' ++ ([a] ++ y)` and `x' ++ [a]` are two continuations of `x'`
    rw [List.concat_eq_append] at h0 h1 ⊢
    rw [List.append_assoc] at h1
    rw [List.length_append, List.length_singleton, h x' ([a] ++ y) [a] e1 e0 (by simp) (by simp) h1 h0]
    exact List.take_of_length_le (by rw [hl _ _ h0]; simp)

/-! ### `sjm`: when it raises, what it returns -/

/-- `sjm` accepts the sample: it is not empty and not larger than the population -/
def SizeOk (N : Option Nat) (x : List Rat) : Prop := x ≠ [] ∧ ∀ n, N = some n → x.length ≤ n

theorem of_sjm_ok {N : Option Nat} {t : Rat} {x : List Rat} {r : List Rat × Rat × List Rat}
    (h : sjm N t x = .ok r) : SizeOk N x ∧ r = (prefixSums x, xsum x, nullMeansFrom N t 0 1 x) := by
  have hs : SizeOk N x := by
    unfold sjm at h
    by_cases hx : x.isEmpty = true
    · rw [if_pos hx] at h; cases h
    · refine ⟨by simpa using hx, fun n hn => Nat.not_lt.1 fun hlt => ?_⟩
      subst hn
      rw [if_neg hx] at h
      cases (if_pos hlt).symm.trans h
  exact ⟨hs, (Except.ok.inj ((sjm_eq N t x hs.1 hs.2).symm.trans h)).symm⟩

/-- two continuations of the same length raise together -/
theorem sizeOk_append_congr {N : Option Nat} (x : List Rat) {y z : List Rat} (h : y.length = z.length) :
    SizeOk N (x ++ y) ↔ SizeOk N (x ++ z) := by
  unfold SizeOk
  rw [← List.length_pos_iff, ← List.length_pos_iff, List.length_append, List.length_append, h]

/-- two continuations of different lengths need not raise together (population of 2: one more draw is
fine, two more are not) -/
example : SizeOk (some 2) ([1] ++ [1]) ∧ ¬ SizeOk (some 2) ([1] ++ [1, 1]) := by
  constructor
  · exact ⟨by simp, by intro n hn; cases hn; simp⟩
  · intro h
    have := h.2 2 rfl
    simp at this

/-! ### every shipped estimator and bet is predictable

When it returns, each returns the value of a total function `fp` of the sample that is predictable and
preserves lengths.  `fp` is not written out: it is read off the model's `do`-block by solving `l = ?fp x`
first (`rotate_right`), against what the call returned; the other two goals then walk through its stages. -/

/-- the null mean before each draw as `agrapa` computes it (L415-417) -/
def tAdjPure (N : Option Nat) (t : Rat) (x : List Rat) : List XR :=
  match N with
  | none => x.map (fun _ => XR.fin t)
  | some n => mapIdxFrom (fun i s => (XR.fin ((n : Rat) * t - s)) / (XR.fin ((n : Rat) - (i : Rat)))) 0
      (prefixSums x)

theorem strictlyCausal_tAdjPure (N : Option Nat) (t : Rat) : StrictlyCausal (tAdjPure N t) := by
  cases N with
  | none => exact strictlyCausal_const _
  | some n => exact strictlyCausal_prefixSums.mapIdxFrom _ 0

theorem causal_tAdjPure (N : Option Nat) (t : Rat) : Causal (tAdjPure N t) := by
  cases N with
  | none => exact causal_id.map _
  | some n => exact causal_prefixSums.mapIdxFrom _ 0

theorem lenPres_tAdjPure (N : Option Nat) (t : Rat) : LenPres (tAdjPure N t) := by
  cases N with
  | none => exact fun x => List.length_map _
  | some n => exact lenPres_prefixSums.mapIdxFrom _ 0

theorem estim_pure (sqrtF : Rat → Rat) (cfg : Cfg) (e : Estim) :
    ∃ fp, StrictlyCausal fp ∧ LenPres fp ∧ ∀ x l, estim sqrtF cfg e x = .ok l → l = fp x := by
  cases e with
  | fixedAlt =>
    refine ⟨?_, ?_, ?_, fun x l h => ?_⟩
    rotate_right
    · change fixedAlternativeMean cfg x = _ at h
      obtain ⟨r, hr, h⟩ := bind_eq_ok h
      obtain ⟨-, rfl⟩ := of_sjm_ok hr
      exact (Except.ok.inj h).symm
    · exact (strictlyCausal_nullMeansFrom _ _ _ _).map _
    · exact (lenPres_nullMeansFrom _ _ _ _).map _
  | shrinkTrunc =>
    refine ⟨?_, ?_, ?_, fun x l h => ?_⟩
    rotate_right
    · change shrinkTrunc sqrtF cfg x = _ at h
      obtain ⟨r, hr, h⟩ := bind_eq_ok h
      obtain ⟨-, rfl⟩ := of_sjm_ok hr
      exact (Except.ok.inj h).symm
    -- the running standard deviation is shifted by one before use (L313-318), the running sums and
    -- null means exclude the current draw (L167-170)
    · exact (strictlyCausal_prefixSums.zip ((strictlyCausal_nullMeansFrom _ _ _ _).zip
        (((causal_welford_snd.map _).shiftIn (lenPres_welford_snd.map _) _).mapIdxFrom _ 0))).mapIdxFrom _ 1
    · exact (lenPres_prefixSums.zip ((lenPres_nullMeansFrom _ _ _ _).zip
        (((lenPres_welford_snd.map _).shiftIn _).mapIdxFrom _ 0))).mapIdxFrom _ 1
  | optimalComparison =>
    refine ⟨?_, ?_, ?_, fun x l h => ?_⟩
    rotate_right
    · by_cases hu : 2 - 2 * cfg.u = 0
      · exact absurd h (by simp [estim, optimalComparison, hu])
      · exact (Except.ok.inj ((if_neg hu).symm.trans h)).symm
    · exact strictlyCausal_const _
    · exact fun x => List.length_map _

theorem bet_pure (sqrtF : Rat → Rat) (cfg : Cfg) (b : Bet) :
    ∃ fp, StrictlyCausal fp ∧ LenPres fp ∧ ∀ x l, bet sqrtF cfg b x = .ok l → l = fp x := by
  cases b with
  | fixed =>
    refine ⟨fun x => x.map fun _ => XR.fin (cfg.kw.lam.getD 0), strictlyCausal_const _,
      fun x => List.length_map _, fun x l h => ?_⟩
    unfold bet fixedBet at h
    cases hl : cfg.kw.lam with
    | none => rw [hl] at h; cases h
    | some lam => rw [hl] at h; exact (Except.ok.inj h).symm
  | agrapa =>
    refine ⟨?_, ?_, ?_, fun x l h => ?_⟩
    rotate_right
    · have hx : x.isEmpty = false := by
        cases x with
        | nil => cases h
        | cons a x => rfl
      change agrapa sqrtF cfg x = _ at h
      unfold agrapa at h
      rw [hx] at h
      exact (Except.ok.inj h).symm
    -- the running mean and variance are shifted by one before use (L422-431)
    · exact ((((causal_welford_fst.zip (causal_welford_snd.zip (causal_tAdjPure _ _))).map _).shiftIn
        ((lenPres_welford_fst.zip (lenPres_welford_snd.zip (lenPres_tAdjPure _ _))).map _) _).zip
          (strictlyCausal_tAdjPure _ _)).mapIdxFrom _ 0
    · exact ((((lenPres_welford_fst.zip (lenPres_welford_snd.zip (lenPres_tAdjPure _ _))).map _).shiftIn _).zip
        (lenPres_tAdjPure _ _)).mapIdxFrom _ 0

theorem scE_estim (sqrtF : Rat → Rat) (cfg : Cfg) (e : Estim) : StrictlyCausalE (estim sqrtF cfg e) := by
  obtain ⟨fp, h1, _, h3⟩ := estim_pure sqrtF cfg e
  exact scE_of_pure h3 h1

theorem lpE_estim (sqrtF : Rat → Rat) (cfg : Cfg) (e : Estim) : LenPresE (estim sqrtF cfg e) := by
  obtain ⟨fp, _, h2, h3⟩ := estim_pure sqrtF cfg e
  exact lpE_of_pure h3 h2

theorem scE_bet (sqrtF : Rat → Rat) (cfg : Cfg) (b : Bet) : StrictlyCausalE (bet sqrtF cfg b) := by
  obtain ⟨fp, h1, _, h3⟩ := bet_pure sqrtF cfg b
  exact scE_of_pure h3 h1

theorem lpE_bet (sqrtF : Rat → Rat) (cfg : Cfg) (b : Bet) : LenPresE (bet sqrtF cfg b) := by
  obtain ⟨fp, _, h2, h3⟩ := bet_pure sqrtF cfg b
  exact lpE_of_pure h3 h2

/-! ### C05, first part: the parameter applied to observation `j+1` depends only on observations `1..j` -/

/-- shared data of the non-vacuity examples: population of 5, `u = 1`, null mean `1/2` -/
def cfgEx : Cfg :=
  { N := some 5, u := 1, t := 1 / 2, randomOrder := true,
    kw := { eta := some (3 / 4), lam := some (1 / 2), d := some 10, g := some (1 / 10) } }

/-- `cfgEx` with `N = np.inf` (sampling with replacement) -/
def cfgInf : Cfg := { cfgEx with N := none }

/-- the square root used in the examples (the theorems hold for every `sqrtF`) -/
def sqrtEx : Rat → Rat := fun q => q

def histOfRun (r : Except Err (XR × List XR)) : List XR :=
  match r with
  | .ok (_, h) => h
  | .error _ => []

def valOf (r : Except Err (List XR)) : List XR :=
  match r with
  | .ok l => l
  | .error _ => []

def isOk {α} : Except Err α → Bool
  | .ok _ => true
  | .error _ => false

instance {α} [DecidableEq α] : DecidableEq (Except Err α) := fun a b =>
  match a, b with
  | .ok x, .ok y => if h : x = y then isTrue (h ▸ rfl) else isFalse (fun e => h (Except.ok.inj e))
  | .error x, .error y => if h : x = y then isTrue (h ▸ rfl) else isFalse (fun e => h (Except.error.inj e))
  | .ok _, .error _ => isFalse (fun e => by cases e)
  | .error _, .ok _ => isFalse (fun e => by cases e)

/-- **C05, `fixed_alternative_mean`**: predictable — when the call returns on two non-empty continuations of `x`,
entries `0..|x|` of the two results (entry `j` is applied to observation `j+1`) coincide -/
theorem estim_predictable_fixed (cfg : Cfg) (x y z : List Rat) (hy : y ≠ []) (hz : z ≠ [])
    (l1 l2 : List XR) (h1 : fixedAlternativeMean cfg (x ++ y) = .ok l1)
    (h2 : fixedAlternativeMean cfg (x ++ z) = .ok l2) :
    l1.take (x.length + 1) = l2.take (x.length + 1) ∧
      ∀ j, j ≤ x.length → ∃ v, l1[j]? = some v ∧ l2[j]? = some v :=
  (scE_estim (fun q => q) cfg .fixedAlt).predictable (lpE_estim _ cfg .fixedAlt) hy hz h1 h2

-- hypotheses are satisfiable; the tails differ (also in length) and the full vectors differ
example : isOk (fixedAlternativeMean cfgEx ([1, 0] ++ [1])) = true
    ∧ isOk (fixedAlternativeMean cfgEx ([1, 0] ++ [0, 1, 1])) = true
    ∧ (valOf (fixedAlternativeMean cfgEx ([1, 0] ++ [1, 1]))).take 4
        ≠ (valOf (fixedAlternativeMean cfgEx ([1, 0] ++ [0, 1, 1]))).take 4 := by decide +kernel

theorem estim_ok_fixed (cfg : Cfg) (x : List Rat) :
    (∃ l, fixedAlternativeMean cfg x = .ok l) ↔ SizeOk cfg.N x :=
  ⟨fun ⟨_, h⟩ => by obtain ⟨_, hr, _⟩ := bind_eq_ok h; exact (of_sjm_ok hr).1,
   fun h => ⟨_, by unfold fixedAlternativeMean; dsimp only; rw [sjm_eq _ _ _ h.1 h.2]; rfl⟩⟩

/-- **C05, `shrink_trunc`**: predictable in the same sense, for every `sqrtF` -/
theorem estim_predictable_shrink (sqrtF : Rat → Rat) (cfg : Cfg) (x y z : List Rat) (hy : y ≠ [])
    (hz : z ≠ []) (l1 l2 : List XR) (h1 : shrinkTrunc sqrtF cfg (x ++ y) = .ok l1)
    (h2 : shrinkTrunc sqrtF cfg (x ++ z) = .ok l2) :
    l1.take (x.length + 1) = l2.take (x.length + 1) ∧
      ∀ j, j ≤ x.length → ∃ v, l1[j]? = some v ∧ l2[j]? = some v :=
  (scE_estim sqrtF cfg .shrinkTrunc).predictable (lpE_estim sqrtF cfg .shrinkTrunc) hy hz h1 h2

example : isOk (shrinkTrunc sqrtEx cfgEx ([1, 0] ++ [1, 1])) = true
    ∧ isOk (shrinkTrunc sqrtEx cfgEx ([1, 0] ++ [0, 1, 1])) = true
    ∧ (valOf (shrinkTrunc sqrtEx cfgEx ([1, 0] ++ [1, 1]))).take 4
        ≠ (valOf (shrinkTrunc sqrtEx cfgEx ([1, 0] ++ [0, 1, 1]))).take 4 := by decide +kernel

theorem estim_ok_shrink (sqrtF : Rat → Rat) (cfg : Cfg) (x : List Rat) :
    (∃ l, shrinkTrunc sqrtF cfg x = .ok l) ↔ SizeOk cfg.N x :=
  ⟨fun ⟨_, h⟩ => by obtain ⟨_, hr, _⟩ := bind_eq_ok h; exact (of_sjm_ok hr).1,
   fun h => ⟨_, by unfold shrinkTrunc; dsimp only; rw [sjm_eq _ _ _ h.1 h.2]; rfl⟩⟩

/-- **C05, `optimal_comparison`**: predictable in the same sense (the estimate is a constant) -/
theorem estim_predictable_optimal (cfg : Cfg) (x y z : List Rat) (hy : y ≠ []) (hz : z ≠ [])
    (l1 l2 : List XR) (h1 : optimalComparison cfg (x ++ y) = .ok l1)
    (h2 : optimalComparison cfg (x ++ z) = .ok l2) :
    l1.take (x.length + 1) = l2.take (x.length + 1) ∧
      ∀ j, j ≤ x.length → ∃ v, l1[j]? = some v ∧ l2[j]? = some v :=
  (scE_estim (fun q => q) cfg .optimalComparison).predictable (lpE_estim _ cfg .optimalComparison) hy hz h1 h2

example : isOk (optimalComparison { cfgEx with u := 3 / 2 } ([1, 0] ++ [1])) = true
    ∧ isOk (optimalComparison { cfgEx with u := 3 / 2 } ([1, 0] ++ [0, 1, 1])) = true := by decide +kernel

/-- `optimal_comparison` raises iff `u = 1` (`ZeroDivisionError`), whatever the sample -/
theorem estim_ok_optimal (cfg : Cfg) (x : List Rat) :
    (∃ l, optimalComparison cfg x = .ok l) ↔ 2 - 2 * cfg.u ≠ 0 :=
  ⟨fun ⟨_, h⟩ hu => (by cases h.symm.trans (if_pos hu)), fun hu => ⟨_, if_neg hu⟩⟩

/-- **C05, `fixed_bet`**: predictable — when the call returns on two non-empty continuations of `x`, entries
`0..|x|` of the two vectors of bets coincide (the bet is a constant) -/
theorem bet_predictable_fixed (cfg : Cfg) (x y z : List Rat) (hy : y ≠ []) (hz : z ≠ [])
    (l1 l2 : List XR) (h1 : fixedBet cfg (x ++ y) = .ok l1) (h2 : fixedBet cfg (x ++ z) = .ok l2) :
    l1.take (x.length + 1) = l2.take (x.length + 1) ∧
      ∀ j, j ≤ x.length → ∃ v, l1[j]? = some v ∧ l2[j]? = some v :=
  (scE_bet (fun q => q) cfg .fixed).predictable (lpE_bet _ cfg .fixed) hy hz h1 h2

example : isOk (fixedBet cfgEx ([1, 0] ++ [1])) = true
    ∧ isOk (fixedBet cfgEx ([1, 0] ++ [0, 1, 1])) = true := by decide +kernel

theorem bet_ok_fixed (cfg : Cfg) (x : List Rat) :
    (∃ l, fixedBet cfg x = .ok l) ↔ cfg.kw.lam ≠ none := by
  unfold fixedBet
  cases cfg.kw.lam <;> simp

/-- **C05, `agrapa`**: predictable in the same sense, for every `sqrtF` -/
theorem bet_predictable_agrapa (sqrtF : Rat → Rat) (cfg : Cfg) (x y z : List Rat) (hy : y ≠ [])
    (hz : z ≠ []) (l1 l2 : List XR) (h1 : agrapa sqrtF cfg (x ++ y) = .ok l1)
    (h2 : agrapa sqrtF cfg (x ++ z) = .ok l2) :
    l1.take (x.length + 1) = l2.take (x.length + 1) ∧
      ∀ j, j ≤ x.length → ∃ v, l1[j]? = some v ∧ l2[j]? = some v :=
  (scE_bet sqrtF cfg .agrapa).predictable (lpE_bet sqrtF cfg .agrapa) hy hz h1 h2

example : isOk (agrapa sqrtEx cfgEx ([1, 0] ++ [1, 1])) = true
    ∧ isOk (agrapa sqrtEx cfgEx ([1, 0] ++ [0, 1, 1])) = true
    ∧ (valOf (agrapa sqrtEx cfgEx ([1, 0] ++ [1, 1]))).take 4
        ≠ (valOf (agrapa sqrtEx cfgEx ([1, 0] ++ [0, 1, 1]))).take 4 := by decide +kernel

/-- `agrapa` raises iff the sample is empty (it never looks at `N` to reject a long sample) -/
theorem bet_ok_agrapa (sqrtF : Rat → Rat) (cfg : Cfg) (x : List Rat) :
    (∃ l, agrapa sqrtF cfg x = .ok l) ↔ x ≠ [] := by
  cases x with
  | nil => simp [agrapa]
  | cons a x => exact ⟨fun _ => List.cons_ne_nil a x, fun _ => ⟨_, rfl⟩⟩

/-- for every shipped estimator and bet, whether the call raises depends on the sample only through its
length, so two continuations of the same length raise together; continuations of different lengths can
differ only through `sjm`'s "Sample size is larger than the population!" (the `example` after
`sizeOk_append_congr`) -/
theorem estim_ok_congr (sqrtF : Rat → Rat) (cfg : Cfg) (e : Estim) (x y z : List Rat)
    (h : y.length = z.length) :
    (∃ l, estim sqrtF cfg e (x ++ y) = .ok l) ↔ (∃ l, estim sqrtF cfg e (x ++ z) = .ok l) := by
  cases e with
  | fixedAlt =>
    show (∃ l, fixedAlternativeMean cfg _ = _) ↔ (∃ l, fixedAlternativeMean cfg _ = _)
    rw [estim_ok_fixed, estim_ok_fixed]; exact sizeOk_append_congr x h
  | shrinkTrunc =>
    show (∃ l, shrinkTrunc sqrtF cfg _ = _) ↔ (∃ l, shrinkTrunc sqrtF cfg _ = _)
    rw [estim_ok_shrink, estim_ok_shrink]; exact sizeOk_append_congr x h
  | optimalComparison =>
    show (∃ l, optimalComparison cfg _ = _) ↔ (∃ l, optimalComparison cfg _ = _)
    rw [estim_ok_optimal, estim_ok_optimal]

theorem bet_ok_congr (sqrtF : Rat → Rat) (cfg : Cfg) (b : Bet) (x y z : List Rat)
    (h : y.length = z.length) :
    (∃ l, bet sqrtF cfg b (x ++ y) = .ok l) ↔ (∃ l, bet sqrtF cfg b (x ++ z) = .ok l) := by
  cases b with
  | fixed =>
    show (∃ l, fixedBet cfg _ = _) ↔ (∃ l, fixedBet cfg _ = _)
    rw [bet_ok_fixed, bet_ok_fixed]
  | agrapa =>
    show (∃ l, agrapa sqrtF cfg _ = _) ↔ (∃ l, agrapa sqrtF cfg _ = _)
    rw [bet_ok_agrapa, bet_ok_agrapa, ← List.length_pos_iff, ← List.length_pos_iff]
    simp [h]

/-! ### C05, second part: histories.  Building blocks of `alpha_mart` / `betting_mart` -/

/-- `np.minimum(1, 1/terms)` -/
def histOf (terms : List XR) : List XR := terms.map (fun T => XR.npmin (1 : XR) ((1 : XR) / T))

/-- the boolean-mask assignments L129-135 -/
def masked (cfg : Cfg) (m : List Rat) (terms : List XR) : List XR :=
  (m.zip terms).map (fun (mj, T) => maskTerm cfg.u cfg.atol cfg.rtol mj T)

def alphaFactors (cfg : Cfg) (x m : List Rat) (eta0 : List XR) : List XR :=
  (x.zip (((eta0.zip m).map (fun (e, mj) => XR.npmin (.fin cfg.u) (XR.npmax e (.fin mj)))).zip m)).map
    fun (xj, e, mj) =>
      ((XR.fin xj) * e / (XR.fin mj) + (XR.fin (cfg.u - xj)) * ((XR.fin cfg.u) - e) / (XR.fin (cfg.u - mj)))
        / (XR.fin cfg.u)

/-- the masked running product of `alpha_mart` before the final-sample clamp -/
def alphaMasked (cfg : Cfg) (x m : List Rat) (eta0 : List XR) : List XR :=
  masked cfg m (XR.cumprod (alphaFactors cfg x m eta0))

def bettingFactors (x m : List Rat) (lam : List XR) : List XR :=
  (x.zip (lam.zip m)).map fun (xj, l, mj) => (1 : XR) + l * (XR.fin (xj - mj))

/-- the masked running product of `betting_mart` before the final-sample clamp -/
def bettingMasked (cfg : Cfg) (x m : List Rat) (lam : List XR) : List XR :=
  masked cfg m (XR.cumprod (bettingFactors x m lam))

/-- the final-sample clamp fires on the sample `x`: `Stot > N*t` -/
def Clamped (cfg : Cfg) (x : List Rat) : Prop := ∃ n, cfg.N = some n ∧ (n : Rat) * cfg.t < xsum x

/-- shape shared by `alpha_mart` and `betting_mart`: when the test `T` returns, `sjm` and the
estimator/bet `par` returned, and the history is `histOf (clampLast … (M x m par(x)))` -/
def MartSpec (cfg : Cfg) (par : List Rat → Except Err (List XR))
    (M : List Rat → List Rat → List XR → List XR) (T : List Rat → Except Err (XR × List XR)) : Prop :=
  ∀ x p h, T x = .ok (p, h) → SizeOk cfg.N x ∧ ∃ e, par x = .ok e ∧
    h = histOf (clampLast cfg.N cfg.t (xsum x) (M x (nullMeansFrom cfg.N cfg.t 0 1 x) e))

def TakeComm3 (M : List Rat → List Rat → List XR → List XR) : Prop :=
  ∀ x m e k, (M x m e).take k = M (x.take k) (m.take k) (e.take k)

def Len3 (M : List Rat → List Rat → List XR → List XR) : Prop :=
  ∀ x m e, m.length = x.length → e.length = x.length → (M x m e).length = x.length

theorem alphaMasked_take (cfg : Cfg) : TakeComm3 (alphaMasked cfg) := fun x m e k => by
  simp only [alphaMasked, masked, alphaFactors, ← List.map_take, take_zip, cumprod_take]

theorem length_alphaMasked (cfg : Cfg) : Len3 (alphaMasked cfg) := fun x m e hm he => by
  simp [alphaMasked, masked, alphaFactors, hm, he]

theorem bettingMasked_take (cfg : Cfg) : TakeComm3 (bettingMasked cfg) := fun x m e k => by
  simp only [bettingMasked, masked, bettingFactors, ← List.map_take, take_zip, cumprod_take]

theorem length_bettingMasked (cfg : Cfg) : Len3 (bettingMasked cfg) := fun x m e hm he => by
  simp [bettingMasked, masked, bettingFactors, hm, he]

theorem alphaMart_spec (cfg : Cfg) (estim : List Rat → Except Err (List XR)) :
    MartSpec cfg estim (alphaMasked cfg) (alphaMart cfg estim) := by
  intro x p h H
  unfold alphaMart alphaTerms at H
  obtain ⟨r, hr, H⟩ := bind_eq_ok H
  obtain ⟨s, hs, hr⟩ := bind_eq_ok hr
  obtain ⟨hsz, rfl⟩ := of_sjm_ok hs
  obtain ⟨e, he, hr⟩ := bind_eq_ok hr
  cases hr
  exact ⟨hsz, e, he, (congrArg Prod.snd (Except.ok.inj H)).symm⟩

theorem bettingMart_spec (cfg : Cfg) (bet : List Rat → Except Err (List XR)) :
    MartSpec cfg bet (bettingMasked cfg) (bettingMart cfg bet) := by
  intro x p h H
  unfold bettingMart bettingTerms at H
  obtain ⟨r, hr, H⟩ := bind_eq_ok H
  obtain ⟨s, hs, hr⟩ := bind_eq_ok hr
  obtain ⟨hsz, rfl⟩ := of_sjm_ok hs
  obtain ⟨e, he, hr⟩ := bind_eq_ok hr
  cases hr
  exact ⟨hsz, e, he, (congrArg Prod.snd (Except.ok.inj H)).symm⟩

/-! #### the final-sample clamp touches the last entry only -/

theorem clampLast_of_not {N : Option Nat} {t S : Rat} {L : List XR}
    (h : ¬ ∃ n, N = some n ∧ (n : Rat) * t < S) : clampLast N t S L = L := by
  cases N with
  | none => rfl
  | some n => exact if_neg fun hlt => h ⟨n, rfl, hlt⟩

theorem clampLast_of {N : Option Nat} {t S : Rat} {L : List XR} {n : Nat} (hN : N = some n)
    (h : (n : Rat) * t < S) : clampLast N t S L = L.dropLast ++ [XR.pinf] := by
  subst hN
  exact if_pos h

theorem histOf_clampLast_of {cfg : Cfg} {x : List Rat} (hc : Clamped cfg x) (L : List XR) :
    histOf (clampLast cfg.N cfg.t (xsum x) L) = (histOf L).dropLast ++ [XR.fin 0] := by
  obtain ⟨n, hN, hlt⟩ := hc
  rw [clampLast_of hN hlt, histOf, List.map_append, List.map_dropLast]
  rfl

theorem length_histOf_clampLast {N : Option Nat} {t S : Rat} {L : List XR} (h : L ≠ []) :
    (histOf (clampLast N t S L)).length = L.length := by
  by_cases hc : ∃ n, N = some n ∧ (n : Rat) * t < S
  · obtain ⟨n, hN, hlt⟩ := hc
    have := List.length_pos_iff.mpr h
    rw [clampLast_of hN hlt, histOf, List.length_map, List.length_append, List.length_dropLast,
      List.length_singleton]
    omega
  · rw [clampLast_of_not hc, histOf, List.length_map]

theorem histOf_clampLast_take {N : Option Nat} {t S : Rat} {L : List XR} {k : Nat} (h : k < L.length) :
    (histOf (clampLast N t S L)).take k = histOf (L.take k) := by
  rw [histOf, histOf, ← List.map_take]
  by_cases hc : ∃ n, N = some n ∧ (n : Rat) * t < S
  · obtain ⟨n, hN, hlt⟩ := hc
    rw [clampLast_of hN hlt, List.take_append_of_le_length (by rw [List.length_dropLast]; omega),
      List.dropLast_eq_take, List.take_take, Nat.min_eq_left (by omega)]
  · rw [clampLast_of_not hc]

theorem le_self_of_zero_le {b : XR} (h : XR.le (XR.fin 0) b = true) : XR.le b b = true := by
  cases b with
  | fin q => exact decide_eq_true (Rat.le_refl)
  | pinf => rfl
  | ninf => rfl
  | nan => cases h

/-! #### generic theorems for a test of the `MartSpec` shape -/

section mart
variable {cfg : Cfg} {par : List Rat → Except Err (List XR)}
  {M : List Rat → List Rat → List XR → List XR} {T : List Rat → Except Err (XR × List XR)}

theorem length_M (hMl : Len3 M) (hl : LenPresE par) {x : List Rat} {e : List XR} (he : par x = .ok e) :
    (M x (nullMeansFrom cfg.N cfg.t 0 1 x) e).length = x.length :=
  hMl _ _ _ (length_nullMeansFrom ..) (hl _ _ he)

theorem mart_length (hT : MartSpec cfg par M T) (hMl : Len3 M) (hl : LenPresE par)
    {x : List Rat} {p : XR} {h : List XR} (H : T x = .ok (p, h)) : h.length = x.length := by
  obtain ⟨hs, e, he, rfl⟩ := hT _ _ _ H
  have hL := length_M (cfg := cfg) hMl hl he
  rw [length_histOf_clampLast, hL]
  intro h0
  rw [h0] at hL
  exact hs.1 (List.eq_nil_of_length_eq_zero hL.symm)

theorem mart_prefix (hT : MartSpec cfg par M T) (hMt : TakeComm3 M) (hMl : Len3 M)
    (hsc : StrictlyCausalE par) (hl : LenPresE par) {x y z : List Rat} (hy : y ≠ []) (hz : z ≠ [])
    {p1 p2 : XR} {h1 h2 : List XR} (H1 : T (x ++ y) = .ok (p1, h1)) (H2 : T (x ++ z) = .ok (p2, h2)) :
    h1.take x.length = h2.take x.length := by
  obtain ⟨-, e1, he1, rfl⟩ := hT _ _ _ H1
  obtain ⟨-, e2, he2, rfl⟩ := hT _ _ _ H2
  have hy' := List.length_pos_iff.mpr hy
  have hz' := List.length_pos_iff.mpr hz
  rw [histOf_clampLast_take (by rw [length_M hMl hl he1, List.length_append]; omega),
    histOf_clampLast_take (by rw [length_M hMl hl he2, List.length_append]; omega),
    hMt, hMt, nullMeansFrom_take, nullMeansFrom_take, List.take_left, List.take_left,
    take_of_take_eq (hsc x y z _ _ hy hz he1 he2) (Nat.le_succ _)]

theorem mart_truncate_eq (hT : MartSpec cfg par M T) (hMt : TakeComm3 M) (hMl : Len3 M)
    (hsc : StrictlyCausalE par) (hl : LenPresE par) {x y : List Rat}
    {p0 p1 : XR} {h0 h1 : List XR} (H0 : T x = .ok (p0, h0)) (H1 : T (x ++ y) = .ok (p1, h1)) :
    h0 = h1.take x.length ∨ (Clamped cfg x ∧ h0 = (h1.take x.length).dropLast ++ [XR.fin 0]) := by
  by_cases hy : y = []
  · subst hy
    rw [List.append_nil] at H1
    cases H0.symm.trans H1
    exact Or.inl (List.take_of_length_le (Nat.le_of_eq (mart_length hT hMl hl H0))).symm
  · obtain ⟨hs0, e0, he0, rfl⟩ := hT _ _ _ H0
    obtain ⟨-, e1, he1, rfl⟩ := hT _ _ _ H1
    have hy' := List.length_pos_iff.mpr hy
    rw [histOf_clampLast_take (by rw [length_M hMl hl he1, List.length_append]; omega), hMt,
      nullMeansFrom_take, List.take_left, hsc.causal hl hs0.1 he0 he1]
    by_cases hc : Clamped cfg x
    · exact Or.inr ⟨hc, histOf_clampLast_of hc _⟩
    · exact Or.inl (congrArg histOf (clampLast_of_not hc))

theorem mart_truncate (hT : MartSpec cfg par M T) (hMt : TakeComm3 M) (hMl : Len3 M)
    (hsc : StrictlyCausalE par) (hl : LenPresE par) {x y : List Rat}
    {p0 p1 : XR} {h0 h1 : List XR} (H0 : T x = .ok (p0, h0)) (H1 : T (x ++ y) = .ok (p1, h1)) :
    h0.take (x.length - 1) = h1.take (x.length - 1) ∧
    (¬ Clamped cfg x → h0 = h1.take x.length) ∧
    (h0[x.length - 1]? = h1[x.length - 1]? ∨ (Clamped cfg x ∧ h0[x.length - 1]? = some (XR.fin 0))) ∧
    (∀ a b, h0[x.length - 1]? = some a → h1[x.length - 1]? = some b →
      XR.le (XR.fin 0) b = true → XR.le a b = true) := by
  -- all four parts are read off `mart_truncate_eq`: `h0` is `h1.take |x|`, or that with its last entry set to 0
  have hx := List.length_pos_iff.mpr (hT _ _ _ H0).1.1
  have hlen1 : x.length ≤ h1.length := by rw [mart_length hT hMl hl H1, List.length_append]; omega
  have hd : (h1.take x.length).dropLast = h1.take (x.length - 1) := by
    rw [List.dropLast_eq_take, List.take_take, List.length_take, Nat.min_eq_left hlen1,
      Nat.min_eq_left (Nat.sub_le _ _)]
  have hdl : (h1.take (x.length - 1)).length = x.length - 1 := by rw [List.length_take]; omega
  have hE := mart_truncate_eq hT hMt hMl hsc hl H0 H1
  rw [hd] at hE
  have hc : h0[x.length - 1]? = h1[x.length - 1]? ∨ (Clamped cfg x ∧ h0[x.length - 1]? = some (XR.fin 0)) := by
    rcases hE with e | ⟨hcl, e⟩
    · exact Or.inl (by rw [e, List.getElem?_take_of_lt (by omega)])
    · have := List.getElem?_concat_length (l := h1.take (x.length - 1)) (a := XR.fin 0)
      rw [hdl] at this
      exact Or.inr ⟨hcl, e ▸ this⟩
  refine ⟨?_, fun hn => hE.resolve_right fun h => hn h.1, hc, fun a b ha hb hle => ?_⟩
  · rcases hE with e | ⟨-, e⟩
    · rw [e, List.take_take, Nat.min_eq_left (Nat.sub_le _ _)]
    · rw [e, List.take_left' hdl]
  · rcases hc with e | ⟨-, e⟩
    · cases (e.symm.trans ha).symm.trans hb |> Option.some.inj
      exact le_self_of_zero_le hle
    · cases Option.some.inj (e.symm.trans ha)
      exact hle

end mart

/-- shape of the tests without a clamp: the history, when the test returns, is a causal function of the sample -/
def CausalHist (T : List Rat → Except Err (XR × List XR)) : Prop :=
  ∃ Hf : List Rat → List XR, Causal Hf ∧ ∀ x p h, T x = .ok (p, h) → h = Hf x

theorem CausalHist.prefix {T : List Rat → Except Err (XR × List XR)} (hT : CausalHist T) {x y z : List Rat}
    {p1 p2 : XR} {h1 h2 : List XR} (H1 : T (x ++ y) = .ok (p1, h1)) (H2 : T (x ++ z) = .ok (p2, h2)) :
    h1.take x.length = h2.take x.length := by
  obtain ⟨Hf, hc, hT⟩ := hT
  rw [hT _ _ _ H1, hT _ _ _ H2, hc, hc]

theorem CausalHist.truncate {T : List Rat → Except Err (XR × List XR)} (hT : CausalHist T) {x y : List Rat}
    {p0 p1 : XR} {h0 h1 : List XR} (H0 : T x = .ok (p0, h0)) (H1 : T (x ++ y) = .ok (p1, h1)) :
    h0 = h1.take x.length := by
  obtain ⟨Hf, hc, hT⟩ := hT
  rw [hT _ _ _ H0, hT _ _ _ H1, hc]

/-! ### `alpha_mart` -/

/-- two samples sharing the head `x` and both continuing: the first `|x|` p-values agree.
For an arbitrary estimator that is predictable (`StrictlyCausalE`) and returns one value per
observation (`LenPresE`; numpy would refuse to broadcast anything else). -/
theorem hist_prefix_alpha (cfg : Cfg) (estim : List Rat → Except Err (List XR))
    (hsc : StrictlyCausalE estim) (hl : LenPresE estim) (x y z : List Rat) (hy : y ≠ []) (hz : z ≠ [])
    (p1 p2 : XR) (h1 h2 : List XR) (H1 : alphaMart cfg estim (x ++ y) = .ok (p1, h1))
    (H2 : alphaMart cfg estim (x ++ z) = .ok (p2, h2)) : h1.take x.length = h2.take x.length :=
  mart_prefix (alphaMart_spec cfg estim) (alphaMasked_take cfg) (length_alphaMasked cfg) hsc hl hy hz H1 H2

theorem hist_prefix_alpha_run (sqrtF : Rat → Rat) (cfg : Cfg) (e : Estim) (x y z : List Rat)
    (hy : y ≠ []) (hz : z ≠ []) (p1 p2 : XR) (h1 h2 : List XR)
    (H1 : run sqrtF cfg (.alpha e) (x ++ y) = .ok (p1, h1))
    (H2 : run sqrtF cfg (.alpha e) (x ++ z) = .ok (p2, h2)) : h1.take x.length = h2.take x.length :=
  hist_prefix_alpha cfg _ (scE_estim sqrtF cfg e) (lpE_estim sqrtF cfg e) x y z hy hz p1 p2 h1 h2 H1 H2

example : isOk (run sqrtEx cfgEx (.alpha .shrinkTrunc) ([1, 1] ++ [1, 0])) = true
    ∧ isOk (run sqrtEx cfgEx (.alpha .shrinkTrunc) ([1, 1] ++ [0, 1, 1])) = true
    ∧ histOfRun (run sqrtEx cfgEx (.alpha .shrinkTrunc) ([1, 1] ++ [1, 0])) = [2 / 3, 11 / 34, 22 / 323, 0]
    ∧ (histOfRun (run sqrtEx cfgEx (.alpha .shrinkTrunc) ([1, 1] ++ [0, 1, 1]))).take 4
        ≠ histOfRun (run sqrtEx cfgEx (.alpha .shrinkTrunc) ([1, 1] ++ [1, 0])) := by decide +kernel

/-- truncation (`_partial`: `hist_truncate_alpha_full` is the part that is false).
Truncating `x ++ y` to `x`: (1) entries before the last are unchanged; (2) if the clamp does not
fire on `x` (`¬ N*t < Σx`) the whole history of `x` is the prefix of that of `x ++ y`; (3) the last
entry is unchanged or the clamp fired and it became `0`; (4) hence it is `≤` the corresponding entry
of the longer sample whenever that entry is a number `≥ 0` (which is what C11/C12 establish under
their hypotheses on the configuration). -/
theorem hist_truncate_alpha_partial (cfg : Cfg) (estim : List Rat → Except Err (List XR))
    (hsc : StrictlyCausalE estim) (hl : LenPresE estim) (x y : List Rat)
    (p0 p1 : XR) (h0 h1 : List XR) (H0 : alphaMart cfg estim x = .ok (p0, h0))
    (H1 : alphaMart cfg estim (x ++ y) = .ok (p1, h1)) :
    h0.take (x.length - 1) = h1.take (x.length - 1) ∧
    (¬ Clamped cfg x → h0 = h1.take x.length) ∧
    (h0[x.length - 1]? = h1[x.length - 1]? ∨ (Clamped cfg x ∧ h0[x.length - 1]? = some (XR.fin 0))) ∧
    (∀ a b, h0[x.length - 1]? = some a → h1[x.length - 1]? = some b →
      XR.le (XR.fin 0) b = true → XR.le a b = true) :=
  mart_truncate (alphaMart_spec cfg estim) (alphaMasked_take cfg) (length_alphaMasked cfg) hsc hl H0 H1

theorem hist_length_alpha (cfg : Cfg) (estim : List Rat → Except Err (List XR)) (hl : LenPresE estim)
    (x : List Rat) (p : XR) (h : List XR) (H : alphaMart cfg estim x = .ok (p, h)) :
    h.length = x.length :=
  mart_length (alphaMart_spec cfg estim) (length_alphaMasked cfg) hl H

theorem hist_truncate_alpha_run_partial (sqrtF : Rat → Rat) (cfg : Cfg) (e : Estim) (x y : List Rat)
    (p0 p1 : XR) (h0 h1 : List XR) (H0 : run sqrtF cfg (.alpha e) x = .ok (p0, h0))
    (H1 : run sqrtF cfg (.alpha e) (x ++ y) = .ok (p1, h1)) :
    h0.length = x.length ∧ h1.length = x.length + y.length ∧
    h0.take (x.length - 1) = h1.take (x.length - 1) ∧
    (¬ Clamped cfg x → h0 = h1.take x.length) ∧
    (h0[x.length - 1]? = h1[x.length - 1]? ∨ (Clamped cfg x ∧ h0[x.length - 1]? = some (XR.fin 0))) ∧
    (∀ a b, h0[x.length - 1]? = some a → h1[x.length - 1]? = some b →
      XR.le (XR.fin 0) b = true → XR.le a b = true) :=
  ⟨hist_length_alpha cfg _ (lpE_estim sqrtF cfg e) x p0 h0 H0,
   by rw [hist_length_alpha cfg _ (lpE_estim sqrtF cfg e) _ p1 h1 H1, List.length_append],
   hist_truncate_alpha_partial cfg _ (scE_estim sqrtF cfg e) (lpE_estim sqrtF cfg e) x y p0 p1 h0 h1 H0 H1⟩

-- the clamp fires on x = [1,1,1] (Σx = 3 > 5/2 = N t): entry 2 drops from 22/323 to 0
example : run sqrtEx cfgEx (.alpha .shrinkTrunc) [1, 1, 1] = .ok (0, [2 / 3, 11 / 34, 0])
    ∧ run sqrtEx cfgEx (.alpha .shrinkTrunc) ([1, 1, 1] ++ [0]) = .ok (0, [2 / 3, 11 / 34, 22 / 323, 0])
    ∧ (∃ n, cfgEx.N = some n ∧ decide ((n : Rat) * cfgEx.t < xsum [1, 1, 1]) = true) :=
  ⟨by decide +kernel, by decide +kernel, 5, rfl, by decide +kernel⟩

/-- the truncation property without a side condition ("the last entry of the truncated
history is `≤` the corresponding entry of the longer one"), for the shipped estimators.  It is FALSE
of the model (and of the code) for degenerate tuning parameters: with `d = 0` `shrink_trunc`'s first
estimate is `0/0 = nan`, every p-value of the history is `nan`, and `nan ≤ nan` is false.
`hist_truncate_alpha_partial` is the strongest true version: the comparison holds whenever the
entry of the longer history is a number `≥ 0`. -/
def hist_truncate_alpha_full : Prop :=
  ∀ (sqrtF : Rat → Rat) (cfg : Cfg) (e : Estim) (x y : List Rat) (p0 p1 : XR) (h0 h1 : List XR),
    run sqrtF cfg (.alpha e) x = .ok (p0, h0) → run sqrtF cfg (.alpha e) (x ++ y) = .ok (p1, h1) →
    ∃ a b, h0[x.length - 1]? = some a ∧ h1[x.length - 1]? = some b ∧ XR.le a b = true

def cfgD0 : Cfg := { cfgEx with kw := { cfgEx.kw with d := some 0 } }

theorem hist_truncate_alpha_full_false : ¬ hist_truncate_alpha_full := by
  intro H
  have e0 : run sqrtEx cfgD0 (.alpha .shrinkTrunc) [1 / 2] = .ok (1, [XR.nan]) := by decide +kernel
  have e1 : run sqrtEx cfgD0 (.alpha .shrinkTrunc) ([1 / 2] ++ [1 / 2]) = .ok (1, [XR.nan, XR.nan]) := by
    decide +kernel
  obtain ⟨a, b, ha, _, hle⟩ := H _ _ _ _ _ _ _ _ _ e0 e1
  cases ha
  cases hle

/-! ### `betting_mart` -/

/-- `hist_prefix_alpha` for `betting_mart`, for an arbitrary predictable bet -/
theorem hist_prefix_betting (cfg : Cfg) (bet : List Rat → Except Err (List XR))
    (hsc : StrictlyCausalE bet) (hl : LenPresE bet) (x y z : List Rat) (hy : y ≠ []) (hz : z ≠ [])
    (p1 p2 : XR) (h1 h2 : List XR) (H1 : bettingMart cfg bet (x ++ y) = .ok (p1, h1))
    (H2 : bettingMart cfg bet (x ++ z) = .ok (p2, h2)) : h1.take x.length = h2.take x.length :=
  mart_prefix (bettingMart_spec cfg bet) (bettingMasked_take cfg) (length_bettingMasked cfg) hsc hl hy hz H1 H2

theorem hist_prefix_betting_run (sqrtF : Rat → Rat) (cfg : Cfg) (b : Bet) (x y z : List Rat)
    (hy : y ≠ []) (hz : z ≠ []) (p1 p2 : XR) (h1 h2 : List XR)
    (H1 : run sqrtF cfg (.betting b) (x ++ y) = .ok (p1, h1))
    (H2 : run sqrtF cfg (.betting b) (x ++ z) = .ok (p2, h2)) : h1.take x.length = h2.take x.length :=
  hist_prefix_betting cfg _ (scE_bet sqrtF cfg b) (lpE_bet sqrtF cfg b) x y z hy hz p1 p2 h1 h2 H1 H2

example : isOk (run sqrtEx cfgEx (.betting .agrapa) ([1, 1] ++ [1, 0])) = true
    ∧ isOk (run sqrtEx cfgEx (.betting .agrapa) ([1, 1] ++ [0, 1, 1])) = true
    ∧ histOfRun (run sqrtEx cfgEx (.betting .agrapa) ([1, 1] ++ [1, 0])) = [4 / 5, 16 / 45, 16 / 105, 0]
    ∧ (histOfRun (run sqrtEx cfgEx (.betting .agrapa) ([1, 1] ++ [0, 1, 1]))).take 4
        ≠ histOfRun (run sqrtEx cfgEx (.betting .agrapa) ([1, 1] ++ [1, 0])) := by decide +kernel

/-- truncation for `betting_mart` (`_partial`: see `hist_truncate_betting_full`) -/
theorem hist_truncate_betting_partial (cfg : Cfg) (bet : List Rat → Except Err (List XR))
    (hsc : StrictlyCausalE bet) (hl : LenPresE bet) (x y : List Rat)
    (p0 p1 : XR) (h0 h1 : List XR) (H0 : bettingMart cfg bet x = .ok (p0, h0))
    (H1 : bettingMart cfg bet (x ++ y) = .ok (p1, h1)) :
    h0.take (x.length - 1) = h1.take (x.length - 1) ∧
    (¬ Clamped cfg x → h0 = h1.take x.length) ∧
    (h0[x.length - 1]? = h1[x.length - 1]? ∨ (Clamped cfg x ∧ h0[x.length - 1]? = some (XR.fin 0))) ∧
    (∀ a b, h0[x.length - 1]? = some a → h1[x.length - 1]? = some b →
      XR.le (XR.fin 0) b = true → XR.le a b = true) :=
  mart_truncate (bettingMart_spec cfg bet) (bettingMasked_take cfg) (length_bettingMasked cfg) hsc hl H0 H1

theorem hist_length_betting (cfg : Cfg) (bet : List Rat → Except Err (List XR)) (hl : LenPresE bet)
    (x : List Rat) (p : XR) (h : List XR) (H : bettingMart cfg bet x = .ok (p, h)) :
    h.length = x.length :=
  mart_length (bettingMart_spec cfg bet) (length_bettingMasked cfg) hl H

theorem hist_truncate_betting_run_partial (sqrtF : Rat → Rat) (cfg : Cfg) (b : Bet) (x y : List Rat)
    (p0 p1 : XR) (h0 h1 : List XR) (H0 : run sqrtF cfg (.betting b) x = .ok (p0, h0))
    (H1 : run sqrtF cfg (.betting b) (x ++ y) = .ok (p1, h1)) :
    h0.length = x.length ∧ h1.length = x.length + y.length ∧
    h0.take (x.length - 1) = h1.take (x.length - 1) ∧
    (¬ Clamped cfg x → h0 = h1.take x.length) ∧
    (h0[x.length - 1]? = h1[x.length - 1]? ∨ (Clamped cfg x ∧ h0[x.length - 1]? = some (XR.fin 0))) ∧
    (∀ a b, h0[x.length - 1]? = some a → h1[x.length - 1]? = some b →
      XR.le (XR.fin 0) b = true → XR.le a b = true) :=
  ⟨hist_length_betting cfg _ (lpE_bet sqrtF cfg b) x p0 h0 H0,
   by rw [hist_length_betting cfg _ (lpE_bet sqrtF cfg b) _ p1 h1 H1, List.length_append],
   hist_truncate_betting_partial cfg _ (scE_bet sqrtF cfg b) (lpE_bet sqrtF cfg b) x y p0 p1 h0 h1 H0 H1⟩

example : run sqrtEx cfgEx (.betting .agrapa) [1, 1, 1] = .ok (0, [4 / 5, 16 / 45, 0])
    ∧ run sqrtEx cfgEx (.betting .agrapa) ([1, 1, 1] ++ [0]) = .ok (0, [4 / 5, 16 / 45, 16 / 105, 0]) :=
  ⟨by decide +kernel, by decide +kernel⟩

/-- the statement of `hist_truncate_alpha_full` for `betting_mart`;
FALSE of the model (and of the code) when the bet is not a
legitimate one: with the fixed bet `lam = -3` the running product, hence the "p-value" `1/T`, becomes
negative, and the clamp's `0` is above it. -/
def hist_truncate_betting_full : Prop :=
  ∀ (sqrtF : Rat → Rat) (cfg : Cfg) (b : Bet) (x y : List Rat) (p0 p1 : XR) (h0 h1 : List XR),
    run sqrtF cfg (.betting b) x = .ok (p0, h0) → run sqrtF cfg (.betting b) (x ++ y) = .ok (p1, h1) →
    ∃ a b, h0[x.length - 1]? = some a ∧ h1[x.length - 1]? = some b ∧ XR.le a b = true

def cfgNegBet : Cfg := { cfgEx with kw := { cfgEx.kw with lam := some (-3) } }

theorem hist_truncate_betting_full_false : ¬ hist_truncate_betting_full := by
  intro H
  have e0 : run sqrtEx cfgNegBet (.betting .fixed) [1, 1, 1] = .ok (0, [XR.fin (-2), 1, 0]) := by
    decide +kernel
  have e1 : run sqrtEx cfgNegBet (.betting .fixed) ([1, 1, 1] ++ [0])
      = .ok (0, [XR.fin (-2), 1, XR.fin (-32 / 21), 0]) := by decide +kernel
  obtain ⟨a, b, ha, hb, hle⟩ := H _ _ _ _ _ _ _ _ _ e0 e1
  cases ha
  cases hb
  revert hle
  decide +kernel

/-! ### the Kaplan tests and Wald's SPRT: the history is a causal function of the sample -/

theorem causal_kkMasked (cfg : Cfg) (n : Nat) : Causal (C11.kkMasked cfg n) :=
  causal_of_take fun l k => by
    simp only [C11.kkMasked, C11.kkFactors, C11.kkM, ← List.map_take, take_zip, cumprod_take,
      nullMeansFrom_take]

theorem causalHist_kk (cfg : Cfg) : CausalHist (kaplanKolmogorov cfg) := by
  cases hN : cfg.N with
  | none =>
    refine ⟨fun _ => [], fun _ _ => List.take_nil, fun x p h H => ?_⟩
    rw [C11.kaplanKolmogorov_eq, hN] at H
    cases ok_of_ite_error H
  | some n =>
    refine ⟨_, (causal_kkMasked cfg n).map (fun T => XR.npmin (1 / T) 1), fun x p h H => ?_⟩
    rw [C11.kaplanKolmogorov_eq, hN] at H
    exact (congrArg Prod.snd (Except.ok.inj
      (ok_of_ite_error (ok_of_ite_error (ok_of_ite_error (ok_of_ite_error H)))))).symm

theorem hist_prefix_kk (cfg : Cfg) (x y z : List Rat) (p1 p2 : XR) (h1 h2 : List XR)
    (H1 : kaplanKolmogorov cfg (x ++ y) = .ok (p1, h1)) (H2 : kaplanKolmogorov cfg (x ++ z) = .ok (p2, h2)) :
    h1.take x.length = h2.take x.length :=
  (causalHist_kk cfg).prefix H1 H2

theorem hist_truncate_kk (cfg : Cfg) (x y : List Rat) (p0 p1 : XR) (h0 h1 : List XR)
    (H0 : kaplanKolmogorov cfg x = .ok (p0, h0)) (H1 : kaplanKolmogorov cfg (x ++ y) = .ok (p1, h1)) :
    h0 = h1.take x.length :=
  (causalHist_kk cfg).truncate H0 H1

example : isOk (kaplanKolmogorov cfgEx ([1, 0] ++ [1, 1])) = true
    ∧ isOk (kaplanKolmogorov cfgEx ([1, 0] ++ [0, 1, 1])) = true
    ∧ isOk (kaplanKolmogorov cfgEx [1, 0]) = true
    ∧ (histOfRun (kaplanKolmogorov cfgEx ([1, 0] ++ [0, 1, 1]))).take 4
        ≠ histOfRun (kaplanKolmogorov cfgEx ([1, 0] ++ [1, 1])) := by decide +kernel

theorem causal_kmTerms (cfg : Cfg) : Causal (C11.kmTerms cfg) :=
  causal_of_take fun l k => by simp only [C11.kmTerms, ← List.map_take, cumprod_take]

theorem causalHist_km (cfg : Cfg) : CausalHist (kaplanMarkov cfg) := by
  refine ⟨_, (causal_kmTerms cfg).map (fun p => XR.npmin p 1), fun x p h H => ?_⟩
  rw [C11.kaplanMarkov_eq] at H
  exact (congrArg Prod.snd (Except.ok.inj (ok_of_ite_error (ok_of_ite_error H)))).symm

theorem hist_prefix_km (cfg : Cfg) (x y z : List Rat) (p1 p2 : XR) (h1 h2 : List XR)
    (H1 : kaplanMarkov cfg (x ++ y) = .ok (p1, h1)) (H2 : kaplanMarkov cfg (x ++ z) = .ok (p2, h2)) :
    h1.take x.length = h2.take x.length :=
  (causalHist_km cfg).prefix H1 H2

theorem hist_truncate_km (cfg : Cfg) (x y : List Rat) (p0 p1 : XR) (h0 h1 : List XR)
    (H0 : kaplanMarkov cfg x = .ok (p0, h0)) (H1 : kaplanMarkov cfg (x ++ y) = .ok (p1, h1)) :
    h0 = h1.take x.length :=
  (causalHist_km cfg).truncate H0 H1

example : isOk (kaplanMarkov cfgEx ([1, 0] ++ [1, 1])) = true
    ∧ isOk (kaplanMarkov cfgEx ([1, 0] ++ [0, 1, 1])) = true
    ∧ isOk (kaplanMarkov cfgEx [1, 0]) = true
    ∧ (histOfRun (kaplanMarkov cfgEx ([1, 0] ++ [0, 1, 1]))).take 4
        ≠ histOfRun (kaplanMarkov cfgEx ([1, 0] ++ [1, 1])) := by decide +kernel

theorem causal_kwTerms (cfg : Cfg) : Causal (C11.kwTerms cfg) :=
  causal_of_take fun l k => by simp only [C11.kwTerms, ← List.map_take, cumprod_take]

theorem causalHist_kw (cfg : Cfg) : CausalHist (kaplanWald cfg) := by
  refine ⟨_, (causal_kwTerms cfg).map (fun p => XR.npmin (1 / p) 1), fun x p h H => ?_⟩
  rw [C11.kaplanWald_eq] at H
  exact (congrArg Prod.snd (Except.ok.inj (ok_of_ite_error (ok_of_ite_error (ok_of_ite_error H))))).symm

theorem hist_prefix_kw (cfg : Cfg) (x y z : List Rat) (p1 p2 : XR) (h1 h2 : List XR)
    (H1 : kaplanWald cfg (x ++ y) = .ok (p1, h1)) (H2 : kaplanWald cfg (x ++ z) = .ok (p2, h2)) :
    h1.take x.length = h2.take x.length :=
  (causalHist_kw cfg).prefix H1 H2

theorem hist_truncate_kw (cfg : Cfg) (x y : List Rat) (p0 p1 : XR) (h0 h1 : List XR)
    (H0 : kaplanWald cfg x = .ok (p0, h0)) (H1 : kaplanWald cfg (x ++ y) = .ok (p1, h1)) :
    h0 = h1.take x.length :=
  (causalHist_kw cfg).truncate H0 H1

example : isOk (kaplanWald cfgEx ([1, 0] ++ [1, 1])) = true
    ∧ isOk (kaplanWald cfgEx ([1, 0] ++ [0, 1, 1])) = true
    ∧ isOk (kaplanWald cfgEx [1, 0]) = true
    ∧ (histOfRun (kaplanWald cfgEx ([1, 1] ++ [0, 1, 1]))).take 4
        ≠ histOfRun (kaplanWald cfgEx ([1, 1] ++ [1, 1])) := by decide +kernel

theorem causal_sprtMasked (cfg : Cfg) : Causal (C11.sprtMasked cfg) :=
  causal_of_take fun l k => by
    have : (C11.sprtM cfg l).take k = C11.sprtM cfg (l.take k) ∧
        (C11.sprtE0 cfg l).take k = C11.sprtE0 cfg (l.take k) := by
      unfold C11.sprtM C11.sprtE0
      cases cfg.N with
      | none => simp only [← List.map_take, and_self]
      | some n => simp only [mapIdxFrom_take, prefixSumsFrom_take, prefixSums, and_self]
    simp only [C11.sprtMasked, C11.sprtFactors, C11.sprtE, ← List.map_take, take_zip, cumprod_take,
      this.1, this.2]

theorem causalHist_sprt (cfg : Cfg) : CausalHist (waldSprt cfg) := by
  refine ⟨histOf ∘ C11.sprtMasked cfg, (causal_sprtMasked cfg).map _, fun x p h H => ?_⟩
  rw [C11.waldSprt_eq] at H
  exact (congrArg Prod.snd (Except.ok.inj (ok_of_ite_error (ok_of_ite_error (ok_of_ite_error H))))).symm

theorem hist_prefix_sprt (cfg : Cfg) (x y z : List Rat) (p1 p2 : XR) (h1 h2 : List XR)
    (H1 : waldSprt cfg (x ++ y) = .ok (p1, h1)) (H2 : waldSprt cfg (x ++ z) = .ok (p2, h2)) :
    h1.take x.length = h2.take x.length :=
  (causalHist_sprt cfg).prefix H1 H2

theorem hist_truncate_sprt (cfg : Cfg) (x y : List Rat) (p0 p1 : XR) (h0 h1 : List XR)
    (H0 : waldSprt cfg x = .ok (p0, h0)) (H1 : waldSprt cfg (x ++ y) = .ok (p1, h1)) :
    h0 = h1.take x.length :=
  (causalHist_sprt cfg).truncate H0 H1

example : isOk (waldSprt cfgEx ([1, 0] ++ [1, 1])) = true
    ∧ isOk (waldSprt cfgEx ([1, 0] ++ [0, 1, 1])) = true
    ∧ isOk (waldSprt cfgEx [1, 0]) = true
    ∧ isOk (waldSprt cfgInf ([1, 0] ++ [1, 1])) = true
    ∧ (histOfRun (waldSprt cfgEx ([1, 0] ++ [0, 1, 1]))).take 4
        ≠ histOfRun (waldSprt cfgEx ([1, 0] ++ [1, 1])) := by decide +kernel

/-! ### every test, through `run` -/

/-- C05, histories: two samples that agree in their first `|x|` observations and both continue
have p-value histories that agree in the first `|x|` entries — every test, estimator, bet,
configuration, `sqrtF`; finite and infinite `N`. -/
theorem hist_prefix_run (sqrtF : Rat → Rat) (cfg : Cfg) (test : Test) (x y z : List Rat)
    (hy : y ≠ []) (hz : z ≠ []) (p1 p2 : XR) (h1 h2 : List XR)
    (H1 : run sqrtF cfg test (x ++ y) = .ok (p1, h1)) (H2 : run sqrtF cfg test (x ++ z) = .ok (p2, h2)) :
    h1.take x.length = h2.take x.length := by
  cases test with
  | alpha e => exact hist_prefix_alpha_run sqrtF cfg e x y z hy hz p1 p2 h1 h2 H1 H2
  | betting b => exact hist_prefix_betting_run sqrtF cfg b x y z hy hz p1 p2 h1 h2 H1 H2
  | kk => exact hist_prefix_kk cfg x y z p1 p2 h1 h2 H1 H2
  | km => exact hist_prefix_km cfg x y z p1 p2 h1 h2 H1 H2
  | kw => exact hist_prefix_kw cfg x y z p1 p2 h1 h2 H1 H2
  | sprt => exact hist_prefix_sprt cfg x y z p1 p2 h1 h2 H1 H2

/-- the tests with a final-sample clamp -/
def isMart : Test → Bool
  | .alpha _ => true
  | .betting _ => true
  | _ => false

/-- C05, truncation, tests without a clamp: nothing changes -/
theorem hist_truncate_run_nonmart (sqrtF : Rat → Rat) (cfg : Cfg) (test : Test) (ht : isMart test = false)
    (x y : List Rat) (p0 p1 : XR) (h0 h1 : List XR)
    (H0 : run sqrtF cfg test x = .ok (p0, h0)) (H1 : run sqrtF cfg test (x ++ y) = .ok (p1, h1)) :
    h0 = h1.take x.length := by
  cases test with
  | alpha e => cases ht
  | betting b => cases ht
  | kk => exact hist_truncate_kk cfg x y p0 p1 h0 h1 H0 H1
  | km => exact hist_truncate_km cfg x y p0 p1 h0 h1 H0 H1
  | kw => exact hist_truncate_kw cfg x y p0 p1 h0 h1 H0 H1
  | sprt => exact hist_truncate_sprt cfg x y p0 p1 h0 h1 H0 H1

/-- C05, truncation, `alpha_mart` and `betting_mart` (strongest true version, see
`hist_truncate_alpha_full`, `hist_truncate_betting_full`) -/
theorem hist_truncate_run_mart_partial (sqrtF : Rat → Rat) (cfg : Cfg) (test : Test) (ht : isMart test = true)
    (x y : List Rat) (p0 p1 : XR) (h0 h1 : List XR)
    (H0 : run sqrtF cfg test x = .ok (p0, h0)) (H1 : run sqrtF cfg test (x ++ y) = .ok (p1, h1)) :
    h0.length = x.length ∧ h1.length = x.length + y.length ∧
    h0.take (x.length - 1) = h1.take (x.length - 1) ∧
    (¬ Clamped cfg x → h0 = h1.take x.length) ∧
    (h0[x.length - 1]? = h1[x.length - 1]? ∨ (Clamped cfg x ∧ h0[x.length - 1]? = some (XR.fin 0))) ∧
    (∀ a b, h0[x.length - 1]? = some a → h1[x.length - 1]? = some b →
      XR.le (XR.fin 0) b = true → XR.le a b = true) := by
  cases test with
  | alpha e => exact hist_truncate_alpha_run_partial sqrtF cfg e x y p0 p1 h0 h1 H0 H1
  | betting b => exact hist_truncate_betting_run_partial sqrtF cfg b x y p0 p1 h0 h1 H0 H1
  | kk => cases ht
  | km => cases ht
  | kw => cases ht
  | sprt => cases ht

end Shangrla.C05
