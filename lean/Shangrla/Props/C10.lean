/-
  C10 — escalation only ever extends the evidence: the sampling part ("measured risk is non-increasing" is about
  the statistical tests, Props/C10Risk.lean).

  Theorems are about the literal models `Shangrla.Sampling.consistentSampling` (with `prev = none`: redraw from
  scratch, `prev = some l`: continue from the previously selected `l`), `Rounds.dataCards`, `Rounds.step`,
  `provedHistory`.  Vocabulary as in `Props/C07.lean`.

  `consistent_sampling` returns the sample in sample-number order in both variants
  (repair of finding F24 of DESIGN.md §12), so for a
  non-decreasing history the continue variant returns exactly the list a redraw returns (`continue_same_set`), and a
  contest's data are always its first `n_c` cards in sample-number order, whatever list was carried over
  (`contest_data_eq_any_prev`); the data of a later round are therefore those of the earlier round with
  observations appended, in every mixture of the two variants.
-/
import Shangrla.Props.C07

namespace Shangrla.C10
open Shangrla.Sampling Shangrla.C07

theorem filter_sublist_of_imp {α : Type} {l : List α} {Q Q' : α → Bool} (h : ∀ p ∈ l, Q p = true → Q' p = true) :
    (l.filter Q).Sublist (l.filter Q') := by
  have : l.filter Q = (l.filter Q').filter Q := by
    rw [List.filter_filter]
    refine List.filter_congr fun p hp => ?_
    cases hq : Q p
    · rfl
    · exact (h p hp hq).symm
  rw [this]
  exact List.filter_sublist

/-- round `r+1` has the same contests (same ids, same order) with sample sizes at least those of round `r` -/
def SizesLE (cons cons' : List Contest) : Prop :=
  cons.length = cons'.length ∧
  ∀ (k : Nat) (con con' : Contest), cons[k]? = some con → cons'[k]? = some con' →
    con.id = con'.id ∧ con.sampleSize ≤ con'.sampleSize

/-- a carried-over list that `consistent_sampling` accepts: no repetition, valid indices -/
structure PrevOk (cards : List Card) (prev : List Nat) : Prop where
  nodup : prev.Nodup
  range : ∀ i ∈ prev, i < cards.length

theorem prevOk_nil (cards : List Card) : PrevOk cards [] := ⟨List.nodup_nil, fun _ hi => nomatch hi⟩

theorem inUnion_mono {S : List (Card × Nat)} {cons cons' : List Contest} (h : SizesLE cons cons') (p : Card × Nat)
    (hp : inUnion S cons p = true) : inUnion S cons' p = true := by
  obtain ⟨con, hm, hc⟩ := inUnion_iff.1 hp
  obtain ⟨k, hk⟩ := List.mem_iff_getElem?.1 hm
  have hlt : k < cons'.length := h.1 ▸ (List.getElem?_eq_some_iff.1 hk).1
  obtain ⟨hid, hle⟩ := h.2 k con _ hk (List.getElem?_eq_getElem hlt)
  exact inUnion_iff.2 ⟨cons'[k], List.getElem_mem hlt, hid ▸ List.take_subset_take_left _ hle hc⟩

theorem selSpec_ok {cards : List Card} (contests : List Contest) (prev0 : List Nat) :
    PrevOk cards (selSpec cards contests prev0) :=
  ⟨(sortedPairs_snd_nodup cards).sublist (List.filter_sublist.map _), fun i hi => by
    obtain ⟨p, hp, rfl⟩ := List.mem_map.1 hi
    exact snd_lt_of_mem_sortedPairs (List.mem_filter.1 hp).1⟩

theorem consistentSampling_eq {cards : List Card} {contests : List Contest} (h : Wf cards contests)
    (prev : Option (List Nat)) (hp : PrevOk cards (prev.getD [])) :
    consistentSampling cards contests prev =
      .ok (selSpec cards contests (prev.getD []), contests.map (outContest cards),
           (List.range cards.length).map (fun i => (selSpec cards contests (prev.getD [])).contains i)) :=
  consistentSampling_spec cards contests prev h.nums h.ids h.sizes' hp.nodup hp.range

theorem eq_of_consistentSampling_ok {cards : List Card} {contests : List Contest} (h : Wf cards contests) {prev : Option (List Nat)}
    (hp : PrevOk cards (prev.getD [])) {sel : List Nat} {out : List Contest} {fl : List Bool}
    (hr : consistentSampling cards contests prev = .ok (sel, out, fl)) :
    sel = selSpec cards contests (prev.getD []) ∧ out = contests.map (outContest cards) := by
  have := Prod.mk.inj (Except.ok.inj (hr.symm.trans (consistentSampling_eq h prev hp)))
  exact ⟨this.1, (Prod.mk.inj this.2).1⟩

/-- the carried-over cards are already in the union of the per-contest prefixes -/
def JunkFree (cards : List Card) (contests : List Contest) (prev : List Nat) : Prop :=
  ∀ i ∈ prev, ∃ p ∈ sortedPairs cards, p.2 = i ∧ inUnion (sortedPairs cards) contests p = true

theorem selSpec_of_junkFree {cards : List Card} {contests : List Contest} {prev : List Nat}
    (hj : JunkFree cards contests prev) : selSpec cards contests prev = selSpec cards contests [] := by
  refine congrArg (List.map (fun p : Card × Nat => p.2)) (List.filter_congr fun p hp => ?_)
  cases hu : inUnion (sortedPairs cards) contests p
  · have : prev.contains p.2 = false := by
      rw [List.contains_eq_mem]
      refine decide_eq_false fun hm => ?_
      obtain ⟨q, hq, h2, h3⟩ := hj p.2 hm
      rw [eq_of_mem_sortedPairs_of_snd hq hp h2, hu] at h3
      cases h3
    rw [this]; rfl
  · rfl

theorem selSpec_ite {cards : List Card} {contests : List Contest} {prev : List Nat}
    (hj : JunkFree cards contests prev) (b : Bool) :
    selSpec cards contests (if b then prev else []) = selSpec cards contests [] := by
  cases b
  · rfl
  · exact selSpec_of_junkFree hj

theorem selSpec_sublist {cards : List Card} {cons cons' : List Contest} (hle : SizesLE cons cons') :
    (selSpec cards cons []).Sublist (selSpec cards cons' []) := by
  rw [selSpec_nil, selSpec_nil]
  exact (filter_sublist_of_imp fun p _ => inUnion_mono hle p).map _

theorem junkFree_scratch {cards : List Card} {cons cons' : List Contest} (hle : SizesLE cons cons') :
    JunkFree cards cons' (selSpec cards cons []) := by
  intro i hi
  rw [selSpec_nil] at hi
  obtain ⟨p, hp, rfl⟩ := List.mem_map.1 hi
  exact ⟨p, (List.mem_filter.1 hp).1, rfl, inUnion_mono hle p (List.mem_filter.1 hp).2⟩

theorem dataCards_selSpec {cards : List Card} {contests : List Contest} (h : Wf cards contests) (prev0 : List Nat)
    (con : Contest) (hm : con ∈ contests) (h1 : 1 ≤ con.sampleSize) :
    Rounds.dataCards true cards (outContest cards con) (selSpec cards contests prev0) =
      .ok ((firstCards (sortedPairs cards) con.id con.sampleSize).map (·.2)) :=
  dataCards_of_union h _ (fun _ hu => by rw [hu]; rfl) hm h1

theorem data_prefix {cards : List Card} {cons cons' : List Contest} (h : Wf cards cons) (h' : Wf cards cons')
    (hle : SizesLE cons cons') (prev0 prev0' : List Nat) {k : Nat} {con con' : Contest} (hk : cons[k]? = some con)
    (hk' : cons'[k]? = some con') (h1 : 1 ≤ con.sampleSize) :
    ∃ d d', Rounds.dataCards true cards (outContest cards con) (selSpec cards cons prev0) = .ok d ∧
      Rounds.dataCards true cards (outContest cards con') (selSpec cards cons' prev0') = .ok d' ∧ d <+: d' := by
  obtain ⟨hid, hsz⟩ := hle.2 k con con' hk hk'
  exact ⟨_, _, dataCards_selSpec h prev0 con (List.mem_iff_getElem?.2 ⟨k, hk⟩) h1,
    dataCards_selSpec h' prev0' con' (List.mem_iff_getElem?.2 ⟨k, hk'⟩) (Nat.le_trans h1 hsz),
    hid ▸ (List.take_prefix_take_left hsz).map _⟩

/-- **C10, what a continued draw returns for an arbitrary acceptable carried-over list**: the carried-over cards
together with the union of the per-contest prefixes, in sample-number order and without repetition; thresholds
are those of a redraw. -/
theorem sample_eq_sorted_union {cards : List Card} {contests : List Contest} (h : Wf cards contests)
    (prev : List Nat) (hp : PrevOk cards prev) :
    ∃ flags, consistentSampling cards contests (some prev) =
        .ok (selSpec cards contests prev, contests.map (outContest cards), flags) ∧
      (∀ i, i ∈ selSpec cards contests prev ↔ (i ∈ prev ∨ i ∈ (unionSorted cards contests).map (·.2))) ∧
      ((sortedPairs cards).filter (fun p => inUnion (sortedPairs cards) contests p || prev.contains p.2)).Pairwise
        (fun a b => a.1.sampleNum < b.1.sampleNum) := by
  refine ⟨_, consistentSampling_eq h (some prev) hp, fun i => ?_,
    (sortedPairs_strict h.nums).sublist List.filter_sublist⟩
  unfold selSpec unionSorted
  simp only [List.mem_map, List.mem_filter, Bool.or_eq_true, List.contains_iff_mem]
  constructor
  · rintro ⟨p, ⟨hp1, hp2 | hp2⟩, rfl⟩
    · exact Or.inr ⟨p, ⟨hp1, hp2⟩, rfl⟩
    · exact Or.inl hp2
  · rintro (hi | ⟨p, ⟨hp1, hp2⟩, rfl⟩)
    · exact ⟨(cards[i]'(hp.range i hi), i), ⟨mem_sortedPairs.2 (List.getElem?_eq_getElem _), Or.inr hi⟩, rfl⟩
    · exact ⟨p, ⟨hp1, Or.inl hp2⟩, rfl⟩

/-- continuing from a carried-over list that is already contained in the new union (what every round of a
non-decreasing history hands to the next one) returns what a redraw returns -/
theorem continue_eq_scratch_of_junkFree {cards : List Card} {cons' : List Contest} (h' : Wf cards cons')
    {prev : List Nat} (hp : PrevOk cards prev) (hj : JunkFree cards cons' prev) :
    consistentSampling cards cons' (some prev) = consistentSampling cards cons' none := by
  rw [consistentSampling_eq h' (some prev) hp, consistentSampling_eq h' none (prevOk_nil cards)]
  show Except.ok (selSpec cards cons' prev, _, List.map (fun i => (selSpec cards cons' prev).contains i) _) = _
  rw [selSpec_of_junkFree hj]
  rfl

/-- **C10, continuing equals redrawing** (in the strong form "same list, same thresholds, same flags"): continuing from
the result of a draw with sizes `n` using sizes `n' ≥ n` returns exactly what a redraw with sizes `n'` returns. -/
theorem continue_same_set {cards : List Card} {cons cons' : List Contest} (h : Wf cards cons) (h' : Wf cards cons')
    (hle : SizesLE cons cons') {sel : List Nat} {out : List Contest} {fl : List Bool}
    (hr : consistentSampling cards cons none = .ok (sel, out, fl)) :
    consistentSampling cards cons' (some sel) = consistentSampling cards cons' none := by
  rw [(eq_of_consistentSampling_ok h (prev := none) (prevOk_nil cards) hr).1]
  exact continue_eq_scratch_of_junkFree h' (selSpec_ok cons []) (junkFree_scratch hle)

/-- **C10, the selection only grows.**
With sizes pointwise non-decreasing, the cards selected in the next round contain those
of the previous round, whether the next round redraws from scratch or continues from the previous selection; the
earlier list is even a subsequence of the later one. -/
theorem sample_mono {cards : List Card} {cons cons' : List Contest} (h : Wf cards cons) (h' : Wf cards cons')
    (hle : SizesLE cons cons') {sel sel' : List Nat} {out out' : List Contest} {fl fl' : List Bool}
    (hr : consistentSampling cards cons none = .ok (sel, out, fl)) (variant : Bool)
    (hr' : consistentSampling cards cons' (if variant then some sel else none) = .ok (sel', out', fl')) :
    sel.Sublist sel' ∧ ∀ i ∈ sel, i ∈ sel' := by
  -- in either variant the next round returns what a redraw returns
  have hs : consistentSampling cards cons' none = .ok (sel', out', fl') := by
    cases variant
    · exact hr'
    · exact (continue_same_set h h' hle hr).symm.trans hr'
  have : sel.Sublist sel' := by
    rw [(eq_of_consistentSampling_ok h (prev := none) (prevOk_nil cards) hr).1,
      (eq_of_consistentSampling_ok h' (prev := none) (prevOk_nil cards) hs).1]
    exact selSpec_sublist hle
  exact ⟨this, fun i hi => this.subset hi⟩

theorem continue_contains_prev {cards : List Card} {contests : List Contest} (h : Wf cards contests)
    {prev : List Nat} (hp : PrevOk cards prev) {sel' : List Nat} {out' : List Contest} {fl' : List Bool}
    (hr' : consistentSampling cards contests (some prev) = .ok (sel', out', fl')) : ∀ i ∈ prev, i ∈ sel' := by
  obtain ⟨_, _, hmem, _⟩ := sample_eq_sorted_union h prev hp
  rw [(eq_of_consistentSampling_ok h (prev := some prev) hp hr').1]
  exact fun i hi => (hmem i).2 (Or.inl hi)

/-- a contest's data do not depend on the carried-over list: for every acceptable `prev` (and for `none`) they are
the contest's first `n_c` cards in sample-number order -/
theorem contest_data_eq_any_prev {cards : List Card} {contests : List Contest} (h : Wf cards contests)
    (prev : Option (List Nat)) (hp : PrevOk cards (prev.getD [])) :
    ∃ sel flags, consistentSampling cards contests prev = .ok (sel, contests.map (outContest cards), flags) ∧
      ∀ con ∈ contests, 1 ≤ con.sampleSize →
        Rounds.dataCards true cards (outContest cards con) sel =
          .ok ((firstCards (sortedPairs cards) con.id con.sampleSize).map (·.2)) :=
  ⟨_, _, consistentSampling_eq h prev hp, fun con hm h1 => dataCards_selSpec h _ con hm h1⟩

theorem data_extends {cards : List Card} {cons cons' : List Contest} (h : Wf cards cons) (h' : Wf cards cons')
    (hle : SizesLE cons cons') (prev prev' : Option (List Nat)) (hp : PrevOk cards (prev.getD []))
    (hp' : PrevOk cards (prev'.getD [])) {sel sel' : List Nat} {out out' : List Contest} {fl fl' : List Bool}
    (hr : consistentSampling cards cons prev = .ok (sel, out, fl))
    (hr' : consistentSampling cards cons' prev' = .ok (sel', out', fl')) :
    out = cons.map (outContest cards) ∧ out' = cons'.map (outContest cards) ∧
    ∀ (k : Nat) (con con' : Contest), cons[k]? = some con → cons'[k]? = some con' → 1 ≤ con.sampleSize →
      out[k]? = some (outContest cards con) ∧ out'[k]? = some (outContest cards con') ∧
      ∃ d d', Rounds.dataCards true cards (outContest cards con) sel = .ok d ∧
        Rounds.dataCards true cards (outContest cards con') sel' = .ok d' ∧ d <+: d' := by
  obtain ⟨rfl, rfl⟩ := eq_of_consistentSampling_ok h hp hr
  obtain ⟨rfl, rfl⟩ := eq_of_consistentSampling_ok h' hp' hr'
  refine ⟨rfl, rfl, fun k con con' hk hk' h1 => ⟨?_, ?_, data_prefix h h' hle _ _ hk hk' h1⟩⟩
  · rw [List.getElem?_map, hk]; rfl
  · rw [List.getElem?_map, hk']; rfl

/-- **C10, data extend under a redraw.** Round `r+1` redraws from scratch with sizes at least those of round `r`: for
every contest with `n_c ≥ 1` the sequence of cards seen by its assertions in round `r+1` is that of round `r` with
cards appended. -/
theorem data_extends_scratch {cards : List Card} {cons cons' : List Contest} (h : Wf cards cons) (h' : Wf cards cons')
    (hle : SizesLE cons cons') (prev : Option (List Nat)) (hp : PrevOk cards (prev.getD []))
    {sel sel' : List Nat} {out out' : List Contest} {fl fl' : List Bool}
    (hr : consistentSampling cards cons prev = .ok (sel, out, fl))
    (hr' : consistentSampling cards cons' none = .ok (sel', out', fl')) :
    ∀ (k : Nat) (con con' : Contest), cons[k]? = some con → cons'[k]? = some con' → 1 ≤ con.sampleSize →
      out[k]? = some (outContest cards con) ∧ out'[k]? = some (outContest cards con') ∧
      ∃ d d', Rounds.dataCards true cards (outContest cards con) sel = .ok d ∧
        Rounds.dataCards true cards (outContest cards con') sel' = .ok d' ∧ d <+: d' :=
  (data_extends h h' hle prev none hp (prevOk_nil cards) hr hr').2.2

/-- **C10, data extend under a continuation.** The same when round `r+1` continues from the list `sel` returned by round
`r` (which itself may have been a redraw or a continuation of any acceptable list). -/
theorem data_extends_continue {cards : List Card} {cons cons' : List Contest} (h : Wf cards cons) (h' : Wf cards cons')
    (hle : SizesLE cons cons') (prev : Option (List Nat)) (hp : PrevOk cards (prev.getD []))
    {sel sel' : List Nat} {out out' : List Contest} {fl fl' : List Bool}
    (hr : consistentSampling cards cons prev = .ok (sel, out, fl))
    (hr' : consistentSampling cards cons' (some sel) = .ok (sel', out', fl')) :
    ∀ (k : Nat) (con con' : Contest), cons[k]? = some con → cons'[k]? = some con' → 1 ≤ con.sampleSize →
      out[k]? = some (outContest cards con) ∧ out'[k]? = some (outContest cards con') ∧
      ∃ d d', Rounds.dataCards true cards (outContest cards con) sel = .ok d ∧
        Rounds.dataCards true cards (outContest cards con') sel' = .ok d' ∧ d <+: d' :=
  (data_extends h h' hle prev (some sel) hp ((eq_of_consistentSampling_ok h hp hr).1 ▸ selSpec_ok cons _) hr hr').2.2

/-- **C10, confirmation is sticky.** Over any sequence of calls of `set_p_values` (any p-values, any risk limit), once
the `proved` flag of an assertion is set it stays set: in the sequence of flags every `true` is followed only by
`true`; and a flag that was set before the first call stays set throughout. -/
theorem proved_sticky (limit : Rat) (b : Bool) (ps : List Rat) :
    (provedHistory limit b ps).Pairwise (fun x y => x = true → y = true) ∧
    (b = true → ∀ y ∈ provedHistory limit b ps, y = true) ∧
    (∀ p, p ≤ limit → provedStep limit p b = true) := by
  have all_true : ∀ (ps : List Rat) (b : Bool), b = true → ∀ y ∈ provedHistory limit b ps, y = true := by
    intro ps
    induction ps with
    | nil => exact fun _ _ _ hy => nomatch hy
    | cons p ps ih =>
      intro b hb y hy
      simp only [provedHistory, List.mem_cons] at hy
      have hstep : provedStep limit p b = true := by rw [provedStep, hb, Bool.or_true]
      rcases hy with rfl | hy
      · exact hstep
      · exact ih _ hstep y hy
  refine ⟨?_, all_true ps b, fun p hp => by simp [provedStep, hp]⟩
  induction ps generalizing b with
  | nil => simp [provedHistory]
  | cons p ps ih =>
    simp only [provedHistory, List.pairwise_cons]
    exact ⟨fun y hy hx => all_true ps _ hx y hy, ih _⟩

/-! ### the rounds state machine -/

theorem step_eq (st : Rounds.State) (r : Rounds.Round)
    (h : Wf st.cards (Rounds.setSizes st.contests r.sizes)) (hp : PrevOk st.cards st.prev) :
    ∃ st' o, Rounds.step true st r = .ok (st', o) ∧ st'.cards = st.cards ∧
      st'.contests = (Rounds.setSizes st.contests r.sizes).map (outContest st.cards) ∧
      st'.prev = o.selected ∧
      o.selected = selSpec st.cards (Rounds.setSizes st.contests r.sizes) (if r.cont then st.prev else []) ∧
      o.dataCards = ((Rounds.setSizes st.contests r.sizes).map (outContest st.cards)).map
        (fun con => Rounds.dataCards true st.cards con o.selected) := by
  have he : consistentSampling st.cards (Rounds.setSizes st.contests r.sizes) (if r.cont then some st.prev else none)
      = .ok (selSpec st.cards (Rounds.setSizes st.contests r.sizes) (if r.cont then st.prev else []),
          (Rounds.setSizes st.contests r.sizes).map (outContest st.cards),
          (List.range st.cards.length).map (fun i =>
            (selSpec st.cards (Rounds.setSizes st.contests r.sizes) (if r.cont then st.prev else [])).contains i)) := by
    cases r.cont
    · exact consistentSampling_eq h none (prevOk_nil _)
    · exact consistentSampling_eq h (some st.prev) hp
  unfold Rounds.step
  dsimp only
  rw [he]
  exact ⟨_, _, rfl, rfl, rfl, rfl, rfl, rfl⟩

/-- **C10 on the state machine.** Two consecutive rounds from a state whose carried-over list is acceptable and
contains nothing outside the first round's union (e.g. the initial state, `prev = []`, or any state reached by
rounds with non-decreasing sizes): both rounds succeed, in either variant each; the second selection extends the
first; every contest with `n_c ≥ 1` sees its earlier data with observations appended; and the state after the
first round again satisfies the hypotheses, so the statement chains along histories of any length. -/
theorem rounds_extend (st : Rounds.State) (r₁ r₂ : Rounds.Round)
    (h₁ : Wf st.cards (Rounds.setSizes st.contests r₁.sizes)) (hp : PrevOk st.cards st.prev)
    (hj : JunkFree st.cards (Rounds.setSizes st.contests r₁.sizes) st.prev)
    (h₂ : Wf st.cards (Rounds.setSizes ((Rounds.setSizes st.contests r₁.sizes).map (outContest st.cards)) r₂.sizes))
    (hle : SizesLE (Rounds.setSizes st.contests r₁.sizes)
      (Rounds.setSizes ((Rounds.setSizes st.contests r₁.sizes).map (outContest st.cards)) r₂.sizes)) :
    ∃ st₁ o₁ st₂ o₂, Rounds.step true st r₁ = .ok (st₁, o₁) ∧ Rounds.step true st₁ r₂ = .ok (st₂, o₂) ∧
      st₁.cards = st.cards ∧ PrevOk st.cards st₁.prev ∧
      JunkFree st.cards (Rounds.setSizes st₁.contests r₂.sizes) st₁.prev ∧
      o₁.selected.Sublist o₂.selected ∧
      ∀ (k : Nat) (con : Contest), (Rounds.setSizes st.contests r₁.sizes)[k]? = some con → 1 ≤ con.sampleSize →
        ∃ d d', o₁.dataCards[k]? = some (.ok d) ∧ o₂.dataCards[k]? = some (.ok d') ∧ d <+: d' := by
  -- a round that starts junk-free selects `selSpec … []` (`selSpec_ite`) and carries exactly that list over, which is
  -- junk-free for any larger sizes (`junkFree_scratch`); so both rounds select specification lists, and the two
  -- claims are `selSpec_sublist` and `data_prefix` about those
  obtain ⟨st₁, o₁, e₁, hc₁, hcon₁, hprev₁, hsel₁, hdata₁⟩ := step_eq st r₁ h₁ hp
  rw [selSpec_ite hj] at hsel₁
  have hp₁ : PrevOk st.cards st₁.prev := by rw [hprev₁, hsel₁]; exact selSpec_ok _ _
  have hj₁ : JunkFree st.cards (Rounds.setSizes st₁.contests r₂.sizes) st₁.prev := by
    rw [hprev₁, hsel₁, hcon₁]; exact junkFree_scratch hle
  obtain ⟨st₂, o₂, e₂, _, _, _, hsel₂, hdata₂⟩ :=
    step_eq st₁ r₂ (by rw [hc₁, hcon₁]; exact h₂) (hc₁.symm ▸ hp₁)
  rw [hc₁] at hsel₂ hdata₂
  rw [selSpec_ite hj₁, hcon₁] at hsel₂
  rw [hcon₁] at hdata₂
  refine ⟨st₁, o₁, st₂, o₂, e₁, e₂, hc₁, hp₁, hj₁, ?_, fun k con hk h1 => ?_⟩
  · rw [hsel₁, hsel₂]; exact selSpec_sublist hle
  · have hlt := hle.1 ▸ (List.getElem?_eq_some_iff.1 hk).1
    obtain ⟨d, d', hd, hd', hpre⟩ := data_prefix h₁ h₂ hle [] [] hk (List.getElem?_eq_getElem hlt) h1
    refine ⟨d, d', ?_, ?_, hpre⟩
    · rw [hdata₁, hsel₁, List.getElem?_map, List.getElem?_map, hk]
      exact congrArg some hd
    · rw [hdata₂, hsel₂, List.getElem?_map, List.getElem?_map, List.getElem?_eq_getElem hlt]
      exact congrArg some hd'

/-! ### Non-vacuity -/

-- sizes (3,4) after (1,2) on the six-card example of C07
example : SizesLE [⟨"city_council", 1, none, none, 0⟩, ⟨"measure_1", 2, none, none, 0⟩] exContests := by
  refine ⟨rfl, fun k con con' h1 h2 => ?_⟩
  rcases k with _ | _ | k
  · cases h1; cases h2; decide +kernel
  · cases h1; cases h2; decide +kernel
  · cases h1
example : Wf exCards [⟨"city_council", 1, none, none, 0⟩, ⟨"measure_1", 2, none, none, 0⟩] :=
  ⟨by decide +kernel, by decide +kernel, by decide +kernel⟩
example : PrevOk exCards [3, 1] := ⟨by decide, by decide⟩
-- the initial state of an audit (nothing carried over) satisfies the hypotheses of `rounds_extend`
example (cards : List Card) (cons : List Contest) : PrevOk cards [] ∧ JunkFree cards cons [] :=
  ⟨prevOk_nil cards, fun _ hi => nomatch hi⟩
-- a flag that goes up at the second call although the third p-value is above the limit again
example (limit p q : Rat) (hp : p ≤ limit) (hq : ¬ q ≤ limit) :
    provedHistory limit false [q, p, q] = [false, true, true] := by
  simp [provedHistory, provedStep, hp, hq]

end Shangrla.C10
