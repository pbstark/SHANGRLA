/-
  C03 ∘ C06 ∘ C09 ∘ C01 for a card-level comparison audit (no style filter, no pools): the overstatement-assorter
  values of a population whose manual records make the assertion false average at most 1/2 and lie in
  `[0, 2/(2 − v/u)]`, so `RiskLimit.audit_risk_limit_run` applies.
-/
import Shangrla.Props.RiskLimit
import Shangrla.Props.C03
import Shangrla.Props.C06

namespace Shangrla.RiskLimit
open Shangrla Shangrla.Ville Shangrla.Status Shangrla.AuditLoop Shangrla.Overstatement

theorem margin_lt {α : Type} (ca : α → ℚ) (u : ℚ) (cards : List α) (hne : cards ≠ [])
    (hca : ∀ x ∈ cards, ca x ≤ u) : 2 * ((cards.map ca).sum / cards.length) - 1 < 2 * u := by
  have hmean := Overstatement.mean_le (List.forall_mem_map.2 hca) (by simpa using hne)
  rw [List.length_map] at hmean
  exact lt_of_lt_of_le (sub_one_lt _) (mul_le_mul_of_nonneg_left hmean zero_le_two)

/-- C03's identity, at the level of values. -/
theorem comparison_null {α : Type} (ca ma : α → ℚ) (u : ℚ) (cards : List α) (hne : cards ≠ [])
    (hu : 0 < u) (hca : ∀ x ∈ cards, 0 ≤ ca x ∧ ca x ≤ u)
    (hfalse : (cards.map ma).sum ≤ (cards.length : ℚ) * (1 / 2)) :
    let v := 2 * ((cards.map ca).sum / cards.length) - 1
    (cards.map (fun x => ovA v u (ca x) (ma x))).sum ≤ (cards.length : ℚ) * (1 / 2) := by
  intro v
  have hn : (cards.length : ℚ) ≠ 0 := by exact_mod_cast (List.length_pos_iff.mpr hne).ne'
  have hD := two_sub_div_pos hu (margin_lt ca u cards hne fun x hx => (hca x hx).2)
  -- n − (Σca − Σma)/u ≤ (n/2)(2 − v/u) = n − (Σca − n/2)/u  ⇔  Σma ≤ n/2
  have hrhs : (cards.length : ℚ) * (1 / 2) * (2 - v / u)
      = cards.length - ((cards.map ca).sum - cards.length * (1 / 2)) / u := by
    rw [← mul_div_cancel₀ (cards.map ca).sum hn]
    simp only [v]
    ring
  rw [C03.sum_ovA, div_le_iff₀ hD, hrhs]
  exact sub_le_sub_left (div_le_div_of_nonneg_right (sub_le_sub_left hfalse _) hu.le) _

/-- **Risk limit of a card-level comparison audit.**  Each card carries the assorter value of its CVR (`ca`) and of
its manual record (`ma`), both in `[0,u]`; the margin `v = 2·mean(ca) − 1` is the reported one.  The assertion's data
are the overstatement-assorter values `ovA v u ca ma = (1 − (ca − ma)/u)/(2 − v/u)`, its test a shipped `NonnegMean`
test with `N` = number of cards, `t = 1/2`, `u = 2/(2 − v/u)`.  If the assertion is false on the manual records
(their assorter mean is at most 1/2) the audit is ever reported complete with probability at most the contest's
risk limit. -/
theorem comparison_risk_limit {α : Type} (data : String → String → α → ℚ)
    (T : String → String → SeqTest) (s : State) (c : Contest) (hc : c ∈ s) (a : Assertion)
    (ha : a ∈ c.assertions) (cards : List α) (hne : cards ≠ []) (ca ma : α → ℚ) (u : ℚ) (hu : 0 < u)
    (hca : ∀ x ∈ cards, 0 ≤ ca x ∧ ca x ≤ u) (hma : ∀ x ∈ cards, 0 ≤ ma x ∧ ma x ≤ u)
    (hdata : data c.id a.name = fun x => ovA (2 * ((cards.map ca).sum / cards.length) - 1) u (ca x) (ma x))
    (sqrtF : ℚ → ℚ) (cfg : NM.Cfg) (test : NM.Test)
    (hN : cfg.N = some cards.length) (ht : cfg.t = 1 / 2)
    (hcu : cfg.u = 2 / (2 - (2 * ((cards.map ca).sum / cards.length) - 1) / u))
    (hT : T c.id a.name = NM.run sqrtF cfg test)
    (hdoc : C01.DocumentedFinite sqrtF cfg test)
    (hr0 : 0 < c.riskLimit) (hr1 : c.riskLimit < 1)
    (hfalse : (cards.map ma).sum ≤ (cards.length : ℚ) * (1 / 2)) :
    hitG (auditComplete data T s) cards.length cards [] ≤ c.riskLimit := by
  apply audit_risk_limit_run data T s c hc a ha cards sqrtF cfg test hN hT hdoc hr0 hr1
  · intro x hx
    rw [hdata, hcu]
    exact C06.ovA_range hu (margin_lt ca u cards hne (fun x hx => (hca x hx).2)) (hca x hx) (hma x hx)
  · rw [hdata, ht]
    exact comparison_null ca ma u cards hne hu hca hfalse

end Shangrla.RiskLimit
