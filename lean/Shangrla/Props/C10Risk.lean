/-
  C10 — escalation only ever extends the evidence, the risk part: "the measured risk never increases
  when the sample is extended".

  For every test of the literal model `Shangrla.NM.run sqrtF cfg test` declared to be in random order
  (`cfg.randomOrder = true`: the overall p-value is the least entry of the p-value history) and samples
  `x`, `x ++ y` on which the test returns, the overall p-value on `x ++ y` is `XR.le` the overall
  p-value on `x`.

  For the Kaplan tests and the SPRT the history on `x` is the first `|x|` entries of the history on
  `x ++ y` (`C05.hist_truncate_*`) and the overall value is `np.min` of the history (C11), so the minimum
  over the longer history is the smaller one.  The martingale tests overwrite the last term by `+inf`
  (p-value `0`) when the sample total exceeds `N t` (final-sample clamp), so the history on `x` need not be
  a prefix of the history on `x ++ y`; but when the clamp fires on `x` and `y ≥ 0` it fires on `x ++ y`
  too, hence both overall values are `0`.

  The guards are those of the C11 theorems (they make every history entry a rational in `[0,1]`), asked of
  both samples (`RiskGuard`), or of the configuration only for the shipped estimators and bets.  Without
  a guard the statement is false: `risk_mono_run_unguarded_false` (a negative bet),
  `risk_mono_run_unguarded_false_nan` (entries can be NaN and `np.min` propagates NaN).
-/
import Shangrla.Props.C05
import Shangrla.Props.C11Kaplan
import Shangrla.Props.C11Mart
import Shangrla.Props.C11Shipped

namespace Shangrla.C10
open Shangrla Shangrla.NM Shangrla.XR

/-! ### the minimum over a longer history is the smaller one -/

theorem minList_take_le {h0 h1 : List XR} {k : Nat} (e : h0 = h1.take k) (hne : h0 ≠ [])
    (hP : ∀ h ∈ h1, IsP h) : XR.le (XR.minList h1) (XR.minList h0) = true := by
  subst e
  have hP0 : ∀ h ∈ h1.take k, IsP h := fun h hh => hP h (List.mem_of_mem_take hh)
  have h1ne : h1 ≠ [] := by
    rintro rfl
    exact hne (by simp)
  obtain ⟨_, hm, _⟩ := C11.minList_is_smallest hne hP0
  obtain ⟨_, _, hs⟩ := C11.minList_is_smallest h1ne hP
  exact hs _ (List.mem_of_mem_take hm)

/-- shape shared by the four tests without a final-sample clamp: truncation of the history (C05) and
well-formed results (C11) on both samples give monotonicity of the overall value -/
theorem risk_mono_of_truncate {T : List Rat → Except Err (XR × List XR)} {x y : List Rat} {ro : Bool}
    (htr : ∀ p0 p1 h0 h1, T x = .ok (p0, h0) → T (x ++ y) = .ok (p1, h1) → h0 = h1.take x.length)
    (hne : x ≠ []) (hro : ro = true)
    (W0 : ∃ p hist, T x = .ok (p, hist) ∧ NM.WellFormed x.length ro p hist)
    (W1 : ∃ p hist, T (x ++ y) = .ok (p, hist) ∧ NM.WellFormed (x ++ y).length ro p hist)
    {p0 p1 : XR} {h0 h1 : List XR} (H0 : T x = .ok (p0, h0)) (H1 : T (x ++ y) = .ok (p1, h1)) :
    XR.le p1 p0 = true := by
  obtain ⟨_, _, E0, hl0, -, -, hm0, -⟩ := W0
  obtain ⟨_, _, E1, -, hP1, -, hm1, -⟩ := W1
  cases E0.symm.trans H0
  cases E1.symm.trans H1
  rw [hm0 hro, hm1 hro]
  refine minList_take_le (htr _ _ _ _ H0 H1) (fun h => ?_) hP1
  rw [h] at hl0
  exact hne (List.length_eq_zero_iff.mp hl0.symm)

theorem fits_head {N : Option Nat} {x y : List Rat} (hN : ∀ n, N = some n → (x ++ y).length ≤ n) :
    ∀ n, N = some n → x.length ≤ n :=
  fun n hn => Nat.le_trans (by simp) (hN n hn)

/-! ### the Kaplan tests and Wald's SPRT -/

/-- **C10, risk, `kaplan_kolmogorov`.**  Random order, `x` non-empty, and the guard of `C11.wellformed_kk`
asked of `x ++ y`, which implies it for `x`. -/
theorem risk_mono_kk (cfg : Cfg) (n : Nat) (x y : List Rat) (hro : cfg.randomOrder = true)
    (hN : cfg.N = some n) (hne : x ≠ []) (hxy : ∀ a ∈ x ++ y, 0 ≤ a) (hlen : (x ++ y).length ≤ n)
    (hg : 0 ≤ cfg.kw.g.getD 0) (p0 p1 : XR) (h0 h1 : List XR)
    (H0 : kaplanKolmogorov cfg x = .ok (p0, h0)) (H1 : kaplanKolmogorov cfg (x ++ y) = .ok (p1, h1)) :
    XR.le p1 p0 = true := by
  have hx : ∀ a ∈ x, 0 ≤ a := fun a ha => hxy a (List.mem_append_left _ ha)
  have hlx : x.length ≤ n := Nat.le_trans (by simp) hlen
  exact risk_mono_of_truncate (C05.hist_truncate_kk cfg x y) hne hro (C11.kk_wf cfg n x hN hne hx hlx hg)
    (C11.kk_wf cfg n (x ++ y) hN (by simp [hne]) hxy hlen hg) H0 H1

/-- **C10, risk, `kaplan_markov`.**  Guard: random order, `x` non-empty, observations `≥ 0`, `g ≥ 0`,
`t + g > 0`. -/
theorem risk_mono_km (cfg : Cfg) (x y : List Rat) (hro : cfg.randomOrder = true) (hne : x ≠ [])
    (hxy : ∀ a ∈ x ++ y, 0 ≤ a) (hg : 0 ≤ cfg.kw.g.getD 0) (htg : 0 < cfg.t + cfg.kw.g.getD 0)
    (p0 p1 : XR) (h0 h1 : List XR)
    (H0 : kaplanMarkov cfg x = .ok (p0, h0)) (H1 : kaplanMarkov cfg (x ++ y) = .ok (p1, h1)) :
    XR.le p1 p0 = true := by
  have hx : ∀ a ∈ x, 0 ≤ a := fun a ha => hxy a (List.mem_append_left _ ha)
  exact risk_mono_of_truncate (C05.hist_truncate_km cfg x y) hne hro (C11.km_wf cfg x hne hx hg htg)
    (C11.km_wf cfg (x ++ y) (by simp [hne]) hxy hg htg) H0 H1

/-- **C10, risk, `kaplan_wald`.**  Guard: random order, `x` non-empty, observations `≥ 0`, `t > 0`,
`0 ≤ g ≤ 1`. -/
theorem risk_mono_kw (cfg : Cfg) (x y : List Rat) (hro : cfg.randomOrder = true) (hne : x ≠ [])
    (hxy : ∀ a ∈ x ++ y, 0 ≤ a) (ht : 0 < cfg.t) (hg0 : 0 ≤ cfg.kw.g.getD 0) (hg1 : cfg.kw.g.getD 0 ≤ 1)
    (p0 p1 : XR) (h0 h1 : List XR)
    (H0 : kaplanWald cfg x = .ok (p0, h0)) (H1 : kaplanWald cfg (x ++ y) = .ok (p1, h1)) :
    XR.le p1 p0 = true := by
  have hx : ∀ a ∈ x, 0 ≤ a := fun a ha => hxy a (List.mem_append_left _ ha)
  exact risk_mono_of_truncate (C05.hist_truncate_kw cfg x y) hne hro (C11.kw_wf cfg x hne hx ht hg0 hg1)
    (C11.kw_wf cfg (x ++ y) (by simp [hne]) hxy ht hg0 hg1) H0 H1

theorem sprtGuard_head {cfg : Cfg} {x y : List Rat} (hne : x ≠ []) (G : C11.SprtGuard cfg (x ++ y)) :
    C11.SprtGuard cfg x where
  ne := hne
  range := fun a ha => G.range a (List.mem_append_left _ ha)
  fits := fits_head G.fits
  t_pos := G.t_pos
  t_lt_u := G.t_lt_u
  t_le_eta := G.t_le_eta
  eta_le_u := G.eta_le_u
  ro := G.ro

/-- **C10, risk, `wald_sprt`.**  Guard: random order, `x` non-empty, and `C11.SprtGuard` for `x ++ y`
(observations in `[0,u]`, `|x ++ y| ≤ N` for finite `N`, `0 < t < u`, `t ≤ eta ≤ u`). -/
theorem risk_mono_sprt (cfg : Cfg) (x y : List Rat) (hro : cfg.randomOrder = true) (hne : x ≠ [])
    (G : C11.SprtGuard cfg (x ++ y)) (p0 p1 : XR) (h0 h1 : List XR)
    (H0 : waldSprt cfg x = .ok (p0, h0)) (H1 : waldSprt cfg (x ++ y) = .ok (p1, h1)) :
    XR.le p1 p0 = true :=
  risk_mono_of_truncate (C05.hist_truncate_sprt cfg x y) hne hro (C11.sprt_wf cfg x (sprtGuard_head hne G))
    (C11.sprt_wf cfg (x ++ y) G) H0 H1

/-! ### the martingale tests: the final-sample clamp -/

theorem clamped_append {cfg : Cfg} {x y : List Rat} (hc : C05.Clamped cfg x) (hy : ∀ a ∈ y, 0 ≤ a) :
    C05.Clamped cfg (x ++ y) := by
  obtain ⟨n, hN, hlt⟩ := hc
  exact ⟨n, hN, lt_of_lt_of_le hlt (xsum_le_append x y hy)⟩

section mart
variable {cfg : Cfg} {par : List Rat → Except Err (List XR)}
  {M : List Rat → List Rat → List XR → List XR} {T : List Rat → Except Err (XR × List XR)}

theorem mart_clamped_zero_mem (hT : C05.MartSpec cfg par M T) {x : List Rat} {p : XR} {h : List XR}
    (H : T x = .ok (p, h)) (hc : C05.Clamped cfg x) : XR.fin 0 ∈ h := by
  obtain ⟨-, e, -, rfl⟩ := hT _ _ _ H
  rw [C05.histOf_clampLast_of hc]
  exact List.mem_append_right _ (List.mem_singleton_self _)

/-- a lower bound of the history on `x ++ y` (`y ≥ 0`) is a lower bound of the history on `x`: each
entry of the shorter history is an entry of the longer one, or it is the clamp's `0` and then the
longer history ends in `0` too -/
theorem mart_lower_bound (hT : C05.MartSpec cfg par M T) (hMt : C05.TakeComm3 M) (hMl : C05.Len3 M)
    (hsc : C05.StrictlyCausalE par) (hl : C05.LenPresE par) {x y : List Rat} (hy : ∀ a ∈ y, 0 ≤ a)
    {p0 p1 : XR} {h0 h1 : List XR} (H0 : T x = .ok (p0, h0)) (H1 : T (x ++ y) = .ok (p1, h1))
    (q : XR) (hq : ∀ b ∈ h1, XR.le q b = true) : ∀ a ∈ h0, XR.le q a = true := by
  intro a ha
  rcases C05.mart_truncate_eq hT hMt hMl hsc hl H0 H1 with e | ⟨hcl, e⟩
  · exact hq a (List.mem_of_mem_take (e ▸ ha))
  · rw [e, List.mem_append, List.mem_singleton] at ha
    rcases ha with ha | rfl
    · exact hq a (List.mem_of_mem_take (List.dropLast_subset _ ha))
    · exact hq _ (mart_clamped_zero_mem hT H1 (clamped_append hcl hy))

theorem risk_mono_mart_wf (hT : C05.MartSpec cfg par M T) (hMt : C05.TakeComm3 M) (hMl : C05.Len3 M)
    (hsc : C05.StrictlyCausalE par) (hl : C05.LenPresE par) (x y : List Rat) (hy : ∀ a ∈ y, 0 ≤ a)
    (r0 r1 : XR × List XR) (H0 : T x = .ok r0) (H1 : T (x ++ y) = .ok r1)
    (W0 : C11.WellFormed true x.length r0) (W1 : C11.WellFormed true (x ++ y).length r1) :
    XR.le r1.1 r0.1 = true := by
  obtain ⟨p0, h0⟩ := r0
  obtain ⟨p1, h1⟩ := r1
  exact mart_lower_bound hT hMt hMl hsc hl hy H0 H1 p1 (W1.2.2.2.1 rfl).2 p0 (W0.2.2.2.1 rfl).1

end mart

/-- a well-formedness theorem of C11 (`∃ r, T = .ok r ∧ …`) read for the result at hand, in random order -/
theorem wf_of_run {T : Except Err (XR × List XR)} {ro : Bool} {n : Nat} {r : XR × List XR}
    (h : ∃ r', T = .ok r' ∧ C11.WellFormed ro n r') (hro : ro = true) (H : T = .ok r) :
    C11.WellFormed true n r :=
  hro ▸ of_ok H h

/-! ### `alpha_mart` -/

/-- **C10, risk, `alpha_mart`, generic form.**  For every predictable estimator that returns one value per
observation: if the further observations `y` are non-negative and both results are well-formed in the
sense of C11 for a random-order test (the overall value is a history entry and is `≤` every history
entry), the overall p-value on `x ++ y` is `≤` the overall p-value on `x`. -/
theorem risk_mono_alpha_wf (cfg : Cfg) (estim : List Rat → Except Err (List XR))
    (hsc : C05.StrictlyCausalE estim) (hl : C05.LenPresE estim) (x y : List Rat) (hy : ∀ a ∈ y, 0 ≤ a)
    (r0 r1 : XR × List XR) (H0 : alphaMart cfg estim x = .ok r0) (H1 : alphaMart cfg estim (x ++ y) = .ok r1)
    (W0 : C11.WellFormed true x.length r0) (W1 : C11.WellFormed true (x ++ y).length r1) :
    XR.le r1.1 r0.1 = true :=
  risk_mono_mart_wf (C05.alphaMart_spec cfg estim) (C05.alphaMasked_take cfg) (C05.length_alphaMasked cfg)
    hsc hl x y hy r0 r1 H0 H1 W0 W1

/-- **C10, risk, `alpha_mart`.**  Random order, `x` non-empty, and the guard of `C11.wellformed_alpha` asked of
both samples: that the estimator returns finite values on `x ++ y` says nothing of what it returns on `x`. -/
theorem risk_mono_alpha (cfg : Cfg) (estim : List Rat → Except Err (List XR))
    (hsc : C05.StrictlyCausalE estim) (hl : C05.LenPresE estim) (hro : cfg.randomOrder = true)
    (x y : List Rat) (eta0 eta1 : List XR) (hne : x ≠ [])
    (hN : ∀ n, cfg.N = some n → (x ++ y).length ≤ n) (hxy : ∀ a ∈ x ++ y, 0 ≤ a ∧ a ≤ cfg.u)
    (hat : 0 ≤ cfg.atol) (hrt : 0 ≤ cfg.rtol)
    (hest0 : estim x = .ok eta0) (hfin0 : ∀ e ∈ eta0, ∃ q : Rat, e = .fin q)
    (hest1 : estim (x ++ y) = .ok eta1) (hfin1 : ∀ e ∈ eta1, ∃ q : Rat, e = .fin q)
    (r0 r1 : XR × List XR) (H0 : alphaMart cfg estim x = .ok r0) (H1 : alphaMart cfg estim (x ++ y) = .ok r1) :
    XR.le r1.1 r0.1 = true := by
  have hx : ∀ a ∈ x, 0 ≤ a ∧ a ≤ cfg.u := fun a ha => hxy a (List.mem_append_left _ ha)
  have hy : ∀ a ∈ y, 0 ≤ a := fun a ha => (hxy a (List.mem_append_right _ ha)).1
  exact risk_mono_alpha_wf cfg estim hsc hl x y hy r0 r1 H0 H1
    (wf_of_run (C11.wellformed_alpha cfg estim x eta0 hne (fits_head hN) hx hat hrt hest0 (hl _ _ hest0) hfin0)
      hro H0)
    (wf_of_run (C11.wellformed_alpha cfg estim (x ++ y) eta1 (by simp [hne]) hN hxy hat hrt hest1
      (hl _ _ hest1) hfin1) hro H1)

theorem risk_mono_alpha_run (sqrtF : Rat → Rat) (cfg : Cfg) (e : Estim) (hro : cfg.randomOrder = true)
    (x y : List Rat) (eta0 eta1 : List XR) (hne : x ≠ [])
    (hN : ∀ n, cfg.N = some n → (x ++ y).length ≤ n) (hxy : ∀ a ∈ x ++ y, 0 ≤ a ∧ a ≤ cfg.u)
    (hat : 0 ≤ cfg.atol) (hrt : 0 ≤ cfg.rtol)
    (hest0 : estim sqrtF cfg e x = .ok eta0) (hfin0 : ∀ v ∈ eta0, ∃ q : Rat, v = .fin q)
    (hest1 : estim sqrtF cfg e (x ++ y) = .ok eta1) (hfin1 : ∀ v ∈ eta1, ∃ q : Rat, v = .fin q)
    (r0 r1 : XR × List XR) (H0 : run sqrtF cfg (.alpha e) x = .ok r0)
    (H1 : run sqrtF cfg (.alpha e) (x ++ y) = .ok r1) : XR.le r1.1 r0.1 = true :=
  risk_mono_alpha cfg (estim sqrtF cfg e) (C05.scE_estim sqrtF cfg e) (C05.lpE_estim sqrtF cfg e) hro x y
    eta0 eta1 hne hN hxy hat hrt hest0 hfin0 hest1 hfin1 r0 r1 H0 H1

/-! ### `betting_mart` -/

theorem risk_mono_betting_wf (cfg : Cfg) (bet : List Rat → Except Err (List XR))
    (hsc : C05.StrictlyCausalE bet) (hl : C05.LenPresE bet) (x y : List Rat) (hy : ∀ a ∈ y, 0 ≤ a)
    (r0 r1 : XR × List XR) (H0 : bettingMart cfg bet x = .ok r0) (H1 : bettingMart cfg bet (x ++ y) = .ok r1)
    (W0 : C11.WellFormed true x.length r0) (W1 : C11.WellFormed true (x ++ y).length r1) :
    XR.le r1.1 r0.1 = true :=
  risk_mono_mart_wf (C05.bettingMart_spec cfg bet) (C05.bettingMasked_take cfg) (C05.length_bettingMasked cfg)
    hsc hl x y hy r0 r1 H0 H1 W0 W1

/-- **C10, risk, `betting_mart`.**  Guard (that of `C11.wellformed_betting` on both samples): random order,
`x` non-empty, `|x ++ y| ≤ N` for finite `N`, `atol, rtol ≥ 0`, the bet function (predictable, one value
per observation) returns on `x` and on `x ++ y` finite bets in `[0, 1/m_j]` wherever the null mean `m_j`
is positive, the observations lie in `[0,u]` (`OkWalk okBet`). -/
theorem risk_mono_betting (cfg : Cfg) (bet : List Rat → Except Err (List XR))
    (hsc : C05.StrictlyCausalE bet) (hl : C05.LenPresE bet) (hro : cfg.randomOrder = true)
    (x y : List Rat) (lam0 lam1 : List XR) (hne : x ≠ [])
    (hN : ∀ n, cfg.N = some n → (x ++ y).length ≤ n) (hat : 0 ≤ cfg.atol) (hrt : 0 ≤ cfg.rtol)
    (hbet0 : bet x = .ok lam0) (hok0 : OkWalk okBet cfg.u cfg.N cfg.t 0 1 (x.zip lam0))
    (hbet1 : bet (x ++ y) = .ok lam1) (hok1 : OkWalk okBet cfg.u cfg.N cfg.t 0 1 ((x ++ y).zip lam1))
    (r0 r1 : XR × List XR) (H0 : bettingMart cfg bet x = .ok r0) (H1 : bettingMart cfg bet (x ++ y) = .ok r1) :
    XR.le r1.1 r0.1 = true := by
  have hy : ∀ a ∈ y, 0 ≤ a := fun a ha =>
    okWalk_nonneg _ _ _ _ (hl _ _ hbet1) hok1 a (List.mem_append_right x ha)
  exact risk_mono_betting_wf cfg bet hsc hl x y hy r0 r1 H0 H1
    (wf_of_run (C11.wellformed_betting cfg bet x lam0 hne (fits_head hN) hat hrt hbet0 (hl _ _ hbet0) hok0) hro H0)
    (wf_of_run (C11.wellformed_betting cfg bet (x ++ y) lam1 (by simp [hne]) hN hat hrt hbet1 (hl _ _ hbet1)
      hok1) hro H1)

theorem risk_mono_betting_run (sqrtF : Rat → Rat) (cfg : Cfg) (b : Bet) (hro : cfg.randomOrder = true)
    (x y : List Rat) (lam0 lam1 : List XR) (hne : x ≠ [])
    (hN : ∀ n, cfg.N = some n → (x ++ y).length ≤ n) (hat : 0 ≤ cfg.atol) (hrt : 0 ≤ cfg.rtol)
    (hbet0 : bet sqrtF cfg b x = .ok lam0) (hok0 : OkWalk okBet cfg.u cfg.N cfg.t 0 1 (x.zip lam0))
    (hbet1 : bet sqrtF cfg b (x ++ y) = .ok lam1)
    (hok1 : OkWalk okBet cfg.u cfg.N cfg.t 0 1 ((x ++ y).zip lam1))
    (r0 r1 : XR × List XR) (H0 : run sqrtF cfg (.betting b) x = .ok r0)
    (H1 : run sqrtF cfg (.betting b) (x ++ y) = .ok r1) : XR.le r1.1 r0.1 = true :=
  risk_mono_betting cfg (bet sqrtF cfg b) (C05.scE_bet sqrtF cfg b) (C05.lpE_bet sqrtF cfg b) hro x y
    lam0 lam1 hne hN hat hrt hbet0 hok0 hbet1 hok1 r0 r1 H0 H1

/-! ### every test, through `run` -/

/-- the guard of the C11 theorems for the test `test` on the sample `x` -/
def RiskGuard (sqrtF : Rat → Rat) (cfg : Cfg) : Test → List Rat → Prop
  | .alpha e, x => (∀ n, cfg.N = some n → x.length ≤ n) ∧ (∀ a ∈ x, 0 ≤ a ∧ a ≤ cfg.u) ∧
      0 ≤ cfg.atol ∧ 0 ≤ cfg.rtol ∧
      ∃ eta, estim sqrtF cfg e x = .ok eta ∧ ∀ v ∈ eta, ∃ q : Rat, v = .fin q
  | .betting b, x => (∀ n, cfg.N = some n → x.length ≤ n) ∧ 0 ≤ cfg.atol ∧ 0 ≤ cfg.rtol ∧
      ∃ lam, bet sqrtF cfg b x = .ok lam ∧ OkWalk okBet cfg.u cfg.N cfg.t 0 1 (x.zip lam)
  | .kk, x => (∃ n, cfg.N = some n ∧ x.length ≤ n) ∧ (∀ a ∈ x, 0 ≤ a) ∧ 0 ≤ cfg.kw.g.getD 0
  | .km, x => (∀ a ∈ x, 0 ≤ a) ∧ 0 ≤ cfg.kw.g.getD 0 ∧ 0 < cfg.t + cfg.kw.g.getD 0
  | .kw, x => (∀ a ∈ x, 0 ≤ a) ∧ 0 < cfg.t ∧ 0 ≤ cfg.kw.g.getD 0 ∧ cfg.kw.g.getD 0 ≤ 1
  | .sprt, x => C11.SprtGuard cfg x

/-- **C10, risk, every test.**  For a random-order test, a non-empty sample `x` and an extension
`x ++ y`, both inside the guard of the C11 theorems and on both of which the test returns: the overall
p-value on `x ++ y` is `≤` the overall p-value on `x`.  (The guard on `x ++ y` implies the guard on `x`
except for what the estimator / bet function returns on `x`, hence both are asked.) -/
theorem risk_mono_run (sqrtF : Rat → Rat) (cfg : Cfg) (test : Test) (hro : cfg.randomOrder = true)
    (x y : List Rat) (hne : x ≠ []) (G0 : RiskGuard sqrtF cfg test x) (G1 : RiskGuard sqrtF cfg test (x ++ y))
    (r0 r1 : XR × List XR) (H0 : run sqrtF cfg test x = .ok r0) (H1 : run sqrtF cfg test (x ++ y) = .ok r1) :
    XR.le r1.1 r0.1 = true := by
  obtain ⟨p0, h0⟩ := r0
  obtain ⟨p1, h1⟩ := r1
  cases test with
  | alpha e =>
    obtain ⟨-, -, -, -, eta0, hest0, hfin0⟩ := G0
    obtain ⟨hN, hxy, hat, hrt, eta1, hest1, hfin1⟩ := G1
    exact risk_mono_alpha_run sqrtF cfg e hro x y eta0 eta1 hne hN hxy hat hrt hest0 hfin0 hest1 hfin1 _ _ H0 H1
  | betting b =>
    obtain ⟨-, -, -, lam0, hbet0, hok0⟩ := G0
    obtain ⟨hN, hat, hrt, lam1, hbet1, hok1⟩ := G1
    exact risk_mono_betting_run sqrtF cfg b hro x y lam0 lam1 hne hN hat hrt hbet0 hok0 hbet1 hok1 _ _ H0 H1
  | kk =>
    obtain ⟨⟨n, hN, hlen⟩, hxy, hg⟩ := G1
    exact risk_mono_kk cfg n x y hro hN hne hxy hlen hg p0 p1 h0 h1 H0 H1
  | km =>
    obtain ⟨hxy, hg, htg⟩ := G1
    exact risk_mono_km cfg x y hro hne hxy hg htg p0 p1 h0 h1 H0 H1
  | kw =>
    obtain ⟨hxy, ht, hg0, hg1⟩ := G1
    exact risk_mono_kw cfg x y hro hne hxy ht hg0 hg1 p0 p1 h0 h1 H0 H1
  | sprt => exact risk_mono_sprt cfg x y hro hne G1 p0 p1 h0 h1 H0 H1

/-! ### non-vacuity: every hypothesis of every theorem above is met by a concrete configuration
(`C05.cfgEx`: `N = 5`, `u = 1`, `t = 1/2`, random order, `eta = 3/4`, `lam = 1/2`, `d = 10`, `g = 1/10`;
`C05.sqrtEx`).  The results of the runs are written out; they are checked by kernel evaluation. -/

section examples
open Shangrla.C05 (cfgEx sqrtEx)

-- kaplan_kolmogorov: the p-value drops from 6/11 to 1197/2662
example : XR.le (XR.fin (1197 / 2662)) (XR.fin (6 / 11)) = true :=
  risk_mono_kk cfgEx 5 [1, 0] [1, 1] rfl rfl (by simp) (by decide +kernel) (by decide) (by decide +kernel)
    _ _ [XR.fin (6 / 11), 1] [XR.fin (6 / 11), 1, 1, XR.fin (1197 / 2662)]
    (by decide +kernel) (by decide +kernel)

-- kaplan_markov: the last running product 1296/1331 is above the minimum, the p-value stays 6/11
example : XR.le (XR.fin (6 / 11)) (XR.fin (6 / 11)) = true :=
  risk_mono_km cfgEx [1, 0] [1, 1] rfl (by simp) (by decide +kernel) (by decide +kernel) (by decide +kernel)
    _ _ [XR.fin (6 / 11), 1] [XR.fin (6 / 11), 1, 1, XR.fin (1296 / 1331)]
    (by decide +kernel) (by decide +kernel)

example : XR.le (XR.fin (10 / 19)) (XR.fin (10 / 19)) = true :=
  risk_mono_kw cfgEx [1, 0] [1, 1] rfl (by simp) (by decide +kernel) (by decide +kernel) (by decide +kernel)
    (by decide +kernel) _ _ [XR.fin (10 / 19), 1] [XR.fin (10 / 19), 1, 1, 1]
    (by decide +kernel) (by decide +kernel)

theorem sprtGuard_ex : C11.SprtGuard cfgEx ([1, 0] ++ [1, 1]) where
  ne := by simp
  range := by decide +kernel
  fits := by intro n hn; simp [cfgEx] at hn; subst hn; simp
  t_pos := by decide +kernel
  t_lt_u := by decide +kernel
  t_le_eta := by decide +kernel
  eta_le_u := by decide +kernel
  ro := fun _ => rfl

-- wald_sprt: the p-value drops from 2/3 to 16/77
example : XR.le (XR.fin (16 / 77)) (XR.fin (2 / 3)) = true :=
  risk_mono_sprt cfgEx [1, 0] [1, 1] rfl (by simp) sprtGuard_ex
    _ _ [XR.fin (2 / 3), 1] [XR.fin (2 / 3), 1, XR.fin (8 / 11), XR.fin (16 / 77)]
    (by decide +kernel) (by decide +kernel)

theorem fitsEx (x : List Rat) (h : x.length ≤ 5) : ∀ n, cfgEx.N = some n → x.length ≤ n := by
  intro n hn
  simp [cfgEx] at hn
  subst hn
  exact h

theorem allFin_of (l : List Rat) : ∀ v ∈ l.map XR.fin, ∃ q : Rat, v = .fin q := by
  intro v hv
  obtain ⟨q, -, rfl⟩ := List.mem_map.1 hv
  exact ⟨q, rfl⟩

-- ALPHA with shrink_trunc, the clamp does not fire on x = [1,1]: the p-value drops from 11/34 to 0
-- (this instantiates `risk_mono_alpha` and `risk_mono_alpha_wf` as well)
example : XR.le (XR.fin 0) (XR.fin (11 / 34)) = true :=
  risk_mono_alpha_run sqrtEx cfgEx .shrinkTrunc rfl [1, 1] [0, 1]
    ([3 / 4, 17 / 22].map XR.fin) ([3 / 4, 17 / 22, 19 / 24, 19 / 26].map XR.fin) (by simp)
    (fitsEx _ (by decide)) (by decide +kernel) (by decide +kernel) (by decide +kernel)
    (by decide +kernel) (allFin_of _) (by decide +kernel) (allFin_of _)
    (XR.fin (11 / 34), [XR.fin (2 / 3), XR.fin (11 / 34)])
    (XR.fin 0, [XR.fin (2 / 3), XR.fin (11 / 34), 1, 0]) (by decide +kernel) (by decide +kernel)

-- ALPHA with shrink_trunc, the clamp fires on x = [1,1,1] (Σx = 3 > 5/2 = N t): entry 2 of the history is 0
-- on x and 22/323 on x ++ [0], the history on x is NOT a prefix of the longer one; both p-values are 0
example : XR.le (XR.fin 0) (XR.fin 0) = true :=
  risk_mono_alpha_run sqrtEx cfgEx .shrinkTrunc rfl [1, 1, 1] [0]
    ([3 / 4, 17 / 22, 19 / 24].map XR.fin) ([3 / 4, 17 / 22, 19 / 24, 21 / 26].map XR.fin) (by simp)
    (fitsEx _ (by decide)) (by decide +kernel) (by decide +kernel) (by decide +kernel)
    (by decide +kernel) (allFin_of _) (by decide +kernel) (allFin_of _)
    (XR.fin 0, [XR.fin (2 / 3), XR.fin (11 / 34), 0])
    (XR.fin 0, [XR.fin (2 / 3), XR.fin (11 / 34), XR.fin (22 / 323), 0]) (by decide +kernel) (by decide +kernel)

/-- `okBet` and `OkWalk okBet` can be evaluated -/
local instance (m a : Rat) : ∀ e : XR, Decidable (okBet m a e)
  | .fin l => decidable_of_iff (0 ≤ l ∧ (0 < m → l * m ≤ 1))
      ⟨fun h => ⟨l, rfl, h⟩, fun ⟨_, e, h⟩ => XR.fin.inj e ▸ h⟩
  | .pinf | .ninf | .nan => isFalse fun ⟨_, e, _⟩ => nomatch e

local instance decOkWalk (u : Rat) (N : Option Nat) (t : Rat) :
    ∀ (l : List (Rat × XR)) (S : Rat) (j : Nat), Decidable (OkWalk okBet u N t S j l)
  | [], _, _ => isTrue trivial
  | (a, e) :: rest, S, j =>
    have := decOkWalk u N t rest (S + a) (j + 1)
    inferInstanceAs (Decidable (okBet (mu N t S j) a e ∧ 0 ≤ a ∧ a ≤ u ∧ OkWalk okBet u N t (S + a) (j + 1) rest))

theorem okWalk_ex3 : OkWalk okBet cfgEx.u cfgEx.N cfgEx.t 0 1
    (([1, 1, 1] : List Rat).zip ([1 / 2, 1 / 2, 1 / 2].map XR.fin)) := by decide +kernel

theorem okWalk_ex4 : OkWalk okBet cfgEx.u cfgEx.N cfgEx.t 0 1
    ((([1, 1, 1] : List Rat) ++ [0]).zip ([1 / 2, 1 / 2, 1 / 2, 1 / 2].map XR.fin)) := by decide +kernel

-- betting martingale with the fixed bet 1/2, the clamp fires on x = [1,1,1]
-- (this instantiates `risk_mono_betting` and `risk_mono_betting_wf` as well)
example : XR.le (XR.fin 0) (XR.fin 0) = true :=
  risk_mono_betting_run sqrtEx cfgEx .fixed rfl [1, 1, 1] [0]
    ([1 / 2, 1 / 2, 1 / 2].map XR.fin) ([1 / 2, 1 / 2, 1 / 2, 1 / 2].map XR.fin) (by simp)
    (fitsEx _ (by decide)) (by decide +kernel) (by decide +kernel)
    (by decide +kernel) okWalk_ex3 (by decide +kernel) okWalk_ex4
    (XR.fin 0, [XR.fin (4 / 5), XR.fin (64 / 105), 0])
    (XR.fin 0, [XR.fin (4 / 5), XR.fin (64 / 105), XR.fin (256 / 595), 0])
    (by decide +kernel) (by decide +kernel)

-- every test through `run`: the guard is inhabited (here `wald_sprt`)
example : XR.le (XR.fin (16 / 77)) (XR.fin (2 / 3)) = true :=
  risk_mono_run sqrtEx cfgEx .sprt rfl [1, 0] [1, 1] (by simp) (sprtGuard_head (by simp) sprtGuard_ex)
    sprtGuard_ex (XR.fin (2 / 3), [XR.fin (2 / 3), 1])
    (XR.fin (16 / 77), [XR.fin (2 / 3), 1, XR.fin (8 / 11), XR.fin (16 / 77)])
    (by decide +kernel) (by decide +kernel)

end examples

/-! ### the guards cannot be dropped -/

/-- the statement without any guard: "for every random-order test, whenever both runs return, the overall
p-value on `x ++ y` is `≤` that on `x`".  It is FALSE of the model, and of the code
(`NonnegMean.py` returns the same four values), for parameters outside the guards:
* an illegitimate (negative) bet: `betting_mart`, `fixed_bet` with `lam = -3`, `N = 5`, `t = 1/2`, `u = 1`:
  on `[1]` the running product is `-1/2` and the "p-value" `min(1, 1/T)` is `-2`; on `[1, 1]` the product is
  `7/16` and the p-value is `1`;
* NaN: `kaplan_markov` with `t = g = 0` on `[0]` and `[0, 1]`: the first factor is `0/0`, both overall
  values are NaN and `nan ≤ nan` is false.
`risk_mono_run` (under `RiskGuard`) is the true version. -/
def risk_mono_run_unguarded : Prop :=
  ∀ (sqrtF : Rat → Rat) (cfg : Cfg) (test : Test) (x y : List Rat) (r0 r1 : XR × List XR),
    cfg.randomOrder = true → x ≠ [] → run sqrtF cfg test x = .ok r0 → run sqrtF cfg test (x ++ y) = .ok r1 →
    XR.le r1.1 r0.1 = true

theorem risk_mono_run_unguarded_false : ¬ risk_mono_run_unguarded := by
  intro H
  have e0 : run C05.sqrtEx C05.cfgNegBet (.betting .fixed) [1] = .ok (XR.fin (-2), [XR.fin (-2)]) := by
    decide +kernel
  have e1 : run C05.sqrtEx C05.cfgNegBet (.betting .fixed) ([1] ++ [1]) = .ok (1, [XR.fin (-2), 1]) := by
    decide +kernel
  have := H _ _ _ _ _ _ _ rfl (by simp) e0 e1
  revert this
  decide +kernel

/-- the NaN counterexample -/
theorem risk_mono_run_unguarded_false_nan : ¬ risk_mono_run_unguarded := by
  intro H
  have e0 : run C05.sqrtEx { C05.cfgEx with t := 0, kw := {} } .km [0] = .ok (XR.nan, [XR.nan]) := by
    decide +kernel
  have e1 : run C05.sqrtEx { C05.cfgEx with t := 0, kw := {} } .km ([0] ++ [1]) = .ok (XR.nan, [XR.nan, XR.nan]) := by
    decide +kernel
  have := H _ _ _ _ _ _ _ rfl (by simp) e0 e1
  cases this

/-! ### ALPHA and betting with the shipped estimators / bets, under guards on the configuration only
(`C11.wellformed_run_alpha`, `C11.wellformed_run_betting`) -/

/-- **C10, risk, ALPHA with every shipped estimator.**  Random order, `x` non-empty, `|x ++ y| ≤ N` for
finite `N`, observations in `[0,u]`, `atol, rtol ≥ 0`, and the parameter guards `C11.AlphaRunGuard`
(`d > 0`, `f ≥ 0`, `minsd > 0` for `shrink_trunc`; `u ≠ 1` for `optimal_comparison`). -/
theorem risk_mono_alpha_shipped (sqrtF : Rat → Rat) (hs : C13.SqrtOK sqrtF) (cfg : Cfg) (e : Estim)
    (hro : cfg.randomOrder = true) (x y : List Rat) (hne : x ≠ [])
    (hN : ∀ n, cfg.N = some n → (x ++ y).length ≤ n) (hxy : ∀ a ∈ x ++ y, 0 ≤ a ∧ a ≤ cfg.u)
    (hat : 0 ≤ cfg.atol) (hrt : 0 ≤ cfg.rtol) (hg : C11.AlphaRunGuard cfg e)
    (r0 r1 : XR × List XR) (H0 : run sqrtF cfg (.alpha e) x = .ok r0)
    (H1 : run sqrtF cfg (.alpha e) (x ++ y) = .ok r1) : XR.le r1.1 r0.1 = true := by
  have hx : ∀ a ∈ x, 0 ≤ a ∧ a ≤ cfg.u := fun a ha => hxy a (List.mem_append_left _ ha)
  have hy : ∀ a ∈ y, 0 ≤ a := fun a ha => (hxy a (List.mem_append_right _ ha)).1
  exact risk_mono_alpha_wf cfg (estim sqrtF cfg e) (C05.scE_estim sqrtF cfg e) (C05.lpE_estim sqrtF cfg e)
    x y hy r0 r1 H0 H1
    (wf_of_run (C11.wellformed_run_alpha sqrtF hs cfg e x hne (fits_head hN) hx hat hrt hg) hro H0)
    (wf_of_run (C11.wellformed_run_alpha sqrtF hs cfg e (x ++ y) (by simp [hne]) hN hxy hat hrt hg) hro H1)

/-- **C10, risk, betting martingale with every shipped bet.**  Random order, `x` non-empty,
`|x ++ y| ≤ N`, observations in `[0,u]`, `atol, rtol ≥ 0`, the documented parameter ranges `C13.BetGuard`
and, for `fixed_bet`, the attribute `lam` being set. -/
theorem risk_mono_betting_shipped (sqrtF : Rat → Rat) (hs : C13.SqrtOK sqrtF) (cfg : Cfg) (b : Bet)
    (hro : cfg.randomOrder = true) (x y : List Rat) (hne : x ≠ [])
    (hN : ∀ n, cfg.N = some n → (x ++ y).length ≤ n) (hxy : ∀ a ∈ x ++ y, 0 ≤ a ∧ a ≤ cfg.u)
    (hat : 0 ≤ cfg.atol) (hrt : 0 ≤ cfg.rtol) (hg : C13.BetGuard cfg)
    (hlam : b = .fixed → cfg.kw.lam ≠ none)
    (r0 r1 : XR × List XR) (H0 : run sqrtF cfg (.betting b) x = .ok r0)
    (H1 : run sqrtF cfg (.betting b) (x ++ y) = .ok r1) : XR.le r1.1 r0.1 = true := by
  have hx : ∀ a ∈ x, 0 ≤ a ∧ a ≤ cfg.u := fun a ha => hxy a (List.mem_append_left _ ha)
  have hy : ∀ a ∈ y, 0 ≤ a := fun a ha => (hxy a (List.mem_append_right _ ha)).1
  exact risk_mono_betting_wf cfg (bet sqrtF cfg b) (C05.scE_bet sqrtF cfg b) (C05.lpE_bet sqrtF cfg b)
    x y hy r0 r1 H0 H1
    (wf_of_run (C11.wellformed_run_betting sqrtF hs cfg b x hne (fits_head hN) hx hat hrt hg hlam) hro H0)
    (wf_of_run (C11.wellformed_run_betting sqrtF hs cfg b (x ++ y) (by simp [hne]) hN hxy hat hrt hg hlam)
      hro H1)

-- non-vacuity: the constructor's defaults `C13.cfgF` (`N = 5`, `u = 1`, `t = 1/2`, random order), both bets,
-- `x = [0, 0]`, `y = [1, 1/2]`
example (b : Bet) (r0 r1 : XR × List XR) (H0 : run sqrtRat C13.cfgF (.betting b) [0, 0] = .ok r0)
    (H1 : run sqrtRat C13.cfgF (.betting b) ([0, 0] ++ [1, 1 / 2]) = .ok r1) : XR.le r1.1 r0.1 = true :=
  risk_mono_betting_shipped sqrtRat C13.sqrtRat_ok C13.cfgF b rfl [0, 0] [1, 1 / 2] (by simp)
    (by intro n h; cases h; decide)
    (by decide +kernel) (by decide +kernel) (by decide +kernel) C11.betGuard_F
    (by intro _ h; cases h) r0 r1 H0 H1

-- ... and both runs do return (so `H0`, `H1` are satisfiable)
example (b : Bet) : (∃ r0, run sqrtRat C13.cfgF (.betting b) [0, 0] = .ok r0) ∧
    ∃ r1, run sqrtRat C13.cfgF (.betting b) ([0, 0] ++ [1, 1 / 2]) = .ok r1 := by
  constructor
  · obtain ⟨r, hr, _⟩ := C11.wellformed_run_betting sqrtRat C13.sqrtRat_ok C13.cfgF b [0, 0] (by simp)
      (by intro n h; cases h; decide)
      (by decide +kernel) (by decide +kernel) (by decide +kernel) C11.betGuard_F
      (by intro _ h; cases h)
    exact ⟨r, hr⟩
  · obtain ⟨r, hr, _⟩ := C11.wellformed_run_betting sqrtRat C13.sqrtRat_ok C13.cfgF b ([0, 0] ++ [1, 1 / 2])
      (by simp) (by intro n h; cases h; decide)
      (by decide +kernel) (by decide +kernel) (by decide +kernel) C11.betGuard_F
      (by intro _ h; cases h)
    exact ⟨r, hr⟩

-- ALPHA, with replacement (`C13.cfgB`), every estimator
example (e : Estim) (r0 r1 : XR × List XR) (H0 : run sqrtRat C13.cfgB (.alpha e) [0, 0] = .ok r0)
    (H1 : run sqrtRat C13.cfgB (.alpha e) ([0, 0] ++ [1, 1 / 2]) = .ok r1) : XR.le r1.1 r0.1 = true :=
  risk_mono_alpha_shipped sqrtRat C13.sqrtRat_ok C13.cfgB e rfl [0, 0] [1, 1 / 2] (by simp)
    (C13.lenB _)
    (by decide +kernel) (by decide +kernel) (by decide +kernel) (C11.alphaRunGuard_B e) r0 r1 H0 H1

end Shangrla.C10
