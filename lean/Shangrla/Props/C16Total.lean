/-
  C16, the total — the tail of `Audit.find_sample_size`: `old_sizes`, the per-card sampling probability
  `cvr.p` and the returned total, with style information (L1075-1080, L1124-1140).

  Theorems are about the literal model the driver executes, `Shangrla.SS.auditTotalStyle` and its parts.  The model
  works on `XR` because the division
  `con.sample_size / (con.cards - old_sizes[c])` is numpy's (`int / numpy.int64`): a zero divisor gives
  `inf` / `nan`, not an exception.  The documented reading ("the largest of the ratios of the contests on the
  card") is the rational specification `pSpec`; the model equals it whenever every contest listed on an
  unsampled card still has cards left to draw (`Guard`).  Without that guard the full-strength statements of
  order-irrelevance and monotonicity are FALSE for the code (theorems `style_order_matters`,
  `style_not_monotone_unguarded`: `nan` is swallowed by Python's `max`).
-/
import Shangrla.Model.SampleSize
import Shangrla.Props.C16
import Shangrla.Lemmas.XRBasic
import Mathlib.Tactic.Ring
import Mathlib.Tactic.FieldSimp
import Mathlib.Tactic.Linarith
import Mathlib.Tactic.Positivity
import Mathlib.Algebra.Order.Field.Basic
import Mathlib.Algebra.Order.Ring.Rat
import Mathlib.Algebra.BigOperators.Group.List.Basic
import Mathlib.Algebra.Order.BigOperators.Group.List

namespace Shangrla.C16
open Shangrla Shangrla.SS

/-! ### vocabulary -/

/-- `old_c`: the number of already sampled cards that list contest `c` -/
def oldOf (cvrs : List Card) (c : String) : Nat := (cvrs.filter (fun cd => cd.has c && cd.sampled)).length

/-- `cards_c − old_c`: the cards of the contest not yet drawn -/
def denom (cvrs : List Card) (c : SContest) : Int := c.cards - (oldOf cvrs c.id : Int)

/-- the exact ratio `size_c / (cards_c − old_c)` -/
def ratioQ (cvrs : List Card) (c : SContest) : Rat := (c.size : Rat) / ((denom cvrs c : Int) : Rat)

/-- the contests (of those being audited) that the card lists, in dict order -/
def listed (contests : List SContest) (cd : Card) : List SContest := contests.filter (fun c => cd.has c.id)

/-- the largest of the ratios `l` and 0: `max` over the card's contests with `p` starting at 0 -/
def maxQ (l : List Rat) : Rat := l.foldl max 0

/-- the documented `cvr.p`: 1 for a sampled card, otherwise the largest ratio among the contests the card
lists, 0 if it lists none -/
def pSpec (cvrs : List Card) (contests : List SContest) (cd : Card) : Rat :=
  if cd.sampled then 1 else maxQ ((listed contests cd).map (ratioQ cvrs))

/-- every audited contest on the card still has cards left to draw -/
def Guard (cvrs : List Card) (contests : List SContest) (cd : Card) : Prop :=
  ∀ c ∈ contests, cd.has c.id = true → 0 < denom cvrs c

/-- `Guard`, and moreover no estimate exceeds the cards left to draw: `0 ≤ size_c ≤ cards_c − old_c` (`0 ≤ size_c`
holds by type) -/
def GuardLe (cvrs : List Card) (contests : List SContest) (cd : Card) : Prop :=
  ∀ c ∈ contests, cd.has c.id = true → 0 < denom cvrs c ∧ (c.size : Int) ≤ denom cvrs c

/-- the guard for every card that enters the total through a ratio (unsampled, not a phantom) -/
def GuardAll (cvrs : List Card) (contests : List SContest) : Prop :=
  ∀ cd ∈ cvrs, cd.phantom = false → cd.sampled = false → Guard cvrs contests cd

/-- `GuardLe` for every unsampled non-phantom card: the hypothesis under which every `p` is a probability -/
def GuardLeAll (cvrs : List Card) (contests : List SContest) : Prop :=
  ∀ cd ∈ cvrs, cd.phantom = false → cd.sampled = false → GuardLe cvrs contests cd

theorem GuardLe.guard {cvrs contests cd} (h : GuardLe cvrs contests cd) : Guard cvrs contests cd :=
  fun c hc hh => (h c hc hh).1

theorem GuardLeAll.guardAll {cvrs contests} (h : GuardLeAll cvrs contests) : GuardAll cvrs contests :=
  fun cd hcd hp hs => (h cd hcd hp hs).guard

/-- the non-phantom cards: those whose `p` is summed -/
def nonPhantom (cvrs : List Card) : List Card := cvrs.filter (fun cd => !cd.phantom)

/-- `Σ p` over the non-phantom cards, exactly -/
def sumSpec (cvrs : List Card) (contests : List SContest) : Rat :=
  ((nonPhantom cvrs).map (pSpec cvrs contests)).sum

/-! ### `old_sizes` -/

/-- `np.sum(np.array([cvr.sampled for cvr in cvrs if cvr.has_contest(c)]))` is the number of sampled cards
that list `c` -/
theorem oldSize_style (cvrs : List Card) (c : String) : oldSize true none cvrs c = oldOf cvrs c := by
  unfold oldSize oldOf
  rw [if_pos rfl, List.count_eq_countP, List.countP_map, List.countP_filter, List.countP_eq_length_filter]
  exact congrArg List.length (List.filter_congr fun cd _ => by
    show (cd.sampled == true && cd.has c) = _
    cases cd.sampled <;> cases cd.has c <;> rfl)

/-- without style information: `0` resp. `len(mvr_sample)` -/
theorem oldSize_nostyle (mvrLen : Option Nat) (cvrs : List Card) (c : String) :
    oldSize false mvrLen cvrs c = mvrLen.getD 0 := rfl

example : oldSize true none [⟨["a", "b"], true, false⟩, ⟨["a"], false, false⟩, ⟨["b"], true, true⟩] "a" = 1 ∧
    oldSize true none [⟨["a", "b"], true, false⟩, ⟨["a"], false, false⟩, ⟨["b"], true, true⟩] "b" = 2 := by decide

/-! ### the ratio and `max` on finite values -/

theorem styleRatio_of_pos (cvrs : List Card) (c : SContest) (h : 0 < denom cvrs c) :
    styleRatio cvrs c = .fin (ratioQ cvrs c) := by
  unfold styleRatio
  rw [oldSize_style]
  exact XR.fin_div _ _ (Int.cast_ne_zero.mpr h.ne')

theorem ratioQ_nonneg (cvrs : List Card) (c : SContest) (h : 0 ≤ denom cvrs c) : 0 ≤ ratioQ cvrs c :=
  div_nonneg (Nat.cast_nonneg _) (Int.cast_nonneg h)

theorem ratioQ_le_one (cvrs : List Card) (c : SContest) (h : 0 < denom cvrs c) (hs : (c.size : Int) ≤ denom cvrs c) :
    ratioQ cvrs c ≤ 1 := by
  have hd : (0 : Rat) < ((denom cvrs c : Int) : Rat) := Int.cast_pos.mpr h
  have hn : (c.size : Rat) ≤ ((denom cvrs c : Int) : Rat) :=
    (Int.cast_natCast c.size).symm.trans_le (Int.cast_le.mpr hs)
  exact (div_le_one hd).mpr hn

theorem pymax_fin (r p : Rat) : XR.pymax (.fin r) (.fin p) = .fin (max p r) := by
  unfold XR.pymax
  by_cases h : r < p
  · simp [h, max_eq_left (le_of_lt h)]
  · simp [h, max_eq_right (not_lt.mp h)]

theorem foldl_max_mono (l : List Rat) {a b : Rat} (h : a ≤ b) : l.foldl max a ≤ l.foldl max b := by
  induction l generalizing a b with
  | nil => simpa
  | cons x t ih => exact ih (max_le_max h (le_refl x))

theorem maxQ_spec (l : List Rat) :
    0 ≤ maxQ l ∧ (∀ x ∈ l, x ≤ maxQ l) ∧ (maxQ l = 0 ∨ maxQ l ∈ l) := foldl_max_spec l 0

/-! ### `cvr.p` -/

theorem pStep_listed (cvrs : List Card) (cd : Card) (p : XR) (c : SContest) (hh : cd.has c.id = true)
    (hs : cd.sampled = false) : pStep cvrs cd p c = XR.pymax (styleRatio cvrs c) p :=
  if_pos (by rw [hh, hs]; rfl)

theorem pStep_unlisted (cvrs : List Card) (cd : Card) (p : XR) (c : SContest) (hh : cd.has c.id = false) :
    pStep cvrs cd p c = p :=
  if_neg (by rw [hh]; exact Bool.false_ne_true)

theorem foldl_pStep_fin (cvrs : List Card) (cd : Card) (hs : cd.sampled = false) (contests : List SContest)
    (hg : Guard cvrs contests cd) (p : Rat) :
    contests.foldl (pStep cvrs cd) (.fin p) = .fin (((listed contests cd).map (ratioQ cvrs)).foldl max p) := by
  induction contests generalizing p with
  | nil => rfl
  | cons c t ih =>
    have hgt : Guard cvrs t cd := fun c' hc' hh => hg c' (List.mem_cons_of_mem _ hc') hh
    rw [List.foldl_cons, listed, List.filter_cons]
    cases hh : cd.has c.id with
    | true =>
      rw [pStep_listed cvrs cd _ c hh hs, styleRatio_of_pos _ _ (hg c List.mem_cons_self hh), pymax_fin, if_pos rfl]
      exact ih hgt _
    | false =>
      rw [pStep_unlisted cvrs cd _ c hh, if_neg Bool.false_ne_true]
      exact ih hgt p

/-- **C16, `cvr.p` of a sampled card.** A card that is already in the sample has `p = 1` (L1126),
whatever the contests are -/
theorem style_p_sampled (cvrs : List Card) (contests : List SContest) (cd : Card) (h : cd.sampled = true) :
    cardP cvrs contests cd = 1 := if_pos h

theorem pSpec_sampled (cvrs : List Card) (contests : List SContest) (cd : Card) (h : cd.sampled = true) :
    pSpec cvrs contests cd = 1 := if_pos h

theorem cardP_unsampled (cvrs : List Card) (contests : List SContest) (cd : Card) (h : cd.sampled = false) :
    cardP cvrs contests cd = contests.foldl (pStep cvrs cd) 0 := if_neg (h ▸ Bool.false_ne_true)

theorem pSpec_unsampled (cvrs : List Card) (contests : List SContest) (cd : Card) (h : cd.sampled = false) :
    pSpec cvrs contests cd = maxQ ((listed contests cd).map (ratioQ cvrs)) := if_neg (h ▸ Bool.false_ne_true)

/-- the model computes the documented `p` whenever the guard holds for the card (sampled cards need no guard) -/
theorem style_p_eq_spec (cvrs : List Card) (contests : List SContest) (cd : Card)
    (hg : cd.sampled = false → Guard cvrs contests cd) :
    cardP cvrs contests cd = .fin (pSpec cvrs contests cd) := by
  cases hs : cd.sampled with
  | true => rw [style_p_sampled _ _ _ hs, pSpec_sampled _ _ _ hs]; rfl
  | false =>
    rw [cardP_unsampled _ _ _ hs, pSpec_unsampled _ _ _ hs]
    exact foldl_pStep_fin cvrs cd hs contests (hg hs) 0

theorem pSpec_unsampled_spec (cvrs : List Card) (contests : List SContest) (cd : Card) (h : cd.sampled = false) :
    0 ≤ pSpec cvrs contests cd ∧
      (∀ c ∈ contests, cd.has c.id = true → ratioQ cvrs c ≤ pSpec cvrs contests cd) ∧
      (pSpec cvrs contests cd = 0 ∨
        ∃ c ∈ contests, cd.has c.id = true ∧ pSpec cvrs contests cd = ratioQ cvrs c) := by
  rw [pSpec_unsampled _ _ _ h]
  obtain ⟨h0, h1, h2⟩ := maxQ_spec ((listed contests cd).map (ratioQ cvrs))
  refine ⟨h0, fun c hc hh => h1 _ (List.mem_map.mpr ⟨c, List.mem_filter.mpr ⟨hc, hh⟩, rfl⟩),
    h2.imp_right fun h2 => ?_⟩
  obtain ⟨c, hc, he⟩ := List.mem_map.mp h2
  obtain ⟨hc1, hc2⟩ := List.mem_filter.mp hc
  exact ⟨c, hc1, hc2, he.symm⟩

/-- **C16, `cvr.p` of an unsampled card.**
For a card not yet sampled, under the guard `cards_c − old_c > 0` for the contests it lists:
`p` is a finite number, at least every ratio `size_c / (cards_c − old_c)` of a contest it lists, and it is one
of those ratios or 0 — i.e. the maximum of the ratios (all are `≥ 0`), and 0 when it lists none -/
theorem style_p_unsampled (cvrs : List Card) (contests : List SContest) (cd : Card) (h : cd.sampled = false)
    (hg : Guard cvrs contests cd) :
    ∃ p : Rat, cardP cvrs contests cd = .fin p ∧ 0 ≤ p ∧
      (∀ c ∈ contests, cd.has c.id = true → ratioQ cvrs c ≤ p) ∧
      ((p = 0 ∧ ∀ c ∈ contests, cd.has c.id = true → ratioQ cvrs c = 0) ∨
        ∃ c ∈ contests, cd.has c.id = true ∧ p = ratioQ cvrs c) := by
  obtain ⟨h0, hle, hatt⟩ := pSpec_unsampled_spec cvrs contests cd h
  refine ⟨_, style_p_eq_spec cvrs contests cd (fun _ => hg), h0, hle,
    hatt.imp_left fun hz => ⟨hz, fun c hc hh => ?_⟩⟩
  exact le_antisymm (hz ▸ hle c hc hh) (ratioQ_nonneg cvrs c (hg c hc hh).le)

/-- **C16, `cvr.p` of a card outside the audit.**
An unsampled card that lists none of the audited contests has `p = 0` (no guard needed) -/
theorem style_p_none (cvrs : List Card) (contests : List SContest) (cd : Card) (h : cd.sampled = false)
    (hn : ∀ c ∈ contests, cd.has c.id = false) : cardP cvrs contests cd = 0 := by
  rw [style_p_eq_spec cvrs contests cd (fun _ c hc hh => by rw [hn c hc] at hh; cases hh)]
  exact congrArg XR.fin ((pSpec_unsampled_spec cvrs contests cd h).2.2.resolve_right
    fun ⟨c, hc, hh, _⟩ => by rw [hn c hc] at hh; cases hh)

theorem pSpec_nonneg (cvrs : List Card) (contests : List SContest) (cd : Card) : 0 ≤ pSpec cvrs contests cd := by
  cases hs : cd.sampled with
  | true => rw [pSpec_sampled _ _ _ hs]; exact zero_le_one
  | false => exact (pSpec_unsampled_spec cvrs contests cd hs).1

/-- **C16, `cvr.p` is a probability.** `0 ≤ p ≤ 1` for every card when `0 ≤ size_c ≤ cards_c − old_c`
(and `cards_c − old_c > 0`) for every contest the card lists -/
theorem style_p_range (cvrs : List Card) (contests : List SContest) (cd : Card)
    (hg : cd.sampled = false → GuardLe cvrs contests cd) :
    cardP cvrs contests cd = .fin (pSpec cvrs contests cd) ∧
      0 ≤ pSpec cvrs contests cd ∧ pSpec cvrs contests cd ≤ 1 := by
  refine ⟨style_p_eq_spec cvrs contests cd (fun h => (hg h).guard), pSpec_nonneg cvrs contests cd, ?_⟩
  cases hs : cd.sampled with
  | true => rw [pSpec_sampled _ _ _ hs]
  | false =>
    rcases (pSpec_unsampled_spec cvrs contests cd hs).2.2 with hz | ⟨c, hc, hh, he⟩
    · rw [hz]; exact zero_le_one
    · rw [he]; exact ratioQ_le_one cvrs c (hg hs c hc hh).1 (hg hs c hc hh).2

/-! ### the total -/

theorem mem_nonPhantom {cvrs : List Card} {cd : Card} : cd ∈ nonPhantom cvrs ↔ cd ∈ cvrs ∧ cd.phantom = false := by
  rw [nonPhantom, List.mem_filter, Bool.not_eq_true']

theorem foldl_add_fin (l : List Rat) (a : Rat) : (l.map XR.fin).foldl XR.add (.fin a) = .fin (a + l.sum) := by
  induction l generalizing a with
  | nil => simp
  | cons x t ih =>
    simp only [List.map_cons, List.foldl_cons, List.sum_cons]
    show List.foldl XR.add (XR.fin a + XR.fin x) _ = _
    rw [XR.fin_add, ih, add_assoc]

theorem sumP_eq_spec (cvrs : List Card) (contests : List SContest) (hg : GuardAll cvrs contests) :
    sumP cvrs contests = .fin (sumSpec cvrs contests) := by
  have : (nonPhantom cvrs).map (cardP cvrs contests) = ((nonPhantom cvrs).map (pSpec cvrs contests)).map XR.fin := by
    rw [List.map_map]
    refine List.map_congr_left fun cd hcd => ?_
    obtain ⟨h1, h2⟩ := mem_nonPhantom.mp hcd
    exact style_p_eq_spec cvrs contests cd (hg cd h1 h2)
  unfold sumP sumSpec
  rw [← nonPhantom, this, XR.zero_def, foldl_add_fin, zero_add]

/-- **C16, the total.** The returned total is `⌈Σ p over the non-phantom cards⌉` -/
theorem style_total_eq_ceil (cvrs : List Card) (contests : List SContest) (hg : GuardAll cvrs contests) :
    auditTotalStyle cvrs contests = .ok (sumSpec cvrs contests).ceil := by
  unfold auditTotalStyle
  rw [sumP_eq_spec cvrs contests hg]
  rfl

/-- number of non-phantom cards that are already in the sample -/
def sampledCount (cvrs : List Card) : Nat := ((nonPhantom cvrs).filter (fun cd => cd.sampled)).length

/-- **C16, total from below.** The total is at least the number of non-phantom cards already sampled
(guard: cards left to draw) -/
theorem style_total_ge_sampled (cvrs : List Card) (contests : List SContest) (hg : GuardAll cvrs contests) :
    ∃ t : Int, auditTotalStyle cvrs contests = .ok t ∧ (sampledCount cvrs : Int) ≤ t := by
  refine ⟨_, style_total_eq_ceil cvrs contests hg, Int.cast_le.mp (le_trans ?_ Rat.le_ceil)⟩
  -- the sampled cards contribute 1 each, the others at least 0
  have h1 : (((nonPhantom cvrs).filter (fun cd => cd.sampled)).map (pSpec cvrs contests)).sum =
      (sampledCount cvrs : Rat) := by
    rw [List.sum_eq_card_nsmul _ 1 (List.forall_mem_map.mpr fun cd hcd =>
      pSpec_sampled cvrs contests cd (List.mem_filter.mp hcd).2), List.length_map, nsmul_one]
    rfl
  rw [Int.cast_natCast, ← h1]
  exact (List.filter_sublist.map _).sum_le_sum (List.forall_mem_map.mpr fun cd _ => pSpec_nonneg cvrs contests cd)

/-- **C16, total between bounds.** Under `GuardLeAll` the total is at most the number of non-phantom cards
(and at least the number already sampled) -/
theorem style_total_bounds (cvrs : List Card) (contests : List SContest) (hg : GuardLeAll cvrs contests) :
    ∃ t : Int, auditTotalStyle cvrs contests = .ok t ∧ t = (sumSpec cvrs contests).ceil ∧
      (sampledCount cvrs : Int) ≤ t ∧ t ≤ ((nonPhantom cvrs).length : Int) := by
  obtain ⟨t, ht, hlo⟩ := style_total_ge_sampled cvrs contests hg.guardAll
  have hte : t = (sumSpec cvrs contests).ceil :=
    Except.ok.inj (ht.symm.trans (style_total_eq_ceil cvrs contests hg.guardAll))
  refine ⟨t, ht, hte, hlo, ?_⟩
  rw [hte, Rat.ceil_le_iff, Int.cast_natCast, ← nsmul_one (nonPhantom cvrs).length,
    ← List.length_map (pSpec cvrs contests)]
  refine List.sum_le_card_nsmul _ 1 (List.forall_mem_map.mpr fun cd hcd => ?_)
  obtain ⟨h1, h2⟩ := mem_nonPhantom.mp hcd
  exact (style_p_range cvrs contests cd (hg cd h1 h2)).2.2

/-! ### monotone in the contests' sample sizes -/

/-- `cs'` is `cs` with some (or one) of the `sample_size`s raised: same ids, same `cards`, same dict order -/
def Raised (cs cs' : List SContest) : Prop :=
  List.Forall₂ (fun c c' => c'.id = c.id ∧ c'.cards = c.cards ∧ c.size ≤ c'.size) cs cs'

theorem forall₂_mem {α β} {R : α → β → Prop} {l : List α} {l' : List β} (h : List.Forall₂ R l l') :
    (∀ a ∈ l, ∃ b ∈ l', R a b) ∧ (∀ b ∈ l', ∃ a ∈ l, R a b) := by
  refine ⟨fun a ha => ?_, fun b hb => ?_⟩
  · obtain ⟨i, hi, rfl⟩ := List.mem_iff_getElem.mp ha
    exact ⟨l'[i]'(h.length_eq ▸ hi), List.getElem_mem _, h.get hi _⟩
  · obtain ⟨i, hi, rfl⟩ := List.mem_iff_getElem.mp hb
    exact ⟨l[i]'(h.length_eq ▸ hi), List.getElem_mem _, h.get _ hi⟩

theorem Raised.guard {cvrs cs cs' cd} (hr : Raised cs cs') (hg : Guard cvrs cs cd) : Guard cvrs cs' cd := by
  intro c' hc' hh
  obtain ⟨c, hc, hid, hcards, -⟩ := (forall₂_mem hr).2 c' hc'
  show 0 < c'.cards - _
  rw [hid, hcards]
  exact hg c hc (hid ▸ hh)

theorem ratioQ_mono (cvrs : List Card) (c c' : SContest) (hid : c'.id = c.id) (hcards : c'.cards = c.cards)
    (hs : c.size ≤ c'.size) (hpos : 0 < denom cvrs c) : ratioQ cvrs c ≤ ratioQ cvrs c' := by
  have hd : denom cvrs c' = denom cvrs c := by unfold denom; rw [hid, hcards]
  unfold ratioQ
  rw [hd]
  exact div_le_div_of_nonneg_right (Nat.cast_le.mpr hs) (Int.cast_nonneg hpos.le)

/-- **C16, `cvr.p` monotone.** Raising sample sizes (`Raised`) never lowers any card's `p` -/
theorem style_p_mono (cvrs : List Card) (cs cs' : List SContest) (cd : Card) (hr : Raised cs cs')
    (hg : cd.sampled = false → Guard cvrs cs cd) :
    cardP cvrs cs cd = .fin (pSpec cvrs cs cd) ∧ cardP cvrs cs' cd = .fin (pSpec cvrs cs' cd) ∧
      pSpec cvrs cs cd ≤ pSpec cvrs cs' cd := by
  refine ⟨style_p_eq_spec cvrs cs cd hg, style_p_eq_spec cvrs cs' cd (fun h => hr.guard (hg h)), ?_⟩
  cases hs : cd.sampled with
  | true => rw [pSpec_sampled _ _ _ hs, pSpec_sampled _ _ _ hs]
  | false =>
    obtain ⟨-, -, hatt⟩ := pSpec_unsampled_spec cvrs cs cd hs
    obtain ⟨h0', hle', -⟩ := pSpec_unsampled_spec cvrs cs' cd hs
    rcases hatt with hz | ⟨c, hc, hh, he⟩
    · rw [hz]; exact h0'
    · -- the contest whose ratio is `p` has a partner in `cs'`, on the card too, whose ratio is at least as large
      obtain ⟨c', hc', hid, hcards, hsize⟩ := (forall₂_mem hr).1 c hc
      rw [he]
      exact (ratioQ_mono cvrs c c' hid hcards hsize (hg hs c hc hh)).trans (hle' c' hc' (hid ▸ hh))

theorem Raised.guardAll {cvrs cs cs'} (hr : Raised cs cs') (hg : GuardAll cvrs cs) : GuardAll cvrs cs' :=
  fun cd hcd hp hs => hr.guard (hg cd hcd hp hs)

theorem rat_ceil_mono {a b : Rat} (h : a ≤ b) : a.ceil ≤ b.ceil := by
  rw [Rat.ceil_le_iff]; exact le_trans h Rat.le_ceil

/-- **C16, total monotone.** Raising sample sizes under `GuardAll` never lowers the total -/
theorem style_total_mono (cvrs : List Card) (cs cs' : List SContest) (hr : Raised cs cs')
    (hg : GuardAll cvrs cs) :
    ∃ t t' : Int, auditTotalStyle cvrs cs = .ok t ∧ auditTotalStyle cvrs cs' = .ok t' ∧ t ≤ t' := by
  refine ⟨_, _, style_total_eq_ceil cvrs cs hg, style_total_eq_ceil cvrs cs' (hr.guardAll hg), ?_⟩
  refine rat_ceil_mono (List.sum_le_sum fun cd hcd => ?_)
  obtain ⟨h1, h2⟩ := mem_nonPhantom.mp hcd
  exact (style_p_mono cvrs cs cs' cd hr (hg cd h1 h2)).2.2

/-- "raising one contest's `sample_size`" is an instance of `Raised` -/
theorem raised_set (cs : List SContest) (i : Nat) (hi : i < cs.length) (s : Nat) (hs : cs[i].size ≤ s) :
    Raised cs (cs.set i { cs[i] with size := s }) := by
  induction cs generalizing i with
  | nil => simp at hi
  | cons c t ih =>
    cases i with
    | zero => exact List.Forall₂.cons ⟨rfl, rfl, hs⟩ (List.forall₂_same.mpr fun _ _ => ⟨rfl, rfl, le_refl _⟩)
    | succ j =>
      simp only [List.set_cons_succ, List.getElem_cons_succ]
      exact List.Forall₂.cons ⟨rfl, rfl, le_refl _⟩ (ih j (by simpa using hi) hs)

/-! ### the order of the contests (dict order) -/

/-- no ratio of a contest on the card is `0/0` -/
def NoNan (cvrs : List Card) (contests : List SContest) (cd : Card) : Prop :=
  ∀ c ∈ contests, cd.has c.id = true → ¬ (c.size = 0 ∧ denom cvrs c = 0)

theorem Guard.noNan {cvrs contests cd} (h : Guard cvrs contests cd) : NoNan cvrs contests cd :=
  fun c hc hh hz => by have := h c hc hh; omega

/-- of the branches of `XR.div` on finite values only `0/0` gives `nan` -/
theorem styleRatio_ne_nan (cvrs : List Card) (c : SContest) (h : ¬ (c.size = 0 ∧ denom cvrs c = 0)) :
    styleRatio cvrs c ≠ .nan := by
  unfold styleRatio
  rw [oldSize_style]
  show (if _ = 0 then (if _ = 0 then XR.nan else _) else _) ≠ _
  split_ifs with h1 h2 h3
  · exact absurd ⟨Nat.cast_eq_zero.mp h2, Int.cast_eq_zero.mp h1⟩ h
  all_goals exact XR.noConfusion

/-! `XR.lt` is a strict total order on the values other than `nan` -/

theorem xr_lt_nan_right (a : XR) : XR.lt a .nan = false := by cases a <;> rfl
theorem xr_lt_irrefl (a : XR) : XR.lt a a = false := by cases a <;> simp [XR.lt]
theorem xr_lt_tri (a b : XR) (ha : a ≠ .nan) (hb : b ≠ .nan) : XR.lt a b = true ∨ a = b ∨ XR.lt b a = true := by
  cases a <;> cases b <;> simp_all [XR.lt]
  exact lt_trichotomy _ _
theorem xr_lt_asymm (a b : XR) (h : XR.lt a b = true) : XR.lt b a = false := by
  cases a <;> cases b <;> simp_all [XR.lt]
  exact le_of_lt h
theorem xr_lt_trans (a b c : XR) (h1 : XR.lt a b = true) (h2 : XR.lt b c = true) : XR.lt a c = true := by
  cases a <;> cases b <;> cases c <;> simp_all [XR.lt]
  exact lt_trans h1 h2

/-- Python's `max` is right-commutative on the running value as long as the two new values are not `nan`
(the running value may be) -/
theorem pymax_right_comm (x y z : XR) (hx : x ≠ .nan) (hy : y ≠ .nan) :
    XR.pymax y (XR.pymax x z) = XR.pymax x (XR.pymax y z) := by
  -- the case `x < z`, for either order of the two new values
  have key : ∀ x y : XR, y ≠ .nan → XR.lt x z = true →
      XR.pymax y (XR.pymax x z) = XR.pymax x (XR.pymax y z) := by
    intro x y hy hxz
    have hz : z ≠ .nan := by rintro rfl; rw [xr_lt_nan_right] at hxz; cases hxz
    unfold XR.pymax
    by_cases hyz : XR.lt y z = true
    · simp [hxz, hyz]
    · have hxy : XR.lt x y = true := by
        rcases xr_lt_tri y z hy hz with h | h | h
        · exact absurd h hyz
        · rw [h]; exact hxz
        · exact xr_lt_trans _ _ _ hxz h
      simp [hxz, hyz, hxy]
  by_cases hxz : XR.lt x z = true
  · exact key x y hy hxz
  · by_cases hyz : XR.lt y z = true
    · exact (key y x hx hyz).symm
    · unfold XR.pymax
      simp only [hxz, hyz, Bool.false_eq_true, if_false]
      rcases xr_lt_tri x y hx hy with h | h | h
      · simp [h, xr_lt_asymm _ _ h]
      · subst h; simp
      · simp [h, xr_lt_asymm _ _ h]

/-- **C16, `cvr.p` and contest order.** Permuting the contests does not change `p` when no ratio on the card is `0/0` -/
theorem style_p_perm (cvrs : List Card) (cs cs' : List SContest) (cd : Card) (hp : cs.Perm cs')
    (hn : cd.sampled = false → NoNan cvrs cs cd) : cardP cvrs cs cd = cardP cvrs cs' cd := by
  cases hs : cd.sampled with
  | true => rw [style_p_sampled _ _ _ hs, style_p_sampled _ _ _ hs]
  | false =>
    rw [cardP_unsampled _ _ _ hs, cardP_unsampled _ _ _ hs]
    refine List.Perm.foldl_eq' hp (fun x hx y hy z => ?_) _
    -- two steps commute: a contest not on the card does nothing, two that are on it by `pymax_right_comm`
    cases h1 : cd.has x.id with
    | false => rw [pStep_unlisted _ _ _ x h1, pStep_unlisted _ _ _ x h1]
    | true =>
      cases h2 : cd.has y.id with
      | false => rw [pStep_unlisted _ _ _ y h2, pStep_unlisted _ _ _ y h2]
      | true =>
        rw [pStep_listed _ _ _ x h1 hs, pStep_listed _ _ _ y h2 hs, pStep_listed _ _ _ y h2 hs,
          pStep_listed _ _ _ x h1 hs]
        exact pymax_right_comm _ _ _ (styleRatio_ne_nan cvrs x (hn hs x hx h1)) (styleRatio_ne_nan cvrs y (hn hs y hy h2))

/-- **C16, total and contest order.** Permuting the contests changes neither the total nor whether the call raises,
when no ratio on a card that enters the total is `0/0` -/
theorem style_total_perm (cvrs : List Card) (cs cs' : List SContest) (hp : cs.Perm cs')
    (hn : ∀ cd ∈ cvrs, cd.phantom = false → cd.sampled = false → NoNan cvrs cs cd) :
    auditTotalStyle cvrs cs = auditTotalStyle cvrs cs' := by
  unfold auditTotalStyle sumP
  congr 2
  refine List.map_congr_left fun cd hcd => ?_
  obtain ⟨h1, h2⟩ := mem_nonPhantom.mp hcd
  exact style_p_perm cvrs cs cs' cd hp (hn cd h1 h2)

/-- **C16, contest order irrelevant.** Under `GuardAll` neither any card's `p` nor the total depends on the dict
order of the contests -/
theorem style_order_irrelevant (cvrs : List Card) (cs cs' : List SContest) (hp : cs.Perm cs')
    (hg : GuardAll cvrs cs) :
    (∀ cd ∈ cvrs, cd.phantom = false → cardP cvrs cs cd = cardP cvrs cs' cd) ∧
      auditTotalStyle cvrs cs = auditTotalStyle cvrs cs' :=
  ⟨fun cd hcd hph => style_p_perm cvrs cs cs' cd hp (fun hs => (hg cd hcd hph hs).noNan),
   style_total_perm cvrs cs cs' hp (fun cd hcd hph hs => (hg cd hcd hph hs).noNan)⟩

/-- two cards that list `a` and `b`, the first already sampled -/
def exOrderCards : List Card := [⟨["a", "b"], true, false⟩, ⟨["a", "b"], false, false⟩]
def exOrderA : SContest := ⟨"a", 0, 1⟩
def exOrderB : SContest := ⟨"b", 1, 3⟩

/-- **C16, contest order matters without the guard**: `style_order_irrelevant` without `GuardAll` is FALSE for the
code.  Contest `a`: every assertion confirmed (`sample_size = 0`)
and `cards` equal to the number of its cards already sampled, but one more card lists it; contest `b` is an
ordinary one.  In dict order `a, b` the `nan` of `0/0` is replaced by `b`'s ratio (`max(r, nan)` is `r`) and the
call returns 2; in dict order `b, a` `max(nan, r)` is `nan` and `math.ceil` raises ValueError. -/
theorem style_order_matters :
    [exOrderA, exOrderB].Perm [exOrderB, exOrderA] ∧
    auditTotalStyle exOrderCards [exOrderA, exOrderB] = .ok 2 ∧
    auditTotalStyle exOrderCards [exOrderB, exOrderA] = .error (.nm .value) := by
  refine ⟨List.Perm.swap _ _ _, ?_, ?_⟩ <;> decide +kernel

/-- five cards that list `a` and `b`: two sampled, one phantom, two still to draw -/
def exMonoCards : List Card :=
  [⟨["a", "b"], true, false⟩, ⟨["a", "b"], true, false⟩, ⟨["a", "b"], false, true⟩, ⟨["a", "b"], false, false⟩,
   ⟨["a", "b"], false, false⟩]

/-- **C16, not monotone without the guard**: `style_total_mono` without `GuardAll` is FALSE as well:
after a `nan` (contest `a` as above) a contest with
`cards < old` (negative ratio) becomes the card's `p`, and raising its `sample_size` lowers `p` and the total -/
theorem style_not_monotone_unguarded :
    Raised [⟨"a", 0, 2⟩, ⟨"b", 2, 1⟩] [⟨"a", 0, 2⟩, ⟨"b", 4, 1⟩] ∧
    cardP exMonoCards [⟨"a", 0, 2⟩, ⟨"b", 2, 1⟩] ⟨["a", "b"], false, false⟩ = .fin (-2) ∧
    cardP exMonoCards [⟨"a", 0, 2⟩, ⟨"b", 4, 1⟩] ⟨["a", "b"], false, false⟩ = .fin (-4) ∧
    auditTotalStyle exMonoCards [⟨"a", 0, 2⟩, ⟨"b", 2, 1⟩] = .ok (-2) ∧
    auditTotalStyle exMonoCards [⟨"a", 0, 2⟩, ⟨"b", 4, 1⟩] = .ok (-6) := by
  refine ⟨?_, ?_, ?_, ?_, ?_⟩
  · exact List.Forall₂.cons ⟨rfl, rfl, le_refl _⟩ (List.Forall₂.cons ⟨rfl, rfl, by decide⟩ List.Forall₂.nil)
  all_goals decide +kernel

/-! ### one contest on every card -/

theorem oldOf_zero (cvrs : List Card) (c : String) (h : ∀ cd ∈ cvrs, cd.sampled = false) : oldOf cvrs c = 0 := by
  unfold oldOf
  rw [List.length_eq_zero_iff, List.filter_eq_nil_iff]
  intro cd hcd; simp [h cd hcd]

/-- **C16, one contest.** A single contest that is on every non-phantom card, nothing sampled yet, `cards` = the number of
non-phantom cards listing it, `sample_size ≤ cards`: the total is that contest's sample size -/
theorem style_single (cvrs : List Card) (c : SContest)
    (hall : ∀ cd ∈ cvrs, cd.phantom = false → cd.has c.id = true)
    (hns : ∀ cd ∈ cvrs, cd.sampled = false)
    (hcards : c.cards = (((cvrs.filter (fun cd => !cd.phantom && cd.has c.id)).length : Nat) : Int))
    (hsz : (c.size : Int) ≤ c.cards) :
    auditTotalStyle cvrs [c] = .ok (c.size : Int) := by
  have hfil : cvrs.filter (fun cd => !cd.phantom && cd.has c.id) = nonPhantom cvrs :=
    List.filter_congr fun cd hcd => by
      cases hp : cd.phantom
      · rw [hall cd hcd hp]; rfl
      · rfl
  have hden : denom cvrs c = ((nonPhantom cvrs).length : Int) := by
    rw [denom, oldOf_zero cvrs c.id hns, hcards, hfil]
    exact sub_zero _
  have hpos : ∀ cd ∈ cvrs, cd.phantom = false → 0 < denom cvrs c := fun cd hcd hp => by
    rw [hden]
    exact Int.natCast_pos.mpr (List.length_pos_of_mem (mem_nonPhantom.mpr ⟨hcd, hp⟩))
  have hg : GuardAll cvrs [c] := fun cd hcd hp _ x hx _ => by
    rw [List.mem_singleton.mp hx]
    exact hpos cd hcd hp
  have hp : ∀ cd ∈ nonPhantom cvrs, pSpec cvrs [c] cd = ratioQ cvrs c := by
    intro cd hcd
    obtain ⟨h1, h2⟩ := mem_nonPhantom.mp hcd
    unfold pSpec listed maxQ
    simp only [hns cd h1, Bool.false_eq_true, if_false, List.filter_cons, hall cd h1 h2, if_true, List.filter_nil,
      List.map_cons, List.map_nil, List.foldl_cons, List.foldl_nil]
    exact max_eq_right (ratioQ_nonneg cvrs c (hpos cd h1 h2).le)
  -- `L * (size / L) = size` for the number `L` of non-phantom cards, also when `L = 0`, since then `size = 0`
  have hsum : ((nonPhantom cvrs).length : Rat) * ratioQ cvrs c = ((c.size : Int) : Rat) := by
    unfold ratioQ
    rw [hden, Int.cast_natCast, Int.cast_natCast]
    by_cases hn : (nonPhantom cvrs).length = 0
    · have hs0 : c.size = 0 := by rw [hcards, hfil] at hsz; omega
      rw [hn, hs0, Nat.cast_zero, zero_mul]
    · exact mul_div_cancel₀ _ (Nat.cast_ne_zero.mpr hn)
  rw [style_total_eq_ceil cvrs [c] hg, sumSpec, List.sum_eq_card_nsmul _ _ (List.forall_mem_map.mpr hp), List.length_map,
    nsmul_eq_mul, hsum, Rat.ceil_intCast]

/-! ### the two branches of the returned value -/

theorem auditTotal_style (cvrs : List Card) (contests : List SContest) :
    auditTotal true cvrs contests = auditTotalStyle cvrs contests := rfl

/-- without style information (L1136-1139): the largest `sample_size` (`auditTotalNoStyle_spec`) -/
theorem auditTotal_nostyle (cvrs : List Card) (contests : List SContest) (h : contests ≠ []) :
    auditTotal false cvrs contests = .ok ((maxOf (contests.map (·.size)) : Nat) : Int) := by
  unfold auditTotal
  simp only [Bool.false_eq_true, if_false]
  rw [auditTotalNoStyle_spec _ (by simpa using h)]
  rfl

/-! ### non-vacuity -/

/-- five cards: one already sampled, one phantom, one that lists only `a`, one that lists nothing -/
def exCards : List Card :=
  [⟨["a", "b"], true, false⟩, ⟨["a", "b"], false, false⟩, ⟨["a"], false, false⟩, ⟨["b"], false, true⟩, ⟨[], false, false⟩]
def exCs : List SContest := [⟨"a", 1, 5⟩, ⟨"b", 2, 4⟩]

theorem exCs_guard : GuardLeAll exCards exCs := by
  intro cd hcd _ _ c hc _
  have hc' : c = ⟨"a", 1, 5⟩ ∨ c = ⟨"b", 2, 4⟩ := by simpa [exCs] using hc
  rcases hc' with rfl | rfl <;> decide

example : cardP exCards exCs ⟨["a", "b"], true, false⟩ = 1 := style_p_sampled _ _ _ rfl
example : cardP exCards exCs ⟨["a", "b"], false, false⟩ = .fin (2/3) ∧ cardP exCards exCs ⟨["a"], false, false⟩ = .fin (1/4) ∧
    cardP exCards exCs ⟨[], false, false⟩ = 0 := by decide +kernel
example : auditTotalStyle exCards exCs = .ok 2 := by decide +kernel
example : ∃ t : Int, auditTotalStyle exCards exCs = .ok t ∧ (1 : Int) ≤ t ∧ t ≤ 4 := by
  obtain ⟨t, h1, _, h3, h4⟩ := style_total_bounds exCards exCs exCs_guard
  exact ⟨t, h1, h3, h4⟩
example : Raised exCs (exCs.set 0 { exCs[0] with size := 3 }) := raised_set exCs 0 (by decide) 3 (by decide)
example : auditTotalStyle exCards [⟨"a", 3, 5⟩, ⟨"b", 2, 4⟩] = .ok 3 := by decide +kernel
example : auditTotalStyle exCards exCs.reverse = auditTotalStyle exCards exCs :=
  (style_order_irrelevant exCards exCs exCs.reverse (List.reverse_perm exCs).symm exCs_guard.guardAll).2.symm
/-- boundary `cards − old = 0` with a positive size: `inf`, OverflowError -/
example : auditTotalStyle exCards [⟨"a", 1, 1⟩] = .error (.nm .overflow) := by decide +kernel
/-- a contest whose cards have all been sampled (`cards − old = 0`) and that no unsampled card lists is harmless -/
example : auditTotalStyle [⟨["a", "b"], true, false⟩, ⟨["b"], false, false⟩] [⟨"a", 0, 1⟩, ⟨"b", 1, 3⟩] = .ok 2 := by
  decide +kernel
example : auditTotalStyle [⟨["a"], false, false⟩, ⟨["a"], false, false⟩, ⟨["a"], false, false⟩, ⟨["a", "z"], false, true⟩]
    [⟨"a", 2, 3⟩] = .ok 2 :=
  style_single _ ⟨"a", 2, 3⟩ (by decide) (by decide) (by decide) (by decide)
example : auditTotal false [] exCs = .ok 2 ∧ auditTotal false [] [] = .error (.nm .value) := by decide +kernel

end Shangrla.C16
