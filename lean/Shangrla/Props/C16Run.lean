/-
C16 ∘ C05: `prefix_crossing` with its non-anticipation hypothesis discharged for EVERY test, estimator and bet.

`C16.prefix_crossing` takes as hypothesis `hcausal` that the histories of the simulated populations `x ++ y` share
their first `|x|` entries.  That is property C05 (`C05.hist_prefix_run`).  Composed: if the test runs on every
simulated population, and on ONE of them the first `|x|` history entries first reach `≤ alpha` at index `i`, then
every simulation-based estimate with prefix `x` is `i + 1` — for every test, estimator, bet, configuration, `sqrtF`,
all non-empty tails, all repetition counts `≥ 1`, all quantiles `q ≤ 1`, whatever the seed.
-/
import Shangrla.Props.C16
import Shangrla.Props.C05

namespace Shangrla.C16
open Shangrla Shangrla.NM Shangrla.SS

/-- **prefix_crossing, every test** (the hypothesis about the test reduced to "it runs").  `y0` is any one of the
tails; `h0` the history on `x ++ y0`. -/
theorem prefix_crossing_run (sqrtF : Rat → Rat) (cfg : Cfg) (test : Test) (x : List Rat) (alpha : Rat)
    (n : Nat) (hN : cfg.N = some n) (tails : List (List Rat)) (hne : tails ≠ [])
    (hty : ∀ y ∈ tails, y ≠ [])
    (hruns : ∀ y ∈ tails, ∃ p h, run sqrtF cfg test (x ++ y) = .ok (p, h))
    (y0 : List Rat) (hy0 : y0 ∈ tails) (p0 : XR) (h0 : List XR)
    (hr0 : run sqrtF cfg test (x ++ y0) = .ok (p0, h0))
    (i : Nat) (hi : i < (h0.take x.length).length)
    (hp : XR.le (h0.take x.length)[i] (.fin alpha) = true)
    (hlt : ∀ j (hj : j < i), XR.le ((h0.take x.length)[j]'(Nat.lt_trans hj hi)) (.fin alpha) = false)
    (q : Rat) (hq : q ≤ 1) :
    sampleSize sqrtF cfg test x alpha (some tails) true q = .ok (i + 1) := by
  apply prefix_crossing sqrtF cfg test x alpha n hN (h0.take x.length) tails hne _ i hi hp hlt q hq
  intro y hy
  obtain ⟨p, h, hr⟩ := hruns y hy
  refine ⟨p, h, hr, ?_⟩
  exact C05.hist_prefix_run sqrtF cfg test x y y0 (hty y hy) (hty y0 hy0) p p0 h h0 hr hr0

/-- the deterministic-looking consequence: two runs with the same prefix data but different tails (seeds),
repetition counts and quantiles return the same estimate -/
theorem prefix_estimate_seed_irrelevant (sqrtF : Rat → Rat) (cfg : Cfg) (test : Test) (x : List Rat) (alpha : Rat)
    (n : Nat) (hN : cfg.N = some n) (tails tails' : List (List Rat)) (hne : tails ≠ []) (hne' : tails' ≠ [])
    (hty : ∀ y ∈ tails ++ tails', y ≠ [])
    (hruns : ∀ y ∈ tails ++ tails', ∃ p h, run sqrtF cfg test (x ++ y) = .ok (p, h))
    (y0 : List Rat) (hy0 : y0 ∈ tails) (p0 : XR) (h0 : List XR)
    (hr0 : run sqrtF cfg test (x ++ y0) = .ok (p0, h0))
    (i : Nat) (hi : i < (h0.take x.length).length)
    (hp : XR.le (h0.take x.length)[i] (.fin alpha) = true)
    (hlt : ∀ j (hj : j < i), XR.le ((h0.take x.length)[j]'(Nat.lt_trans hj hi)) (.fin alpha) = false)
    (q q' : Rat) (hq : q ≤ 1) (hq' : q' ≤ 1) :
    sampleSize sqrtF cfg test x alpha (some tails) true q
      = sampleSize sqrtF cfg test x alpha (some tails') true q' := by
  rw [prefix_crossing_run sqrtF cfg test x alpha n hN tails hne
    (fun y hy => hty y (List.mem_append_left _ hy)) (fun y hy => hruns y (List.mem_append_left _ hy))
    y0 hy0 p0 h0 hr0 i hi hp hlt q hq]
  -- the same crossing index is seen from any tail of the second family
  obtain ⟨y1, hy1⟩ := List.exists_mem_of_ne_nil tails' hne'
  obtain ⟨p1, h1, hr1⟩ := hruns y1 (List.mem_append_right _ hy1)
  have heq : h1.take x.length = h0.take x.length :=
    C05.hist_prefix_run sqrtF cfg test x y1 y0 (hty y1 (List.mem_append_right _ hy1))
      (hty y0 (List.mem_append_left _ hy0)) p1 p0 h1 h0 hr1 hr0
  have hi' : i < (h1.take x.length).length := by rw [heq]; exact hi
  symm
  apply prefix_crossing_run sqrtF cfg test x alpha n hN tails' hne'
    (fun y hy => hty y (List.mem_append_right _ hy)) (fun y hy => hruns y (List.mem_append_right _ hy))
    y1 hy1 p1 h1 hr1 i hi' _ _ q' hq'
  · simp only [heq]; exact hp
  · intro j hj; simp only [heq]; exact hlt j hj

theorem exists_of_isOk {r : Except NM.Err (XR × List XR)} (h : C05.isOk r = true) : ∃ p hh, r = .ok (p, hh) := by
  cases r with
  | ok v => exact ⟨v.1, v.2, rfl⟩
  | error e => cases h

/-- non-vacuity: ALPHA with the shrink-truncate estimator: the history on `[1,1,1,0] ++ zeros` is
`2/3, 20/51, 64/323, ...`, first `≤ 1/4` at index 2, so every estimate is 3 -/
example : sampleSize sqrtRat (Cfg.init true false 1 (some 12) (1/2) true { eta := some (3/4), d := some 10, c := some (1/4) })
    (.alpha .shrinkTrunc) [1, 1, 1, 0] (1/4)
    (some [[0, 0, 0, 0, 0, 0, 0, 0], [1, 0, 1, 1, 0, 1, 1, 1]]) true (9/10) = .ok 3 := by
  apply prefix_crossing_run sqrtRat _ (.alpha .shrinkTrunc) [1, 1, 1, 0] (1/4) 12 rfl _ (by simp)
    (by intro y hy; simp at hy; rcases hy with rfl | rfl <;> simp)
    (by intro y hy; simp at hy; rcases hy with rfl | rfl <;> exact exists_of_isOk (by decide +kernel))
    [0, 0, 0, 0, 0, 0, 0, 0] (by simp) (XR.fin (64/323))
    [XR.fin (2/3), XR.fin (20/51), XR.fin (64/323), XR.fin (3328/4845), 1, 1, 1, 1, 1, 1, 1, 1]
    (by decide +kernel) 2 (by decide +kernel) (by decide +kernel) (by decide +kernel) (9/10) (by norm_num)

end Shangrla.C16
