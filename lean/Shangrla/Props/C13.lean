/-
  C13 — shipped estimators and bets keep every martingale factor non-negative.

  Theorems are about the literal model `Shangrla.NM.*` of `shangrla/core/NonnegMean.py`
  (`fixedAlternativeMean`, `shrinkTrunc`, `optimalComparison`, `fixedBet`, `agrapa`, and the
  truncation / factor expressions of `alphaTerms`, `bettingTerms`) that the driver executes.

  Conventions.
  * `mus cfg x` is the list of null conditional means `mu_1 .. mu_n` (`nullMeansFrom cfg.N cfg.t 0 1 x`),
    entry `i` (0-based) being the mean before draw `j = i+1`.
  * Range statements are entrywise: "for all `i m`, if `(mus cfg x)[i]? = some m` then entry `i` of the
    output is `fin e` with …"; together with `l.length = x.length` this describes every entry.
  * The square root is a parameter `sqrtF`; all that is used is `SqrtOK sqrtF`
    (`0 ≤ sqrtF q`, and `0 < sqrtF q` for `0 < q`), which the driver's `sqrtRat` satisfies (`sqrtRat_ok`).
  * `Cfg.etaV`, `Cfg.cV`, … are the parameters as the methods resolve them (`getattr(self, name, default)`).
  * No theorem needs the observations to lie in `[0,u]` except the three `factor_nonneg_*` lemmas:
    the ranges hold for every sample not longer than the population.
  * "`shrink_trunc` is strictly above the null mean whenever that mean is below `u`" holds below `u(1-eps)`
    only (`shrink_trunc_above_mu_full_false`); on the sliver in between `alpha_mart` masks the term
    (`sliver_masked`).
-/
import Shangrla.Lemmas.NMRange
import Shangrla.Lemmas.Except

namespace Shangrla.C13
open Shangrla Shangrla.NM Shangrla.NMRange
open Shangrla.XR (fin)

/-- what is assumed of the square root -/
structure SqrtOK (sqrtF : Rat → Rat) : Prop where
  nonneg : ∀ q, 0 ≤ sqrtF q
  pos : ∀ q, 0 < q → 0 < sqrtF q

theorem sqrtRat_ok : SqrtOK sqrtRat := ⟨sqrtRat_nonneg, sqrtRat_pos⟩

/-- the null conditional means `mu_1 .. mu_n` of the sample -/
abbrev mus (cfg : Cfg) (x : List Rat) : List Rat := nullMeansFrom cfg.N cfg.t 0 1 x

theorem length_mus (cfg : Cfg) (x : List Rat) : (mus cfg x).length = x.length :=
  length_nullMeansFrom _ _ _ _ _

/-! ### concrete inputs for the non-vacuity examples -/

/-- population of 5, `u = 1`, `t = 1/2`, fixed alternative `3/4` -/
def cfgA : Cfg := { N := some 5, u := 1, t := 1 / 2, randomOrder := true, kw := { eta := some (3 / 4) } }
/-- a comparison audit: `u = 1 + 2^-40` (the smallest margins), sampling with replacement, all defaults -/
def cfgB : Cfg := { N := none, u := 1 + 1 / 1099511627776, t := 1 / 2, randomOrder := true, kw := {} }
/-- a sample that starts with zeros, in a small population (the null mean rises) -/
def xA : List Rat := [0, 0, 1, 1 / 2]

theorem lenA : LenOK cfgA.N xA := by intro n h; cases h; decide
theorem lenB (x : List Rat) : LenOK cfgB.N x := lenOK_none x
theorem xA_ne : xA ≠ [] := by decide

/-- after one zero the null mean is `5/8` -/
example : (mus cfgA xA)[1]? = some (5 / 8) := by decide +kernel

/-! ### `fixed_alternative_mean` -/

/-- the alternative mean updated for the draws already seen is at least the null mean updated in the same
way, when the initial alternative is at least the null mean (`eta ≥ t`) -/
theorem fixed_alt_ge_mu (N : Option Nat) (t eta : Rat) (h : t ≤ eta) (x : List Rat) (hN : LenOK N x)
    (i : Nat) (m e : Rat) (hm : (nullMeansFrom N t 0 1 x)[i]? = some m)
    (he : (nullMeansFrom N eta 0 1 x)[i]? = some e) : m ≤ e := by
  obtain ⟨s, hs, rfl⟩ := prefixSums_of_nullMeans hm
  obtain ⟨s', hs', rfl⟩ := prefixSums_of_nullMeans he
  cases Option.some.inj (hs.symm.trans hs')
  cases N with
  | none => exact h
  | some n =>
    -- same prefix sum, same positive denominator `N - j + 1`
    have hin : (i : Rat) < (n : Rat) :=
      Nat.cast_lt.2 ((lt_length_of_nullMeans hm).trans_le (hN n rfl))
    refine div_le_div_of_nonneg_right (sub_le_sub_right (mul_le_mul_of_nonneg_left h (Nat.cast_nonneg n)) s) ?_
    rw [Nat.cast_add, Nat.cast_one]; linarith

example : (1 / 2 : Rat) ≤ 3 / 4 ∧ LenOK (some 5) xA := ⟨by decide +kernel, lenA⟩

/-- `fixed_alternative_mean` never exceeds `u`, whatever the sample and the initial alternative
(including samples for which the fixed alternative has become impossible) -/
theorem fixed_alt_le_u (cfg : Cfg) (x : List Rat) (hx : x ≠ []) (hN : LenOK cfg.N x) :
    ∃ l, fixedAlternativeMean cfg x = .ok l ∧ l.length = x.length ∧
      ∀ i : Nat, i < x.length → ∃ e : Rat, l[i]? = some (fin e) ∧ e ≤ cfg.u := by
  refine ⟨_, fixedAlternativeMean_eq cfg x hx hN, by simp, fun i hi => ?_⟩
  obtain ⟨a, ha⟩ := exists_getElem? (nullMeansFrom cfg.N cfg.etaV 0 1 x)
    ((length_nullMeansFrom ..).symm ▸ hi)
  exact ⟨_, by rw [List.getElem?_map, ha]; rfl, min_le_left _ _⟩

example : ∃ l, fixedAlternativeMean cfgB xA = .ok l ∧ l.length = xA.length ∧
    ∀ i : Nat, i < xA.length → ∃ e : Rat, l[i]? = some (fin e) ∧ e ≤ cfgB.u :=
  fixed_alt_le_u cfgB xA xA_ne (lenB xA)

/-- `fixed_alternative_mean`: every entry is `fin e` with `e ≤ u`; when the initial alternative is at least
the null mean, `e ≥ min(mu_j, u)`, hence `e > 0` (so `e ∈ [0,u]`) wherever `mu_j > 0` -/
theorem fixed_alt_range (cfg : Cfg) (x : List Rat) (ht : 0 < cfg.t) (htu : cfg.t < cfg.u)
    (heta : cfg.t ≤ cfg.etaV) (hx : x ≠ []) (hN : LenOK cfg.N x) :
    ∃ l, fixedAlternativeMean cfg x = .ok l ∧ l.length = x.length ∧
      ∀ (i : Nat) (m : Rat), (mus cfg x)[i]? = some m →
        ∃ e : Rat, l[i]? = some (fin e) ∧ e ≤ cfg.u ∧ min m cfg.u ≤ e ∧ (0 < m → 0 < e) := by
  refine ⟨_, fixedAlternativeMean_eq cfg x hx hN, by simp, fun i m hm => ?_⟩
  obtain ⟨a, ha⟩ := exists_getElem? (nullMeansFrom cfg.N cfg.etaV 0 1 x)
    ((length_nullMeansFrom ..).symm ▸ lt_length_of_nullMeans hm)
  have hma : m ≤ a := fixed_alt_ge_mu cfg.N cfg.t cfg.etaV heta x hN i m a hm ha
  exact ⟨_, by rw [List.getElem?_map, ha]; rfl, min_le_left _ _, min_comm m cfg.u ▸ min_le_min_left _ hma,
    fun hm0 => lt_min (ht.trans htu) (hm0.trans_le hma)⟩

example : ∃ l, fixedAlternativeMean cfgA xA = .ok l ∧ l.length = xA.length ∧
    ∀ (i : Nat) (m : Rat), (mus cfgA xA)[i]? = some m →
      ∃ e : Rat, l[i]? = some (fin e) ∧ e ≤ cfgA.u ∧ min m cfgA.u ≤ e ∧ (0 < m → 0 < e) :=
  fixed_alt_range cfgA xA (by decide +kernel) (by decide +kernel) (by decide +kernel) xA_ne lenA

/-! ### `optimal_comparison` -/

/-- `optimal_comparison` for `u ≠ 1`: every entry is the same `fin e` with `0 ≤ e ≤ u`, for every assumed
error rate and every margin (every `u ≥ 0`, `u ≠ 1`) -/
theorem optimal_comparison_range (cfg : Cfg) (x : List Rat) (hu0 : 0 ≤ cfg.u) (hu : cfg.u ≠ 1) :
    ∃ e : Rat, 0 ≤ e ∧ e ≤ cfg.u ∧ optimalComparison cfg x = .ok (List.replicate x.length (fin e)) :=
  ⟨_, le_min hu0 (le_max_left _ _), min_le_left _ _, optimalComparison_eq cfg x hu⟩

theorem optimal_comparison_range_entry (cfg : Cfg) (x : List Rat) (hu0 : 0 ≤ cfg.u) (hu : cfg.u ≠ 1) :
    ∃ l, optimalComparison cfg x = .ok l ∧ l.length = x.length ∧
      ∀ i : Nat, i < x.length → ∃ e : Rat, l[i]? = some (fin e) ∧ 0 ≤ e ∧ e ≤ cfg.u := by
  obtain ⟨e, h0, h1, h⟩ := optimal_comparison_range cfg x hu0 hu
  exact ⟨_, h, List.length_replicate, fun i hi => ⟨e, List.getElem?_replicate_of_lt hi, h0, h1⟩⟩

/-- `u = 1` (a Python-float `2 - 2*u = 0`) is the `ZeroDivisionError` branch -/
theorem optimal_comparison_u_one (cfg : Cfg) (x : List Rat) (hu : cfg.u = 1) :
    optimalComparison cfg x = .error .zerodiv := optimalComparison_zerodiv cfg x hu

example : ∃ e : Rat, 0 ≤ e ∧ e ≤ cfgB.u ∧ optimalComparison cfgB xA = .ok (List.replicate xA.length (fin e)) :=
  optimal_comparison_range cfgB xA (by decide +kernel) (by decide +kernel)
example : optimalComparison cfgA xA = .error .zerodiv := optimal_comparison_u_one cfgA xA rfl

/-! ### `shrink_trunc` -/

/-- the value of every entry of `shrink_trunc`: the shrunk estimate `w`, raised to `mu_j + c/sqrt(d+j-1)`,
truncated at `u(1-eps)` -/
theorem shrink_trunc_entry (sqrtF : Rat → Rat) (hs : SqrtOK sqrtF) (cfg : Cfg) (x : List Rat)
    (hx : x ≠ []) (hN : LenOK cfg.N x) (hd : 0 < cfg.dV) (hf : 0 ≤ cfg.fV) (hmin : 0 < cfg.minsdV) :
    ∃ l, shrinkTrunc sqrtF cfg x = .ok l ∧ l.length = x.length ∧
      ∀ (i : Nat) (m : Rat), (mus cfg x)[i]? = some m →
        ∃ w : Rat, l[i]? = some (fin (min (cfg.u * (1 - eps))
          (max w (m + cfg.cV / sqrtF (cfg.dV + (i : Rat)))))) :=
  shrinkTrunc_entry sqrtF hs.pos cfg x hx hN hd hf hmin

theorem sqrt_pos_add {sqrtF : Rat → Rat} (hs : SqrtOK sqrtF) {d : Rat} (hd : 0 < d) (i : Nat) :
    0 < sqrtF (d + (i : Rat)) :=
  hs.pos _ (add_pos_of_pos_of_nonneg hd (Nat.cast_nonneg i))

/-- `shrink_trunc` for `d, minsd > 0`, `f ≥ 0` (any `c`, any `eta`): every entry is `fin e` with
`e ≤ u(1-eps)` and `e ≥ min(u(1-eps), mu_j + c/sqrtF(d+j-1))`; hence, for `c > 0`, `0 ≤ e ≤ u` wherever
`mu_j ≥ 0` (here `i = j-1`, so `d + j - 1 = d + i`) -/
theorem shrink_trunc_range (sqrtF : Rat → Rat) (hs : SqrtOK sqrtF) (cfg : Cfg) (x : List Rat)
    (hu : 0 ≤ cfg.u) (hx : x ≠ []) (hN : LenOK cfg.N x)
    (hd : 0 < cfg.dV) (hf : 0 ≤ cfg.fV) (hmin : 0 < cfg.minsdV) :
    ∃ l, shrinkTrunc sqrtF cfg x = .ok l ∧ l.length = x.length ∧
      ∀ (i : Nat) (m : Rat), (mus cfg x)[i]? = some m →
        ∃ e : Rat, l[i]? = some (fin e) ∧ e ≤ cfg.u * (1 - eps) ∧ e ≤ cfg.u ∧
          min (cfg.u * (1 - eps)) (m + cfg.cV / sqrtF (cfg.dV + (i : Rat))) ≤ e ∧
          (0 < cfg.cV → 0 ≤ m → 0 ≤ e) := by
  obtain ⟨l, hl, hlen, h⟩ := shrink_trunc_entry sqrtF hs cfg x hx hN hd hf hmin
  refine ⟨l, hl, hlen, fun i m hm => ?_⟩
  obtain ⟨w, hw⟩ := h i m hm
  have hue : cfg.u * (1 - eps) ≤ cfg.u := mul_le_of_le_one_right hu one_sub_eps_le_one
  have hlow : min (cfg.u * (1 - eps)) (m + cfg.cV / sqrtF (cfg.dV + (i : Rat))) ≤
      min (cfg.u * (1 - eps)) (max w (m + cfg.cV / sqrtF (cfg.dV + (i : Rat)))) :=
    min_le_min_left _ (le_max_right _ _)
  refine ⟨_, hw, min_le_left _ _, (min_le_left _ _).trans hue, hlow, fun hc hm0 => ?_⟩
  exact (le_min (mul_nonneg hu one_sub_eps_pos.le)
    (add_nonneg hm0 (div_pos hc (sqrt_pos_add hs hd i)).le)).trans hlow

example : ∃ l, shrinkTrunc sqrtRat cfgA xA = .ok l ∧ l.length = xA.length ∧
    ∀ (i : Nat) (m : Rat), (mus cfgA xA)[i]? = some m →
      ∃ e : Rat, l[i]? = some (fin e) ∧ e ≤ cfgA.u * (1 - eps) ∧ e ≤ cfgA.u ∧
        min (cfgA.u * (1 - eps)) (m + cfgA.cV / sqrtRat (cfgA.dV + (i : Rat))) ≤ e ∧
        (0 < cfgA.cV → 0 ≤ m → 0 ≤ e) :=
  shrink_trunc_range sqrtRat sqrtRat_ok cfgA xA (by decide +kernel) xA_ne lenA
    (by decide +kernel) (by decide +kernel) (by decide +kernel)

/-- `shrink_trunc` stays strictly above the null conditional mean whenever that mean is below `u(1-eps)`
(for `c > 0`; uses `sqrtF (d+j-1) > 0`) -/
theorem shrink_trunc_above_mu_partial (sqrtF : Rat → Rat) (hs : SqrtOK sqrtF) (cfg : Cfg) (x : List Rat)
    (hx : x ≠ []) (hN : LenOK cfg.N x)
    (hc : 0 < cfg.cV) (hd : 0 < cfg.dV) (hf : 0 ≤ cfg.fV) (hmin : 0 < cfg.minsdV) :
    ∃ l, shrinkTrunc sqrtF cfg x = .ok l ∧ l.length = x.length ∧
      ∀ (i : Nat) (m : Rat), (mus cfg x)[i]? = some m → m < cfg.u * (1 - eps) →
        ∃ e : Rat, l[i]? = some (fin e) ∧ m < e := by
  obtain ⟨l, hl, hlen, h⟩ := shrink_trunc_entry sqrtF hs cfg x hx hN hd hf hmin
  refine ⟨l, hl, hlen, fun i m hm hlt => ?_⟩
  obtain ⟨w, hw⟩ := h i m hm
  exact ⟨_, hw, lt_min hlt (lt_max_of_lt_right (lt_add_of_pos_right m (div_pos hc (sqrt_pos_add hs hd i))))⟩

example : ∃ l, shrinkTrunc sqrtRat cfgA xA = .ok l ∧ l.length = xA.length ∧
    ∀ (i : Nat) (m : Rat), (mus cfgA xA)[i]? = some m → m < cfgA.u * (1 - eps) → ∃ e : Rat, l[i]? = some (fin e) ∧ m < e :=
  shrink_trunc_above_mu_partial sqrtRat sqrtRat_ok cfgA xA xA_ne lenA (by decide +kernel)
    (by decide +kernel) (by decide +kernel) (by decide +kernel)
example : (5 / 8 : Rat) < cfgA.u * (1 - eps) := by decide +kernel

/-- The full claim of the property ("strictly above the null mean whenever that mean is below `u`").
It is FALSE of the model (and of the code): the estimate is truncated at `u(1-eps)`, so on the sliver
`u(1-eps) ≤ mu_j < u` it is at most `mu_j`.  See `shrink_trunc_above_mu_full_false` for a counterexample
and `sliver_ignored` / `sliver_masked` for why this is harmless: `alpha_mart` sets the term to 1 there. -/
def shrink_trunc_above_mu_full : Prop :=
  ∀ (sqrtF : Rat → Rat), SqrtOK sqrtF → ∀ (cfg : Cfg) (x : List Rat),
    0 < cfg.t → cfg.t < cfg.u → x ≠ [] → LenOK cfg.N x →
    0 < cfg.cV → 0 < cfg.dV → 0 ≤ cfg.fV → 0 < cfg.minsdV →
    ∃ l, shrinkTrunc sqrtF cfg x = .ok l ∧
      ∀ (i : Nat) (m : Rat), (mus cfg x)[i]? = some m → m < cfg.u → ∃ e : Rat, l[i]? = some (fin e) ∧ m < e

/-- counterexample configuration: `u = 1`, `t = 1 - eps` (the largest double below 1), with replacement -/
def cfgSliver : Cfg := { N := none, u := 1, t := 1 - eps, randomOrder := true, kw := {} }

/-- the full claim fails: with `t = 1 - eps`, `u = 1` the first null mean is `1 - eps < u` and the first
estimate is `≤ u(1-eps) = 1 - eps`
(Python: `NonnegMean(u=1, t=1-2**-52, N=np.inf, estim=NonnegMean.shrink_trunc).estim(np.array([0.]))`
returns `[0.9999999999999998]`, equal to `t`) -/
theorem shrink_trunc_above_mu_full_false : ¬ shrink_trunc_above_mu_full := by
  intro h
  have hx : ([0] : List Rat) ≠ [] := by decide
  have hN : LenOK cfgSliver.N [0] := lenOK_none _
  obtain ⟨l, hl, hgt⟩ := h sqrtRat sqrtRat_ok cfgSliver [0] (by decide +kernel) (by decide +kernel) hx hN
    (by decide +kernel) (by decide +kernel) (by decide +kernel) (by decide +kernel)
  obtain ⟨l', hl', _, hle⟩ := shrink_trunc_range sqrtRat sqrtRat_ok cfgSliver [0] (by decide +kernel) hx hN
    (by decide +kernel) (by decide +kernel) (by decide +kernel)
  cases Except.ok.inj (hl.symm.trans hl')
  have hm : (mus cfgSliver [0])[0]? = some (1 - eps) := nullMeans_zero _ _ _ _ hN
  obtain ⟨e, he, hlt⟩ := hgt 0 (1 - eps) hm (by decide +kernel)
  obtain ⟨e', he', hle', _⟩ := hle 0 (1 - eps) hm
  cases XR.fin.inj (Option.some.inj (he.symm.trans he'))
  exact absurd hlt (not_lt.2 (hle'.trans_eq (one_mul _)))

/-- on the sliver `u(1-eps) ≤ mu < u` the null mean is within `alpha_mart`'s `isclose(u, mu)` band
(default `rtol = 1e-6`, `atol = 2 eps`), for every `u ≥ 0`: the relative tolerance alone suffices since
`u - mu ≤ u·eps ≤ 1e-6·u·(1-eps) ≤ 1e-6·mu` -/
theorem sliver_ignored (u m : Rat) (hu : 0 ≤ u) (h1 : u * (1 - eps) ≤ m) (h2 : m < u) :
    XR.isclose (fin u) (fin m) (1 / 1000000) (2 * eps) = true := by
  have hm0 : 0 ≤ m := (mul_nonneg hu one_sub_eps_pos.le).trans h1
  have hc : eps ≤ 1 / 1000000 * (1 - eps) := by decide +kernel
  simp only [XR.isclose, not_lt.2 (sub_nonneg.2 h2.le), not_lt.2 hm0, ↓reduceIte, decide_eq_true_eq]
  calc u - m ≤ u * eps := by rw [sub_le_comm, ← mul_one_sub]; exact h1
    _ ≤ u * (1 / 1000000 * (1 - eps)) := mul_le_mul_of_nonneg_left hc hu
    _ = 1 / 1000000 * (u * (1 - eps)) := mul_left_comm _ _ _
    _ ≤ 1 / 1000000 * m := mul_le_mul_of_nonneg_left h1 (by norm_num)
    _ ≤ 2 * eps + 1 / 1000000 * m := le_add_of_nonneg_left (mul_nonneg zero_le_two eps_pos.le)

theorem sliver_ignored_cfg (cfg : Cfg) (hr : cfg.rtol = 1 / 1000000) (ha : cfg.atol = 2 * eps) (m : Rat)
    (hu : 0 ≤ cfg.u) (h1 : cfg.u * (1 - eps) ≤ m) (h2 : m < cfg.u) :
    XR.isclose (fin cfg.u) (fin m) cfg.rtol cfg.atol = true := by
  rw [hr, ha]; exact sliver_ignored cfg.u m hu h1 h2

/-- hence `alpha_mart`'s mask replaces the running product by `1` at such an index, whatever the estimate -/
theorem sliver_masked (u m : Rat) (T : XR) (hu : 0 ≤ u) (h1 : u * (1 - eps) ≤ m) (h2 : m < u) :
    maskTerm u (2 * eps) (1 / 1000000) m T = 1 :=
  maskTermX_close_u (not_lt.2 ((mul_nonneg hu one_sub_eps_pos.le).trans h1)) (sliver_ignored u m hu h1 h2)

example : maskTerm 1 (2 * eps) (1 / 1000000) (1 - eps) (fin (-7)) = 1 :=
  sliver_masked 1 (1 - eps) (fin (-7)) (by decide +kernel) (by decide +kernel) (by decide +kernel)
example : XR.isclose (fin 1) (fin (1 - eps)) (1 / 1000000) (2 * eps) = true :=
  sliver_ignored 1 (1 - eps) (by decide +kernel) (by decide +kernel) (by decide +kernel)
example : ({ N := none, u := 1, t := 1 / 2, randomOrder := true, kw := {} } : Cfg).rtol = 1 / 1000000 ∧
    ({ N := none, u := 1, t := 1 / 2, randomOrder := true, kw := {} } : Cfg).atol = 2 * eps := ⟨rfl, rfl⟩

/-! ### `agrapa` -/

/-- the model's `t_adj` is the null conditional mean `mu_j` -/
theorem agrapa_tadj_eq_mu (cfg : Cfg) (x : List Rat) (hN : LenOK cfg.N x) :
    agTAdj cfg x = (mus cfg x).map fin := agTAdj_eq cfg x hN

/-- `0 ≤ cG0 ≤ cGmax ≤ 1`, `cGgrow ≥ 0`: the truncation level stays in `[cG0, cGmax] ⊆ [0, 1]` -/
theorem cJ_le_one (sqrtF : Rat → Rat) (hs : SqrtOK sqrtF) (c0 cm cg : Rat) (h0 : 0 ≤ c0) (h0m : c0 ≤ cm)
    (hm1 : cm ≤ 1) (hg : 0 ≤ cg) (i : Nat) : 0 ≤ cJ sqrtF c0 cm cg i ∧ cJ sqrtF c0 cm cg i ≤ 1 := by
  have := cJ_between sqrtF hs.nonneg c0 cm cg hg h0m i
  exact ⟨h0.trans this.1, this.2.trans hm1⟩

/-- `agrapa` with `cGgrow ≥ 0`: wherever `mu_j > 0` the bet is `fin b` with `0 ≤ b ≤ max(0, c_j/mu_j)`,
`c_j = cG0 + (cGmax - cG0)(1 - 1/(1 + cGgrow·sqrtF(j-1)))` (`i = j - 1`) -/
theorem agrapa_range_raw (sqrtF : Rat → Rat) (hs : SqrtOK sqrtF) (cfg : Cfg) (x : List Rat)
    (hx : x ≠ []) (hN : LenOK cfg.N x) (hg : 0 ≤ cfg.cgV) :
    ∃ l, agrapa sqrtF cfg x = .ok l ∧ l.length = x.length ∧
      ∀ (i : Nat) (m : Rat), (mus cfg x)[i]? = some m → 0 < m →
        ∃ b : Rat, l[i]? = some (fin b) ∧ 0 ≤ b ∧ b ≤ max 0 (cJ sqrtF cfg.c0V cfg.cmV cfg.cgV i / m) := by
  obtain ⟨l, hl, hlen, h⟩ := agrapa_entry sqrtF cfg x hx hN
  refine ⟨l, hl, hlen, fun i m hm hm0 => ?_⟩
  obtain ⟨q, _, hq⟩ := h i m hm
  rw [agEntry_fin sqrtF hs.nonneg _ _ _ hg i q m hm0.ne'] at hq
  exact ⟨_, hq, le_max_left _ _, max_le_max_left _ (min_le_left _ _)⟩

/-- `agrapa` for `0 ≤ cG0 ≤ cGmax ≤ 1`, `cGgrow ≥ 0`: wherever `mu_j > 0` the bet is `fin b` with
`0 ≤ b ≤ c_j/mu_j`, and `c_j ≤ 1`, so `b ≤ 1/mu_j` -/
theorem agrapa_range (sqrtF : Rat → Rat) (hs : SqrtOK sqrtF) (cfg : Cfg) (x : List Rat)
    (hx : x ≠ []) (hN : LenOK cfg.N x)
    (h0 : 0 ≤ cfg.c0V) (h0m : cfg.c0V ≤ cfg.cmV) (hm1 : cfg.cmV ≤ 1) (hg : 0 ≤ cfg.cgV) :
    ∃ l, agrapa sqrtF cfg x = .ok l ∧ l.length = x.length ∧
      ∀ (i : Nat) (m : Rat), (mus cfg x)[i]? = some m → 0 < m →
        ∃ b : Rat, l[i]? = some (fin b) ∧ 0 ≤ b ∧ b ≤ cJ sqrtF cfg.c0V cfg.cmV cfg.cgV i / m ∧
          cJ sqrtF cfg.c0V cfg.cmV cfg.cgV i ≤ 1 ∧ b ≤ 1 / m := by
  obtain ⟨l, hl, hlen, h⟩ := agrapa_range_raw sqrtF hs cfg x hx hN hg
  refine ⟨l, hl, hlen, fun i m hm hm0 => ?_⟩
  obtain ⟨b, hb, hb0, hb1⟩ := h i m hm hm0
  have hc := cJ_le_one sqrtF hs cfg.c0V cfg.cmV cfg.cgV h0 h0m hm1 hg i
  rw [max_eq_right (div_nonneg hc.1 hm0.le)] at hb1
  exact ⟨b, hb, hb0, hb1, hc.2, hb1.trans (div_le_div_of_nonneg_right hc.2 hm0.le)⟩

example : ∃ l, agrapa sqrtRat cfgA xA = .ok l ∧ l.length = xA.length ∧
    ∀ (i : Nat) (m : Rat), (mus cfgA xA)[i]? = some m → 0 < m →
      ∃ b : Rat, l[i]? = some (fin b) ∧ 0 ≤ b ∧ b ≤ cJ sqrtRat cfgA.c0V cfgA.cmV cfgA.cgV i / m ∧
        cJ sqrtRat cfgA.c0V cfgA.cmV cfgA.cgV i ≤ 1 ∧ b ≤ 1 / m :=
  agrapa_range sqrtRat sqrtRat_ok cfgA xA xA_ne lenA (by decide +kernel) (by decide +kernel)
    (by decide +kernel) (by decide +kernel)

/-- the first bet of `agrapa` is the `lam` attribute (default 1/2) clipped to `[0, c_0/mu_1]`, `mu_1 = t` -/
theorem agrapa_first_bet (sqrtF : Rat → Rat) (hs : SqrtOK sqrtF) (cfg : Cfg) (x : List Rat)
    (ht : cfg.t ≠ 0) (hx : x ≠ []) (hN : LenOK cfg.N x) (hg : 0 ≤ cfg.cgV) :
    ∃ l, agrapa sqrtF cfg x = .ok l ∧
      l[0]? = some (fin (max 0 (min (cJ sqrtF cfg.c0V cfg.cmV cfg.cgV 0 / cfg.t) cfg.lamV))) := by
  obtain ⟨l, hl, _, h⟩ := agrapa_entry sqrtF cfg x hx hN
  cases x with
  | nil => exact absurd rfl hx
  | cons a x =>
    obtain ⟨q, hq0, hq⟩ := h 0 cfg.t (nullMeans_zero cfg.N cfg.t a x hN)
    rw [hq0 rfl, agEntry_fin sqrtF hs.nonneg _ _ _ hg 0 _ _ ht] at hq
    exact ⟨l, hl, hq⟩

example : ∃ l, agrapa sqrtRat cfgA xA = .ok l ∧
    l[0]? = some (fin (max 0 (min (cJ sqrtRat cfgA.c0V cfgA.cmV cfgA.cgV 0 / cfgA.t) cfgA.lamV))) :=
  agrapa_first_bet sqrtRat sqrtRat_ok cfgA xA (by decide +kernel) xA_ne lenA (by decide +kernel)

/-! ### `fixed_bet` -/

/-- `fixed_bet` with `0 ≤ lam ≤ 1/u`: every bet is `fin lam`, and `lam ≤ 1/mu_j` wherever `0 < mu_j ≤ u` -/
theorem fixed_bet_range (cfg : Cfg) (x : List Rat) (lam : Rat) (hl : cfg.kw.lam = some lam)
    (h0 : 0 ≤ lam) (h1 : lam ≤ 1 / cfg.u) :
    ∃ l, fixedBet cfg x = .ok l ∧ l.length = x.length ∧
      ∀ (i : Nat) (m : Rat), (mus cfg x)[i]? = some m →
        l[i]? = some (fin lam) ∧ 0 ≤ lam ∧ (0 < m → m ≤ cfg.u → lam ≤ 1 / m) := by
  exact ⟨_, fixedBet_eq cfg x lam hl, List.length_replicate, fun i m hm =>
    ⟨List.getElem?_replicate_of_lt (lt_length_of_nullMeans hm), h0,
      fun hm0 hmu => h1.trans (one_div_le_one_div_of_le hm0 hmu)⟩⟩

/-- the constructor's default bet `lam = 1/2` with `u = 1` -/
def cfgF : Cfg := Cfg.init false false 1 (some 5) (1 / 2) true {}

example : ∃ l, fixedBet cfgF xA = .ok l ∧ l.length = xA.length ∧
    ∀ (i : Nat) (m : Rat), (mus cfgF xA)[i]? = some m →
      l[i]? = some (fin (1 / 2)) ∧ (0 : Rat) ≤ 1 / 2 ∧ (0 < m → m ≤ cfgF.u → (1 / 2 : Rat) ≤ 1 / m) :=
  fixed_bet_range cfgF xA (1 / 2) rfl (by decide +kernel) (by decide +kernel)

/-! ### the estimate `alpha_mart` actually uses, and the factors -/

/-- `np.minimum(u, np.maximum(estim, m))` of a finite estimate is `fin e'` with `min(m,u) ≤ e' ≤ u`;
hence `e' ∈ [m, u]` when `m ≤ u` -/
theorem alpha_alternative_in_range (u m e : Rat) :
    ∃ e' : Rat, XR.npmin (fin u) (XR.npmax (fin e) (fin m)) = fin e' ∧ min m u ≤ e' ∧ e' ≤ u ∧
      (m ≤ u → m ≤ e') := by
  exact ⟨min u (max e m), by rw [XR.npmax_fin, XR.npmin_fin],
    le_min (min_le_right _ _) ((min_le_left _ _).trans (le_max_right _ _)), min_le_left _ _,
    fun h => le_min h (le_max_right _ _)⟩

example : ∃ e' : Rat, XR.npmin (fin 1) (XR.npmax (fin (-15)) (fin (5 / 8))) = fin e' ∧
    min (5 / 8) 1 ≤ e' ∧ e' ≤ 1 ∧ ((5 / 8 : Rat) ≤ 1 → 5 / 8 ≤ e') := alpha_alternative_in_range 1 (5 / 8) (-15)

/-- ALPHA factor: for `0 < m < u`, `0 ≤ e ≤ u` (in particular `m ≤ e ≤ u`) and `0 ≤ x ≤ u` the factor
`(x e/m + (u-x)(u-e)/(u-m))/u` is non-negative, and the `XR` expression of `alphaTerms` evaluates to it -/
theorem factor_nonneg_alpha (u m e x : Rat) (hm : 0 < m) (hmu : m < u) (he0 : 0 ≤ e) (heu : e ≤ u)
    (hx0 : 0 ≤ x) (hxu : x ≤ u) :
    0 ≤ (x * e / m + (u - x) * (u - e) / (u - m)) / u ∧
    ((XR.fin x) * (fin e) / (XR.fin m) + (XR.fin (u - x)) * ((XR.fin u) - (fin e)) / (XR.fin (u - m))) / (XR.fin u)
      = fin ((x * e / m + (u - x) * (u - e) / (u - m)) / u) :=
  ⟨alphaFactorQ_nonneg u m x e hm hmu hx0 hxu he0 heu,
    alphaExpr_fin u m x e hm.ne' (sub_pos.2 hmu).ne' (hm.trans hmu).ne'⟩

/-- for an alternative not below the null mean: `m ≤ e ≤ u` -/
theorem factor_nonneg_alpha_ge_mu (u m e x : Rat) (hm : 0 < m) (hmu : m < u) (hme : m ≤ e) (heu : e ≤ u)
    (hx0 : 0 ≤ x) (hxu : x ≤ u) : 0 ≤ (x * e / m + (u - x) * (u - e) / (u - m)) / u :=
  (factor_nonneg_alpha u m e x hm hmu (le_trans (le_of_lt hm) hme) heu hx0 hxu).1

example : (0 : Rat) ≤ (0 * (3 / 4) / (5 / 8) + (1 - 0) * (1 - 3 / 4) / (1 - 5 / 8)) / 1 :=
  factor_nonneg_alpha_ge_mu 1 (5 / 8) (3 / 4) 0 (by decide +kernel) (by decide +kernel) (by decide +kernel)
    (by decide +kernel) (by decide +kernel) (by decide +kernel)

/-- betting factor: for `0 < m`, `0 ≤ l ≤ 1/m`, `0 ≤ x` the factor `1 + l (x - m)` is non-negative, and the
`XR` expression of `bettingTerms` evaluates to it -/
theorem factor_nonneg_betting (m l x : Rat) (hm : 0 < m) (hl0 : 0 ≤ l) (hl1 : l ≤ 1 / m) (hx0 : 0 ≤ x) :
    0 ≤ 1 + l * (x - m) ∧ (1 : XR) + (fin l) * (XR.fin (x - m)) = fin (1 + l * (x - m)) :=
  ⟨betFactor_nonneg hx0 hl0 ((le_div_iff₀ hm).1 hl1), betFactorX_fin m x l⟩

example : (0 : Rat) ≤ 1 + (8 / 5) * (0 - 5 / 8) :=
  (factor_nonneg_betting (5 / 8) (8 / 5) 0 (by decide +kernel) (by decide +kernel) (by decide +kernel)
    (by decide +kernel)).1

/-! ### every shipped estimator / bet, through the dispatch the tests use -/

/-- guards on the attributes the estimators read (the documented ranges; all defaults satisfy them when
`t ≤ u(1-eps)`) -/
structure EstimGuard (cfg : Cfg) : Prop where
  eta_ge : cfg.t ≤ cfg.etaV
  c_pos : 0 < cfg.cV
  d_pos : 0 < cfg.dV
  f_nonneg : 0 ≤ cfg.fV
  minsd_pos : 0 < cfg.minsdV

/-- every shipped estimator, whenever it returns, returns one finite value in `[0,u]` per observation
wherever the null conditional mean is positive (`optimal_comparison` raises for `u = 1`) -/
theorem estim_range (sqrtF : Rat → Rat) (hs : SqrtOK sqrtF) (cfg : Cfg) (x : List Rat) (k : Estim)
    (ht : 0 < cfg.t) (htu : cfg.t < cfg.u) (hx : x ≠ []) (hN : LenOK cfg.N x) (hg : EstimGuard cfg)
    (l : List XR) (hl : estim sqrtF cfg k x = .ok l) :
    l.length = x.length ∧
      ∀ (i : Nat) (m : Rat), (mus cfg x)[i]? = some m → 0 < m → ∃ e : Rat, l[i]? = some (fin e) ∧ 0 ≤ e ∧ e ≤ cfg.u := by
  have hu : 0 < cfg.u := lt_trans ht htu
  cases k with
  | fixedAlt =>
    obtain ⟨hlen, h⟩ := of_ok hl (fixed_alt_range cfg x ht htu hg.eta_ge hx hN)
    refine ⟨hlen, fun i m hm hm0 => ?_⟩
    obtain ⟨e, he, he1, _, he0⟩ := h i m hm
    exact ⟨e, he, (he0 hm0).le, he1⟩
  | shrinkTrunc =>
    obtain ⟨hlen, h⟩ := of_ok hl
      (shrink_trunc_range sqrtF hs cfg x hu.le hx hN hg.d_pos hg.f_nonneg hg.minsd_pos)
    refine ⟨hlen, fun i m hm hm0 => ?_⟩
    obtain ⟨e, he, _, he1, _, he0⟩ := h i m hm
    exact ⟨e, he, he0 hg.c_pos hm0.le, he1⟩
  | optimalComparison =>
    by_cases hu1 : cfg.u = 1
    · exact nomatch hl.symm.trans (optimal_comparison_u_one cfg x hu1)
    · obtain ⟨hlen, h⟩ := of_ok hl (optimal_comparison_range_entry cfg x hu.le hu1)
      exact ⟨hlen, fun i m hm _ => h i (lt_length_of_nullMeans hm)⟩

/-- guards on the attributes the bets read -/
structure BetGuard (cfg : Cfg) : Prop where
  lam_range : ∀ lam, cfg.kw.lam = some lam → 0 ≤ lam ∧ lam ≤ 1 / cfg.u
  c0_nonneg : 0 ≤ cfg.c0V
  c0_le_cm : cfg.c0V ≤ cfg.cmV
  cm_le_one : cfg.cmV ≤ 1
  cg_nonneg : 0 ≤ cfg.cgV

/-- every shipped bet, whenever it returns, returns one finite fraction in `[0, 1/mu_j]` per observation
wherever `0 < mu_j ≤ u` -/
theorem bet_range (sqrtF : Rat → Rat) (hs : SqrtOK sqrtF) (cfg : Cfg) (x : List Rat) (k : Bet)
    (hx : x ≠ []) (hN : LenOK cfg.N x) (hg : BetGuard cfg)
    (l : List XR) (hl : bet sqrtF cfg k x = .ok l) :
    l.length = x.length ∧
      ∀ (i : Nat) (m : Rat), (mus cfg x)[i]? = some m → 0 < m → m ≤ cfg.u →
        ∃ b : Rat, l[i]? = some (fin b) ∧ 0 ≤ b ∧ b ≤ 1 / m := by
  cases k with
  | fixed =>
    cases hlam : cfg.kw.lam with
    | none => simp only [bet, fixedBet, hlam] at hl; cases hl
    | some lam =>
      obtain ⟨h0, h1⟩ := hg.lam_range lam hlam
      obtain ⟨hlen, h⟩ := of_ok hl (fixed_bet_range cfg x lam hlam h0 h1)
      refine ⟨hlen, fun i m hm hm0 hmu => ?_⟩
      obtain ⟨he, _, hle⟩ := h i m hm
      exact ⟨lam, he, h0, hle hm0 hmu⟩
  | agrapa =>
    obtain ⟨hlen, h⟩ := of_ok hl
      (agrapa_range sqrtF hs cfg x hx hN hg.c0_nonneg hg.c0_le_cm hg.cm_le_one hg.cg_nonneg)
    refine ⟨hlen, fun i m hm hm0 _ => ?_⟩
    obtain ⟨b, hb, hb0, _, _, hb1⟩ := h i m hm hm0
    exact ⟨b, hb, hb0, hb1⟩

/-- the hypotheses of `estim_range` / `bet_range` are satisfiable: the dispatch returns on the example inputs -/
example : ∃ l, estim sqrtRat cfgA .shrinkTrunc xA = .ok l := by
  obtain ⟨l, hl, _⟩ := shrink_trunc_entry sqrtRat sqrtRat_ok cfgA xA xA_ne lenA
    (by decide +kernel) (by decide +kernel) (by decide +kernel)
  exact ⟨l, hl⟩
example : ∃ l, bet sqrtRat cfgF .fixed xA = .ok l := ⟨_, fixedBet_eq cfgF xA (1 / 2) rfl⟩
example : ∃ l, bet sqrtRat cfgF .agrapa xA = .ok l := ⟨_, agrapa_eq sqrtRat cfgF xA xA_ne⟩
example : EstimGuard cfgA := by
  constructor <;> decide +kernel
example : BetGuard cfgF := by
  refine ⟨?_, ?_, ?_, ?_, ?_⟩
  · rintro lam ⟨⟩; decide +kernel
  all_goals decide +kernel

end Shangrla.C13
