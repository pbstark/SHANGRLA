/-
  C01 — capstone: the single entry point `run sqrtF cfg test x` (= `NonnegMean.test(x)`).

  For EVERY `test` the dispatcher accepts, used within the documented parameter ranges of its test /
  estimator / bet (`Documented`: each hypothesis is one that the theorem for that case takes, except
  `0 ≤ u` and `atol < 1/2`, documented ranges that no proof needs), the exact probability that after some
  number of draws the overall p-value or any entry of the reported history is `≤ alpha` does not exceed
  `alpha`: under sampling without replacement from every null population, and under independent draws
  from every finitely supported null law (weights in an ordered field `K`; rational weights are the
  instance `K = ℚ`).

  Kaplan-Markov and Kaplan-Wald are documented for sampling with replacement only, Kaplan-Kolmogorov for a
  finite population only: `Documented` is false of the other combinations.
-/
import Shangrla.Props.C01Any
import Shangrla.Props.C01Shipped

namespace Shangrla.C01
open Shangrla Shangrla.NM XR Shangrla.C12 Shangrla.Ville Shangrla.C11 Shangrla.C05

/-! ### the shipped estimators and bets: overall p-value or any history entry -/

theorem C01_finite_alpha_shrink_any (sqrtF : ℚ → ℚ) (hs : ∀ q, 0 < q → 0 < sqrtF q) (cfg : Cfg) (n : Nat)
    (hN : cfg.N = some n) (hd : 0 < cfg.dV) (hf : 0 ≤ cfg.fV) (hmin : 0 < cfg.minsdV)
    (hu : 0 ≤ cfg.u) (hat : 0 ≤ cfg.atol) (hat2 : cfg.atol < 1 / 2) (hrt : 0 ≤ cfg.rtol)
    (alpha : ℚ) (ha0 : 0 < alpha) (ha1 : alpha < 1)
    (pop : List ℚ) (hlen : pop.length = n) (hrange : ∀ a ∈ pop, 0 ≤ a ∧ a ≤ cfg.u)
    (hnull : pop.sum ≤ (n : ℚ) * cfg.t) :
    hitEv (reportedAny cfg (shrinkTrunc sqrtF cfg) alpha) pop.length pop [] ≤ alpha :=
  C01_finite_alpha_any cfg n hN (gOf (shrinkTrunc sqrtF cfg) (ValidLen cfg.N)) (shrinkTrunc sqrtF cfg)
    (fun h hne hl => shrink_predictable sqrtF hs cfg hd hf hmin h ⟨hne, forall_of_some hN hl⟩)
    hu hat hat2 hrt alpha ha0 ha1 pop hlen hrange hnull

theorem C01_finite_alpha_optimal_any (cfg : Cfg) (n : Nat) (hN : cfg.N = some n) (hu1 : 2 - 2 * cfg.u ≠ 0)
    (hu : 0 ≤ cfg.u) (hat : 0 ≤ cfg.atol) (hat2 : cfg.atol < 1 / 2) (hrt : 0 ≤ cfg.rtol)
    (alpha : ℚ) (ha0 : 0 < alpha) (ha1 : alpha < 1)
    (pop : List ℚ) (hlen : pop.length = n) (hrange : ∀ a ∈ pop, 0 ≤ a ∧ a ≤ cfg.u)
    (hnull : pop.sum ≤ (n : ℚ) * cfg.t) :
    hitEv (reportedAny cfg (optimalComparison cfg) alpha) pop.length pop [] ≤ alpha :=
  C01_finite_alpha_any cfg n hN (fun _ => gOptimal cfg) (optimalComparison cfg)
    (fun h _ _ => optimal_predictable cfg hu1 h) hu hat hat2 hrt alpha ha0 ha1 pop hlen hrange hnull

theorem C01_finite_betting_agrapa_any (sqrtF : ℚ → ℚ) (hs : C13.SqrtOK sqrtF) (cfg : Cfg) (n : Nat)
    (hN : cfg.N = some n)
    (h0 : 0 < cfg.c0V) (h0m : cfg.c0V ≤ cfg.cmV) (hm1 : cfg.cmV ≤ 1) (hg : 0 ≤ cfg.cgV)
    (hu : 0 ≤ cfg.u) (hat : 0 ≤ cfg.atol) (hat2 : cfg.atol < 1 / 2) (hrt : 0 ≤ cfg.rtol)
    (alpha : ℚ) (ha0 : 0 < alpha) (ha1 : alpha < 1)
    (pop : List ℚ) (hlen : pop.length = n) (hrange : ∀ a ∈ pop, 0 ≤ a ∧ a ≤ cfg.u)
    (hnull : pop.sum ≤ (n : ℚ) * cfg.t) :
    hitEv (reportedAnyB cfg (agrapa sqrtF cfg) alpha) pop.length pop [] ≤ alpha :=
  C01_finite_betting_any cfg n hN (gAgrapa sqrtF cfg) (agrapa sqrtF cfg)
    (fun h hne hl => agrapa_predictable sqrtF hs cfg h0 h0m hg h ⟨hne, forall_of_some hN hl⟩)
    (gAgrapa_nonneg sqrtF hs cfg h0 h0m hg) (fun h hm0 _ => gAgrapa_le sqrtF hs cfg h0 h0m hm1 hg hN h hm0)
    hu hat hat2 hrt alpha ha0 ha1 pop hlen hrange hnull

section OrderedField

variable {K : Type} [Field K] [LinearOrder K] [IsStrictOrderedRing K]

theorem C01_iid_alpha_fixed_any_K (cfg : Cfg) (hN : cfg.N = none)
    (ht0 : 0 < cfg.t) (htu : cfg.t < cfg.u)
    (hat : 0 ≤ cfg.atol) (hat2 : cfg.atol < 1 / 2) (hrt : 0 ≤ cfg.rtol)
    (alpha : ℚ) (ha0 : 0 < alpha) (ha1 : alpha < 1)
    (L : List (ℚ × K)) (hL : IsLawK cfg.u L) (hmean : lawMeanK L ≤ (cfg.t : K)) (k : Nat) :
    hitIIDK L (reportedAny cfg (fixedAlternativeMean cfg) alpha) k [] ≤ (alpha : K) :=
  C01_iid_alpha_any_K cfg hN (gFixedAlt cfg) (fixedAlternativeMean cfg)
    (fun h hne => fixedAlt_params cfg h hne (forall_of_none hN)) ht0 htu hat hat2 hrt alpha ha0 ha1 L hL hmean k

theorem C01_iid_alpha_shrink_any_K (sqrtF : ℚ → ℚ) (hs : ∀ q, 0 < q → 0 < sqrtF q) (cfg : Cfg)
    (hN : cfg.N = none) (hd : 0 < cfg.dV) (hf : 0 ≤ cfg.fV) (hmin : 0 < cfg.minsdV)
    (ht0 : 0 < cfg.t) (htu : cfg.t < cfg.u)
    (hat : 0 ≤ cfg.atol) (hat2 : cfg.atol < 1 / 2) (hrt : 0 ≤ cfg.rtol)
    (alpha : ℚ) (ha0 : 0 < alpha) (ha1 : alpha < 1)
    (L : List (ℚ × K)) (hL : IsLawK cfg.u L) (hmean : lawMeanK L ≤ (cfg.t : K)) (k : Nat) :
    hitIIDK L (reportedAny cfg (shrinkTrunc sqrtF cfg) alpha) k [] ≤ (alpha : K) :=
  C01_iid_alpha_any_K cfg hN (gOf (shrinkTrunc sqrtF cfg) (ValidLen cfg.N)) (shrinkTrunc sqrtF cfg)
    (fun h hne => shrink_predictable sqrtF hs cfg hd hf hmin h
      ⟨hne, forall_of_none hN⟩)
    ht0 htu hat hat2 hrt alpha ha0 ha1 L hL hmean k

theorem C01_iid_alpha_optimal_any_K (cfg : Cfg) (hN : cfg.N = none) (hu1 : 2 - 2 * cfg.u ≠ 0)
    (ht0 : 0 < cfg.t) (htu : cfg.t < cfg.u)
    (hat : 0 ≤ cfg.atol) (hat2 : cfg.atol < 1 / 2) (hrt : 0 ≤ cfg.rtol)
    (alpha : ℚ) (ha0 : 0 < alpha) (ha1 : alpha < 1)
    (L : List (ℚ × K)) (hL : IsLawK cfg.u L) (hmean : lawMeanK L ≤ (cfg.t : K)) (k : Nat) :
    hitIIDK L (reportedAny cfg (optimalComparison cfg) alpha) k [] ≤ (alpha : K) :=
  C01_iid_alpha_any_K cfg hN (fun _ => gOptimal cfg) (optimalComparison cfg)
    (fun h _ => optimal_predictable cfg hu1 h) ht0 htu hat hat2 hrt alpha ha0 ha1 L hL hmean k

theorem C01_iid_betting_fixed_any_K (cfg : Cfg) (hN : cfg.N = none) (lam : ℚ)
    (hlam : cfg.kw.lam = some lam) (hl0 : 0 ≤ lam) (hl1 : lam * cfg.u ≤ 1)
    (ht0 : 0 < cfg.t) (htu : cfg.t < cfg.u)
    (hat : 0 ≤ cfg.atol) (hat2 : cfg.atol < 1 / 2) (hrt : 0 ≤ cfg.rtol)
    (alpha : ℚ) (ha0 : 0 < alpha) (ha1 : alpha < 1)
    (L : List (ℚ × K)) (hL : IsLawK cfg.u L) (hmean : lawMeanK L ≤ (cfg.t : K)) (k : Nat) :
    hitIIDK L (reportedAnyB cfg (fixedBet cfg) alpha) k [] ≤ (alpha : K) :=
  C01_iid_betting_any_K cfg hN (fun _ => lam) (fixedBet cfg) (fun h _ => fixedBet_params cfg lam hlam h)
    (fun _ => hl0) (fun _ => (mul_le_mul_of_nonneg_left htu.le hl0).trans hl1)
    ht0 htu hat hat2 hrt alpha ha0 ha1 L hL hmean k

theorem C01_iid_betting_agrapa_any_K (sqrtF : ℚ → ℚ) (hs : C13.SqrtOK sqrtF) (cfg : Cfg) (hN : cfg.N = none)
    (h0 : 0 < cfg.c0V) (h0m : cfg.c0V ≤ cfg.cmV) (hm1 : cfg.cmV ≤ 1) (hg : 0 ≤ cfg.cgV)
    (ht0 : 0 < cfg.t) (htu : cfg.t < cfg.u)
    (hat : 0 ≤ cfg.atol) (hat2 : cfg.atol < 1 / 2) (hrt : 0 ≤ cfg.rtol)
    (alpha : ℚ) (ha0 : 0 < alpha) (ha1 : alpha < 1)
    (L : List (ℚ × K)) (hL : IsLawK cfg.u L) (hmean : lawMeanK L ≤ (cfg.t : K)) (k : Nat) :
    hitIIDK L (reportedAnyB cfg (agrapa sqrtF cfg) alpha) k [] ≤ (alpha : K) :=
  C01_iid_betting_any_K cfg hN (gAgrapa sqrtF cfg) (agrapa sqrtF cfg)
    (fun h hne => agrapa_predictable sqrtF hs cfg h0 h0m hg h ⟨hne, forall_of_none hN⟩)
    (gAgrapa_nonneg sqrtF hs cfg h0 h0m hg) (fun h => gAgrapa_le sqrtF hs cfg h0 h0m hm1 hg hN h ht0)
    ht0 htu hat hat2 hrt alpha ha0 ha1 L hL hmean k

end OrderedField

theorem C01_iid_alpha_fixed_any (cfg : Cfg) (hN : cfg.N = none)
    (ht0 : 0 < cfg.t) (htu : cfg.t < cfg.u)
    (hat : 0 ≤ cfg.atol) (hat2 : cfg.atol < 1 / 2) (hrt : 0 ≤ cfg.rtol)
    (alpha : ℚ) (ha0 : 0 < alpha) (ha1 : alpha < 1)
    (L : List (ℚ × ℚ)) (hL : IsLaw cfg.u L) (hmean : lawMean L ≤ cfg.t) (k : Nat) :
    hitIID L (reportedAny cfg (fixedAlternativeMean cfg) alpha) k [] ≤ alpha :=
  hitIIDK_rat L _ k [] ▸
    C01_iid_alpha_fixed_any_K (K := ℚ) cfg hN ht0 htu hat hat2 hrt alpha ha0 ha1 L hL.toK hmean k

theorem C01_iid_alpha_shrink_any (sqrtF : ℚ → ℚ) (hs : ∀ q, 0 < q → 0 < sqrtF q) (cfg : Cfg)
    (hN : cfg.N = none) (hd : 0 < cfg.dV) (hf : 0 ≤ cfg.fV) (hmin : 0 < cfg.minsdV)
    (ht0 : 0 < cfg.t) (htu : cfg.t < cfg.u)
    (hat : 0 ≤ cfg.atol) (hat2 : cfg.atol < 1 / 2) (hrt : 0 ≤ cfg.rtol)
    (alpha : ℚ) (ha0 : 0 < alpha) (ha1 : alpha < 1)
    (L : List (ℚ × ℚ)) (hL : IsLaw cfg.u L) (hmean : lawMean L ≤ cfg.t) (k : Nat) :
    hitIID L (reportedAny cfg (shrinkTrunc sqrtF cfg) alpha) k [] ≤ alpha :=
  hitIIDK_rat L _ k [] ▸
    C01_iid_alpha_shrink_any_K (K := ℚ) sqrtF hs cfg hN hd hf hmin ht0 htu hat hat2 hrt alpha ha0 ha1 L hL.toK hmean k

theorem C01_iid_alpha_optimal_any (cfg : Cfg) (hN : cfg.N = none) (hu1 : 2 - 2 * cfg.u ≠ 0)
    (ht0 : 0 < cfg.t) (htu : cfg.t < cfg.u)
    (hat : 0 ≤ cfg.atol) (hat2 : cfg.atol < 1 / 2) (hrt : 0 ≤ cfg.rtol)
    (alpha : ℚ) (ha0 : 0 < alpha) (ha1 : alpha < 1)
    (L : List (ℚ × ℚ)) (hL : IsLaw cfg.u L) (hmean : lawMean L ≤ cfg.t) (k : Nat) :
    hitIID L (reportedAny cfg (optimalComparison cfg) alpha) k [] ≤ alpha :=
  hitIIDK_rat L _ k [] ▸
    C01_iid_alpha_optimal_any_K (K := ℚ) cfg hN hu1 ht0 htu hat hat2 hrt alpha ha0 ha1 L hL.toK hmean k

theorem C01_iid_betting_fixed_any (cfg : Cfg) (hN : cfg.N = none) (lam : ℚ)
    (hlam : cfg.kw.lam = some lam) (hl0 : 0 ≤ lam) (hl1 : lam * cfg.u ≤ 1)
    (ht0 : 0 < cfg.t) (htu : cfg.t < cfg.u)
    (hat : 0 ≤ cfg.atol) (hat2 : cfg.atol < 1 / 2) (hrt : 0 ≤ cfg.rtol)
    (alpha : ℚ) (ha0 : 0 < alpha) (ha1 : alpha < 1)
    (L : List (ℚ × ℚ)) (hL : IsLaw cfg.u L) (hmean : lawMean L ≤ cfg.t) (k : Nat) :
    hitIID L (reportedAnyB cfg (fixedBet cfg) alpha) k [] ≤ alpha :=
  hitIIDK_rat L _ k [] ▸
    C01_iid_betting_fixed_any_K (K := ℚ) cfg hN lam hlam hl0 hl1 ht0 htu hat hat2 hrt alpha ha0 ha1 L hL.toK hmean k

theorem C01_iid_betting_agrapa_any (sqrtF : ℚ → ℚ) (hs : C13.SqrtOK sqrtF) (cfg : Cfg) (hN : cfg.N = none)
    (h0 : 0 < cfg.c0V) (h0m : cfg.c0V ≤ cfg.cmV) (hm1 : cfg.cmV ≤ 1) (hg : 0 ≤ cfg.cgV)
    (ht0 : 0 < cfg.t) (htu : cfg.t < cfg.u)
    (hat : 0 ≤ cfg.atol) (hat2 : cfg.atol < 1 / 2) (hrt : 0 ≤ cfg.rtol)
    (alpha : ℚ) (ha0 : 0 < alpha) (ha1 : alpha < 1)
    (L : List (ℚ × ℚ)) (hL : IsLaw cfg.u L) (hmean : lawMean L ≤ cfg.t) (k : Nat) :
    hitIID L (reportedAnyB cfg (agrapa sqrtF cfg) alpha) k [] ≤ alpha :=
  hitIIDK_rat L _ k [] ▸
    C01_iid_betting_agrapa_any_K (K := ℚ) sqrtF hs cfg hN h0 h0m hm1 hg ht0 htu hat hat2 hrt alpha ha0 ha1 L hL.toK hmean k

/-! ### the event for an arbitrary test and for the dispatcher -/

/-- "the overall p-value that the test `T` reports on the draws `h`, or some entry of the history it
reports, is `≤ alpha`" (`false` when `T` raises) -/
def reportedAnyOf (T : List ℚ → Except Err (XR × List XR)) (alpha : ℚ) (h : List ℚ) : Bool :=
  anyLe alpha (T h)

/-- the event for `self.test(x)` -/
def reportedAnyRun (sqrtF : ℚ → ℚ) (cfg : Cfg) (test : Test) (alpha : ℚ) : List ℚ → Bool :=
  reportedAnyOf (run sqrtF cfg test) alpha

theorem reportedAnyOf_alphaMart (cfg : Cfg) (e : List ℚ → Except Err (List XR)) (alpha : ℚ) :
    reportedAnyOf (alphaMart cfg e) alpha = reportedAny cfg e alpha := rfl
theorem reportedAnyOf_bettingMart (cfg : Cfg) (b : List ℚ → Except Err (List XR)) (alpha : ℚ) :
    reportedAnyOf (bettingMart cfg b) alpha = reportedAnyB cfg b alpha := rfl
theorem reportedAnyOf_kk (cfg : Cfg) (alpha : ℚ) :
    reportedAnyOf (kaplanKolmogorov cfg) alpha = reportedAnyKK cfg alpha := rfl
theorem reportedAnyOf_km (cfg : Cfg) (alpha : ℚ) :
    reportedAnyOf (kaplanMarkov cfg) alpha = reportedAnyKM cfg alpha := rfl
theorem reportedAnyOf_kw (cfg : Cfg) (alpha : ℚ) :
    reportedAnyOf (kaplanWald cfg) alpha = reportedAnyKW cfg alpha := rfl
theorem reportedAnyOf_sprt (cfg : Cfg) (alpha : ℚ) :
    reportedAnyOf (waldSprt cfg) alpha = reportedAnySprt cfg alpha := rfl

theorem reportedAnyRun_alpha (sqrtF : ℚ → ℚ) (cfg : Cfg) (e : Estim) (alpha : ℚ) :
    reportedAnyRun sqrtF cfg (.alpha e) alpha = reportedAny cfg (estim sqrtF cfg e) alpha := rfl
theorem reportedAnyRun_betting (sqrtF : ℚ → ℚ) (cfg : Cfg) (b : Bet) (alpha : ℚ) :
    reportedAnyRun sqrtF cfg (.betting b) alpha = reportedAnyB cfg (bet sqrtF cfg b) alpha := rfl
theorem reportedAnyRun_kk (sqrtF : ℚ → ℚ) (cfg : Cfg) (alpha : ℚ) :
    reportedAnyRun sqrtF cfg .kk alpha = reportedAnyKK cfg alpha := rfl
theorem reportedAnyRun_km (sqrtF : ℚ → ℚ) (cfg : Cfg) (alpha : ℚ) :
    reportedAnyRun sqrtF cfg .km alpha = reportedAnyKM cfg alpha := rfl
theorem reportedAnyRun_kw (sqrtF : ℚ → ℚ) (cfg : Cfg) (alpha : ℚ) :
    reportedAnyRun sqrtF cfg .kw alpha = reportedAnyKW cfg alpha := rfl
theorem reportedAnyRun_sprt (sqrtF : ℚ → ℚ) (cfg : Cfg) (alpha : ℚ) :
    reportedAnyRun sqrtF cfg .sprt alpha = reportedAnySprt cfg alpha := rfl

/-- the event is literally about the value `run` returns -/
theorem reportedAnyRun_iff (sqrtF : ℚ → ℚ) (cfg : Cfg) (test : Test) (alpha : ℚ) (h : List ℚ) :
    reportedAnyRun sqrtF cfg test alpha h = true ↔
      ∃ p hist, run sqrtF cfg test h = .ok (p, hist) ∧
        (XR.le p (.fin alpha) = true ∨ ∃ q ∈ hist, XR.le q (.fin alpha) = true) := by
  unfold reportedAnyRun reportedAnyOf anyLe
  cases hr : run sqrtF cfg test h with
  | error e => simp
  | ok r =>
    obtain ⟨p, hist⟩ := r
    simp only [Bool.or_eq_true, List.any_eq_true, Except.ok.injEq, Prod.mk.injEq]
    constructor
    · intro h1; exact ⟨p, hist, ⟨rfl, rfl⟩, h1⟩
    · rintro ⟨p', hist', ⟨rfl, rfl⟩, h1⟩; exact h1

/-! ### the documented parameter ranges -/

/-- the tolerances of the boundary conventions (`atol`, `rtol` of `np.isclose`): defaults `2 eps`, `1e-6` -/
structure TolOK (cfg : Cfg) : Prop where
  atol_nonneg : 0 ≤ cfg.atol
  atol_lt_half : cfg.atol < 1 / 2
  rtol_nonneg : 0 ≤ cfg.rtol

/-- `shrink_trunc`: `d > 0`, `f ≥ 0`, `minsd > 0` (defaults `100`, `0`, `1e-6`; `eta` and `c` are free: the
estimate is clipped to `[mu_j, u]` by `alpha_mart`), and a square root that is positive on positives -/
structure ShrinkOK (sqrtF : ℚ → ℚ) (cfg : Cfg) : Prop where
  sqrt_pos : ∀ q, 0 < q → 0 < sqrtF q
  d_pos : 0 < cfg.dV
  f_nonneg : 0 ≤ cfg.fV
  minsd_pos : 0 < cfg.minsdV

/-- `agrapa`: `0 < c_grapa_0 ≤ c_grapa_max ≤ 1`, `c_grapa_grow ≥ 0` (defaults `1-eps`, `1-eps`, `0`; the
initial bet `lam` is free: it is clipped), and a non-negative square root that is positive on positives -/
structure AgrapaOK (sqrtF : ℚ → ℚ) (cfg : Cfg) : Prop where
  sqrt_ok : C13.SqrtOK sqrtF
  c0_pos : 0 < cfg.c0V
  c0_le_cmax : cfg.c0V ≤ cfg.cmV
  cmax_le_one : cfg.cmV ≤ 1
  grow_nonneg : 0 ≤ cfg.cgV

/-- what each estimator of ALPHA needs: nothing for the fixed alternative (`eta` is clipped by the code),
`ShrinkOK` for shrink-truncate, `u ≠ 1` for the optimal comparison (`ZeroDivisionError` otherwise) -/
def EstimOK (sqrtF : ℚ → ℚ) (cfg : Cfg) : Estim → Prop
  | .fixedAlt => True
  | .shrinkTrunc => ShrinkOK sqrtF cfg
  | .optimalComparison => 2 - 2 * cfg.u ≠ 0

/-- what each bet needs: a fixed bet `0 ≤ lam ≤ 1/u` must be set; `AgrapaOK` for aGRAPA -/
def BetOK (sqrtF : ℚ → ℚ) (cfg : Cfg) : Bet → Prop
  | .fixed => ∃ l, cfg.kw.lam = some l ∧ 0 ≤ l ∧ l * cfg.u ≤ 1
  | .agrapa => AgrapaOK sqrtF cfg

/-- `wald_sprt`: `0 < t < u` and an alternative `t ≤ eta ≤ u` (default `u (1 - eps)`) -/
structure SprtOK (cfg : Cfg) : Prop where
  t_pos : 0 < cfg.t
  t_lt_u : cfg.t < cfg.u
  t_le_eta : cfg.t ≤ C11.sprtEta cfg
  eta_le_u : C11.sprtEta cfg ≤ cfg.u

/-- **documented use, finite population** (`N` finite, sampling without replacement).
Kaplan-Markov and Kaplan-Wald are documented for sampling with replacement only (they ignore `N`):
excluded here. -/
def DocumentedFinite (sqrtF : ℚ → ℚ) (cfg : Cfg) : Test → Prop
  | .alpha e => 0 ≤ cfg.u ∧ TolOK cfg ∧ EstimOK sqrtF cfg e
  | .betting b => 0 ≤ cfg.u ∧ TolOK cfg ∧ BetOK sqrtF cfg b
  | .kk => 0 ≤ cfg.kw.g.getD 0
  | .sprt => cfg.randomOrder = true ∧ SprtOK cfg          -- the code raises unless `random_order`
  | .km => False
  | .kw => False

/-- **documented use, sampling with replacement** (`N = np.inf`).  Kaplan-Kolmogorov needs a finite
population (`int(np.inf)` raises): excluded here. -/
def DocumentedIID (sqrtF : ℚ → ℚ) (cfg : Cfg) : Test → Prop
  | .alpha e => 0 < cfg.t ∧ cfg.t < cfg.u ∧ TolOK cfg ∧ EstimOK sqrtF cfg e
  | .betting b => 0 < cfg.t ∧ cfg.t < cfg.u ∧ TolOK cfg ∧ BetOK sqrtF cfg b
  | .sprt => SprtOK cfg
  | .km => 0 ≤ cfg.kw.g.getD 0 ∧ 0 < cfg.t + cfg.kw.g.getD 0
  | .kw => 0 < cfg.t ∧ 0 ≤ cfg.kw.g.getD 0 ∧ cfg.kw.g.getD 0 ≤ 1
  | .kk => False

/-- **documented use** of `NonnegMean(test=…, estim=…, bet=…, N=…, u=…, t=…, **kwargs)` -/
def Documented (sqrtF : ℚ → ℚ) (cfg : Cfg) (test : Test) : Prop :=
  match cfg.N with
  | some _ => DocumentedFinite sqrtF cfg test
  | none => DocumentedIID sqrtF cfg test

theorem documented_finite (sqrtF : ℚ → ℚ) (cfg : Cfg) (test : Test) (n : Nat) (hN : cfg.N = some n) :
    Documented sqrtF cfg test ↔ DocumentedFinite sqrtF cfg test := by
  unfold Documented; rw [hN]

theorem documented_iid (sqrtF : ℚ → ℚ) (cfg : Cfg) (test : Test) (hN : cfg.N = none) :
    Documented sqrtF cfg test ↔ DocumentedIID sqrtF cfg test := by
  unfold Documented; rw [hN]

/-! ### the capstones -/

/-- **C01 for `NonnegMean.test`, sampling without replacement.**  For every test the dispatcher offers
(ALPHA with each of its three estimators, the betting martingale with each of its two bets,
Kaplan-Kolmogorov, the SPRT) used within its documented parameter ranges, every population `pop` of `N`
values in `[0,u]` with mean at most `t`, and every `alpha` in `(0,1)`: the exact probability, over the
uniformly random order in which the items are drawn, that after some number of draws the overall p-value
returned by `self.test(x)` or ANY entry of the p-value history it returns is at most `alpha`, is at most
`alpha`. -/
theorem C01_finite_run (sqrtF : ℚ → ℚ) (cfg : Cfg) (n : Nat) (hN : cfg.N = some n) (test : Test)
    (hdoc : DocumentedFinite sqrtF cfg test)
    (alpha : ℚ) (ha0 : 0 < alpha) (ha1 : alpha < 1)
    (pop : List ℚ) (hlen : pop.length = n) (hrange : ∀ a ∈ pop, 0 ≤ a ∧ a ≤ cfg.u)
    (hnull : pop.sum ≤ (n : ℚ) * cfg.t) :
    hitEv (reportedAnyRun sqrtF cfg test alpha) pop.length pop [] ≤ alpha := by
  cases test with
  | alpha e =>
    obtain ⟨hu, ⟨hat, hat2, hrt⟩, he⟩ := hdoc
    rw [reportedAnyRun_alpha]
    cases e with
    | fixedAlt =>
      exact C01_finite_alpha_fixed_any cfg n hN hu hat hat2 hrt alpha ha0 ha1 pop hlen hrange hnull
    | shrinkTrunc =>
      exact C01_finite_alpha_shrink_any sqrtF he.sqrt_pos cfg n hN he.d_pos he.f_nonneg he.minsd_pos
        hu hat hat2 hrt alpha ha0 ha1 pop hlen hrange hnull
    | optimalComparison =>
      exact C01_finite_alpha_optimal_any cfg n hN he hu hat hat2 hrt alpha ha0 ha1 pop hlen hrange hnull
  | betting b =>
    obtain ⟨hu, ⟨hat, hat2, hrt⟩, hb⟩ := hdoc
    rw [reportedAnyRun_betting]
    cases b with
    | fixed =>
      obtain ⟨l, hl, hl0, hl1⟩ := hb
      exact C01_finite_betting_fixed_any cfg n hN l hl hl0 hl1 hu hat hat2 hrt alpha ha0 ha1 pop hlen hrange hnull
    | agrapa =>
      exact C01_finite_betting_agrapa_any sqrtF hb.sqrt_ok cfg n hN hb.c0_pos hb.c0_le_cmax hb.cmax_le_one
        hb.grow_nonneg hu hat hat2 hrt alpha ha0 ha1 pop hlen hrange hnull
  | kk =>
    rw [reportedAnyRun_kk]
    exact C01_finite_kk_any cfg n hN hdoc alpha ha0 ha1 pop hlen (fun a ha => (hrange a ha).1) hnull
  | sprt =>
    obtain ⟨hro, hs⟩ := hdoc
    rw [reportedAnyRun_sprt]
    exact C01_finite_sprt_any cfg n hN hro hs.t_pos hs.t_lt_u hs.t_le_eta hs.eta_le_u alpha ha0 ha1
      pop hlen hrange hnull
  | km => exact absurd hdoc id
  | kw => exact absurd hdoc id

section OrderedField

variable {K : Type} [Field K] [LinearOrder K] [IsStrictOrderedRing K]

/-- **C01 for `NonnegMean.test`, independent draws (`N = np.inf`), probabilities in any ordered field.**
For every test the dispatcher offers for sampling with replacement (ALPHA with each of its three
estimators, the betting martingale with each of its two bets, the SPRT, Kaplan-Markov, Kaplan-Wald)
used within its documented parameter ranges, every
finitely supported law `L` on `[0,u]` whose weights are non-negative elements of the linearly ordered
field `K` summing to 1, with mean at most `t`, every `alpha` in `(0,1)` and every horizon `k`: the exact
probability (an element of `K`) that after some number `≤ k` of independent draws from `L` the overall
p-value returned by `self.test(x)` or ANY entry of the history it returns is at most `alpha`, is at most
`alpha`. -/
theorem C01_iid_run_K (sqrtF : ℚ → ℚ) (cfg : Cfg) (hN : cfg.N = none) (test : Test)
    (hdoc : DocumentedIID sqrtF cfg test)
    (alpha : ℚ) (ha0 : 0 < alpha) (ha1 : alpha < 1)
    (L : List (ℚ × K)) (hL : IsLawK cfg.u L) (hmean : lawMeanK L ≤ (cfg.t : K)) (k : Nat) :
    hitIIDK L (reportedAnyRun sqrtF cfg test alpha) k [] ≤ (alpha : K) := by
  cases test with
  | alpha e =>
    obtain ⟨ht0, htu, htol, he⟩ := hdoc
    rw [reportedAnyRun_alpha]
    cases e with
    | fixedAlt =>
      exact C01_iid_alpha_fixed_any_K cfg hN ht0 htu htol.atol_nonneg htol.atol_lt_half htol.rtol_nonneg
        alpha ha0 ha1 L hL hmean k
    | shrinkTrunc =>
      exact C01_iid_alpha_shrink_any_K sqrtF he.sqrt_pos cfg hN he.d_pos he.f_nonneg he.minsd_pos
        ht0 htu htol.atol_nonneg htol.atol_lt_half htol.rtol_nonneg alpha ha0 ha1 L hL hmean k
    | optimalComparison =>
      exact C01_iid_alpha_optimal_any_K cfg hN he ht0 htu htol.atol_nonneg htol.atol_lt_half htol.rtol_nonneg
        alpha ha0 ha1 L hL hmean k
  | betting b =>
    obtain ⟨ht0, htu, htol, hb⟩ := hdoc
    rw [reportedAnyRun_betting]
    cases b with
    | fixed =>
      obtain ⟨l, hl, hl0, hl1⟩ := hb
      exact C01_iid_betting_fixed_any_K cfg hN l hl hl0 hl1 ht0 htu htol.atol_nonneg htol.atol_lt_half
        htol.rtol_nonneg alpha ha0 ha1 L hL hmean k
    | agrapa =>
      exact C01_iid_betting_agrapa_any_K sqrtF hb.sqrt_ok cfg hN hb.c0_pos hb.c0_le_cmax hb.cmax_le_one
        hb.grow_nonneg ht0 htu htol.atol_nonneg htol.atol_lt_half htol.rtol_nonneg alpha ha0 ha1 L hL hmean k
  | sprt =>
    rw [reportedAnyRun_sprt]
    exact C01_iid_sprt_any_K cfg hN hdoc.t_pos hdoc.t_lt_u hdoc.t_le_eta hdoc.eta_le_u alpha ha0 ha1 L hL hmean k
  | km =>
    rw [reportedAnyRun_km]
    exact C01_iid_km_any_K cfg hdoc.1 hdoc.2 alpha ha0 ha1 L hL hmean k
  | kw =>
    rw [reportedAnyRun_kw]
    exact C01_iid_kw_any_K cfg hdoc.1 hdoc.2.1 hdoc.2.2 alpha ha0 ha1 L hL hmean k
  | kk => exact absurd hdoc id

end OrderedField

/-- **C01 for `NonnegMean.test`, independent draws (`N = np.inf`), rational weights**: `C01_iid_run_K`
at `K = ℚ`. -/
theorem C01_iid_run (sqrtF : ℚ → ℚ) (cfg : Cfg) (hN : cfg.N = none) (test : Test)
    (hdoc : DocumentedIID sqrtF cfg test)
    (alpha : ℚ) (ha0 : 0 < alpha) (ha1 : alpha < 1)
    (L : List (ℚ × ℚ)) (hL : IsLaw cfg.u L) (hmean : lawMean L ≤ cfg.t) (k : Nat) :
    hitIID L (reportedAnyRun sqrtF cfg test alpha) k [] ≤ alpha :=
  hitIIDK_rat L _ k [] ▸ C01_iid_run_K (K := ℚ) sqrtF cfg hN test hdoc alpha ha0 ha1 L hL.toK hmean k

/-- **C01 for `NonnegMean.test`**, both sampling designs in one statement, in terms of `Documented`:
when `N` is finite, for every null population of `N` items; when `N = np.inf`, for every finitely
supported null law and every horizon. -/
theorem C01_run (sqrtF : ℚ → ℚ) (cfg : Cfg) (test : Test) (hdoc : Documented sqrtF cfg test)
    (alpha : ℚ) (ha0 : 0 < alpha) (ha1 : alpha < 1) :
    (∀ n, cfg.N = some n → ∀ pop : List ℚ, pop.length = n → (∀ a ∈ pop, 0 ≤ a ∧ a ≤ cfg.u) →
        pop.sum ≤ (n : ℚ) * cfg.t → hitEv (reportedAnyRun sqrtF cfg test alpha) pop.length pop [] ≤ alpha) ∧
    (cfg.N = none → ∀ L : List (ℚ × ℚ), IsLaw cfg.u L → lawMean L ≤ cfg.t → ∀ k : Nat,
        hitIID L (reportedAnyRun sqrtF cfg test alpha) k [] ≤ alpha) :=
  ⟨fun n hN pop hlen hrange hnull =>
      C01_finite_run sqrtF cfg n hN test ((documented_finite sqrtF cfg test n hN).1 hdoc) alpha ha0 ha1
        pop hlen hrange hnull,
   fun hN L hL hmean k =>
      C01_iid_run sqrtF cfg hN test ((documented_iid sqrtF cfg test hN).1 hdoc) alpha ha0 ha1 L hL hmean k⟩

/-! ### non-vacuity: concrete configurations satisfy every hypothesis -/

section NonVacuity

private theorem tol_default (N : Option Nat) (u t : ℚ) (ro : Bool) (kw : Kw) :
    TolOK { N := N, u := u, t := t, randomOrder := ro, kw := kw } :=
  ⟨by show (0 : ℚ) ≤ 2 * eps; decide +kernel, by show 2 * eps < (1 : ℚ) / 2; decide +kernel,
    by show (0 : ℚ) ≤ 1 / 1000000; decide +kernel⟩

private theorem pop4_range : ∀ a ∈ ([1, 0, 1/2, 0] : List ℚ), 0 ≤ a ∧ a ≤ (1 : ℚ) := by decide +kernel

private theorem law3 : IsLaw 1 [(0, 1/2), (1/2, 1/4), (1, 1/4)] :=
  ⟨by decide +kernel, by decide +kernel, by decide +kernel⟩

private theorem law3_mean : lawMean [(0, 1/2), (1/2, 1/4), (1, 1/4)] ≤ 1/2 := by decide +kernel

example : hitEv (reportedAnyRun sqrtRat
    { N := some 4, u := 1, t := 1/2, randomOrder := true,
      kw := { eta := some (3/4), c := some (1/2), d := some 10, f := some (1/10) } }
    (.alpha .shrinkTrunc) (1/20)) 4 [1, 0, 1/2, 0] [] ≤ 1/20 :=
  C01_finite_run sqrtRat _ 4 rfl (.alpha .shrinkTrunc)
    ⟨by decide +kernel, tol_default _ _ _ _ _,
      ⟨C13.sqrtRat_ok.pos, by decide +kernel, by decide +kernel, by decide +kernel⟩⟩
    (1/20) (by decide +kernel) (by decide +kernel) [1, 0, 1/2, 0] rfl pop4_range (by decide +kernel)

-- `u = 1 + 2^-40`
example : hitEv (reportedAnyRun sqrtRat
    { N := some 4, u := 1 + 1 / 1099511627776, t := 1/2, randomOrder := true, kw := {} }
    (.alpha .optimalComparison) (1/20)) 4 [1, 0, 1/2, 0] [] ≤ 1/20 :=
  C01_finite_run sqrtRat _ 4 rfl (.alpha .optimalComparison)
    ⟨by decide +kernel, tol_default _ _ _ _ _,
      by show (2 : ℚ) - 2 * (1 + 1 / 1099511627776) ≠ 0; decide +kernel⟩
    (1/20) (by decide +kernel) (by decide +kernel) [1, 0, 1/2, 0] rfl (by decide +kernel) (by decide +kernel)

example : hitEv (reportedAnyRun sqrtRat
    { N := some 4, u := 1, t := 1/2, randomOrder := false,
      kw := { lam := some (1/2), cG0 := some (1/2), cGmax := some (9/10), cGgrow := some 1 } }
    (.betting .agrapa) (1/20)) 4 [1, 0, 1/2, 0] [] ≤ 1/20 :=
  C01_finite_run sqrtRat _ 4 rfl (.betting .agrapa)
    ⟨by decide +kernel, tol_default _ _ _ _ _,
      ⟨C13.sqrtRat_ok, by decide +kernel, by decide +kernel, by decide +kernel, by decide +kernel⟩⟩
    (1/20) (by decide +kernel) (by decide +kernel) [1, 0, 1/2, 0] rfl pop4_range (by decide +kernel)

example : hitEv (reportedAnyRun sqrtRat
    { N := some 4, u := 1, t := 1/2, randomOrder := false, kw := { lam := some (3/4) } }
    (.betting .fixed) (1/20)) 4 [1, 0, 1/2, 0] [] ≤ 1/20 :=
  C01_finite_run sqrtRat _ 4 rfl (.betting .fixed)
    ⟨by decide +kernel, tol_default _ _ _ _ _, 3/4, rfl, by decide +kernel, by decide +kernel⟩
    (1/20) (by decide +kernel) (by decide +kernel) [1, 0, 1/2, 0] rfl pop4_range (by decide +kernel)

example : hitEv (reportedAnyRun sqrtRat
    { N := some 4, u := 1, t := 1/2, randomOrder := true, kw := { g := some (1/10) } }
    .kk (1/20)) 4 [1, 0, 1/2, 0] [] ≤ 1/20 :=
  C01_finite_run sqrtRat _ 4 rfl .kk (by show (0 : ℚ) ≤ (some (1/10 : ℚ)).getD 0; decide +kernel)
    (1/20) (by decide +kernel) (by decide +kernel) [1, 0, 1/2, 0] rfl pop4_range (by decide +kernel)

example : hitEv (reportedAnyRun sqrtRat
    { N := some 4, u := 1, t := 1/2, randomOrder := true, kw := { eta := some (3/4) } }
    .sprt (1/20)) 4 [1, 0, 1/2, 0] [] ≤ 1/20 :=
  C01_finite_run sqrtRat _ 4 rfl .sprt
    ⟨rfl, by decide +kernel, by decide +kernel, by decide +kernel, by decide +kernel⟩
    (1/20) (by decide +kernel) (by decide +kernel) [1, 0, 1/2, 0] rfl pop4_range (by decide +kernel)

example : hitIID [(0, 1/2), (1/2, 1/4), (1, 1/4)]
    (reportedAnyRun sqrtRat { N := none, u := 1, t := 1/2, randomOrder := true, kw := {} } .km (1/20)) 5 []
      ≤ 1/20 :=
  -- the configuration is written out: left to unification it is still unknown when `law3_mean` is
  -- elaborated against `lawMean ?L ≤ ?cfg.t`, and the unifier then unfolds `≤` on `ℚ`
  C01_iid_run sqrtRat { N := none, u := 1, t := 1/2, randomOrder := true, kw := {} } rfl .km
    ⟨by decide +kernel, by decide +kernel⟩
    (1/20) (by decide +kernel) (by decide +kernel) _ law3 law3_mean 5

example : hitIID [(0, 1/2), (1/2, 1/4), (1, 1/4)]
    (reportedAnyRun sqrtRat { N := none, u := 1, t := 1/2, randomOrder := false, kw := { g := some (1/10) } }
      .kw (1/20)) 5 [] ≤ 1/20 :=
  C01_iid_run sqrtRat { N := none, u := 1, t := 1/2, randomOrder := false, kw := { g := some (1/10) } } rfl .kw
    ⟨by decide +kernel, by decide +kernel, by decide +kernel⟩
    (1/20) (by decide +kernel) (by decide +kernel) _ law3 law3_mean 5

example : hitIID [(0, 1/2), (1/2, 1/4), (1, 1/4)]
    (reportedAnyRun sqrtRat { N := none, u := 1, t := 1/2, randomOrder := true, kw := { f := some (1/10) } }
      (.alpha .shrinkTrunc) (1/20)) 5 [] ≤ 1/20 :=
  C01_iid_run sqrtRat _ rfl (.alpha .shrinkTrunc)
    ⟨by decide +kernel, by decide +kernel, tol_default _ _ _ _ _,
      ⟨C13.sqrtRat_ok.pos, by decide +kernel, by decide +kernel, by decide +kernel⟩⟩
    (1/20) (by decide +kernel) (by decide +kernel) _ law3 law3_mean 5

example : hitIID [(0, 1/2), (1/2, 1/4), (1, 1/4)]
    (reportedAnyRun sqrtRat { N := none, u := 1, t := 1/2, randomOrder := true, kw := {} }
      (.betting .agrapa) (1/20)) 5 [] ≤ 1/20 :=
  C01_iid_run sqrtRat _ rfl (.betting .agrapa)
    ⟨by decide +kernel, by decide +kernel, tol_default _ _ _ _ _,
      ⟨C13.sqrtRat_ok, by decide +kernel, by decide +kernel, by decide +kernel, by decide +kernel⟩⟩
    (1/20) (by decide +kernel) (by decide +kernel) _ law3 law3_mean 5

example : hitIID [(0, 1/2), (1/2, 1/4), (1, 1/4)]
    (reportedAnyRun sqrtRat { N := none, u := 1, t := 1/2, randomOrder := false, kw := {} } .sprt (1/20)) 5 []
      ≤ 1/20 :=
  C01_iid_run sqrtRat { N := none, u := 1, t := 1/2, randomOrder := false, kw := {} } rfl .sprt
    ⟨by decide +kernel, by decide +kernel, by decide +kernel, by decide +kernel⟩
    (1/20) (by decide +kernel) (by decide +kernel) _ law3 law3_mean 5

example : Documented sqrtRat
    { N := some 4, u := 1, t := 1/2, randomOrder := true,
      kw := { eta := some (3/4), c := some (1/2), d := some 10, f := some (1/10) } } (.alpha .shrinkTrunc) :=
  (documented_finite _ _ _ 4 rfl).2
    ⟨by decide +kernel, tol_default _ _ _ _ _,
      ⟨C13.sqrtRat_ok.pos, by decide +kernel, by decide +kernel, by decide +kernel⟩⟩

end NonVacuity

end Shangrla.C01
