/-
  C15 — RAIRE's assertion set is the least difficult sufficient set (agap = 0).

  For every difficulty function `asn` into a type with a lawful total preorder — monotonicity in the
  margin is not needed — the largest difficulty among the returned assertions is the minimum, over all
  sets of true NEB/NEN assertions (all ordered pairs, all eliminated sets) that exclude every alternative
  winner, of the largest difficulty in the set.  Theorems are about
  `Shangrla.Raire.computeRaireAssertions`, the literal model the driver executes; invariants O1-O3 of
  DESIGN.md Appendix F are the fields `lbOpt`, `nonexpOpt`, `sorted` of `Shangrla.Raire.FInv`.
-/
import Shangrla.Lemmas.RaireMain

namespace Shangrla.C15
open Shangrla.Raire Shangrla.Raire.Spec

-- fixed statements of this file stand in a section with instance arguments they do not all use
set_option linter.unusedSectionVars false

variable {α : Type} [DecidableEq α] {D : Type} [DiffOrd D] [DiffOrd.Lawful D]

/-- a competing set: true assertions of the family that exclude every alternative winner -/
def Competing (asn : Nat → Nat → Nat → Nat → D) (C : Contest α) (cvrs : List (Option (Ballot α)))
    (winner : α) (S : List (Assertion α D)) : Prop :=
  (∀ a ∈ S, Fam asn C cvrs a) ∧ Sufficient C.candidates winner S

/-- `d` is the largest difficulty in `S` -/
def IsMaxDiff (S : List (Assertion α D)) (d : D) : Prop :=
  (∃ a ∈ S, a.difficulty = d) ∧ ∀ a ∈ S, DiffOrd.le a.difficulty d = true

theorem exists_isMaxDiff (S : List (Assertion α D)) (hne : S ≠ []) : ∃ d, IsMaxDiff S d := by
  induction S with
  | nil => exact absurd rfl hne
  | cons x xs ih =>
    cases xs with
    | nil =>
      exact ⟨x.difficulty, ⟨x, List.mem_singleton_self x, rfl⟩,
        fun a ha => List.mem_singleton.1 ha ▸ DiffOrd.Lawful.le_refl _⟩
    | cons y ys =>
      obtain ⟨d, ⟨a, ha, hd⟩, hmax⟩ := ih (List.cons_ne_nil y ys)
      rcases DiffOrd.Lawful.le_total x.difficulty d with h | h
      · exact ⟨d, ⟨a, List.mem_cons_of_mem _ ha, hd⟩, fun b hb =>
          (List.mem_cons.1 hb).elim (fun e => e ▸ h) (hmax b)⟩
      · exact ⟨x.difficulty, ⟨x, List.mem_cons_self, rfl⟩, fun b hb =>
          (List.mem_cons.1 hb).elim (fun e => e ▸ DiffOrd.Lawful.le_refl _) fun hb =>
            DiffOrd.Lawful.le_trans _ _ _ (hmax b hb) h⟩

/-- (O1)-(O3) at the exit: the difficulty of every returned assertion is at most the largest difficulty
of any competing set -/
theorem raire_optimal_pointwise (asn : Nat → Nat → Nat → Nat → D) (C : Contest α)
    (cvrs : List (Option (Ballot α))) (winner : α) (hC : C.candidates.Nodup) (hn : 2 ≤ C.candidates.length)
    (fuel : Nat) (as : List (Assertion α D)) (h : computeRaireAssertions asn C cvrs winner fuel = Res.ok as)
    (S : List (Assertion α D)) (hS : Competing asn C cvrs winner S) :
    ∀ a ∈ as, ∃ b ∈ S, DiffOrd.le a.difficulty b.difficulty = true := by
  intro a ha
  have hne : as ≠ [] := fun h0 => by rw [h0] at ha; cases ha
  exact ((compute_spec asn C cvrs winner hC hn h).2 hne).2.2 a ha S hS.1 hS.2

/-- **C15.** A non-empty result is itself a competing set, and its largest difficulty `m` is the least
possible: every competing set has largest difficulty at least `m`. Hence `m` is the minimum over all
competing sets of the largest difficulty in the set. -/
theorem raire_optimal (asn : Nat → Nat → Nat → Nat → D) (C : Contest α) (cvrs : List (Option (Ballot α)))
    (winner : α) (hC : C.candidates.Nodup) (hn : 2 ≤ C.candidates.length) (fuel : Nat)
    (as : List (Assertion α D)) (h : computeRaireAssertions asn C cvrs winner fuel = Res.ok as)
    (hne : as ≠ []) (m : D) (hm : IsMaxDiff as m) :
    Competing asn C cvrs winner as ∧
    ∀ S m', Competing asn C cvrs winner S → IsMaxDiff S m' → DiffOrd.le m m' = true := by
  obtain ⟨g1, g2, _⟩ := (compute_spec asn C cvrs winner hC hn h).2 hne
  refine ⟨⟨g1, g2⟩, ?_⟩
  intro S m' hS hm'
  obtain ⟨⟨a, ha, rfl⟩, _⟩ := hm
  obtain ⟨b, hb, hle⟩ := raire_optimal_pointwise asn C cvrs winner hC hn fuel as h S hS a ha
  exact DiffOrd.Lawful.le_trans _ _ _ hle (hm'.2 b hb)

/-- when an audit is possible at all (a competing set exists) the result is non-empty, so `raire_optimal`
applies -/
theorem raire_nonempty_of_possible (asn : Nat → Nat → Nat → Nat → D) (C : Contest α)
    (cvrs : List (Option (Ballot α))) (winner : α) (hC : C.candidates.Nodup) (hn : 2 ≤ C.candidates.length)
    (fuel : Nat) (as : List (Assertion α D)) (h : computeRaireAssertions asn C cvrs winner fuel = Res.ok as)
    (S : List (Assertion α D)) (hS : Competing asn C cvrs winner S) : as ≠ [] := by
  intro h0
  obtain ⟨π, hπ, hbad⟩ := (compute_spec asn C cvrs winner hC hn h).1 h0
  obtain ⟨a, ha, hc⟩ := hS.2 π hπ
  exact hbad a (hS.1 a ha) hc

/-- **C15 in one statement** (with termination): whenever an audit is possible at all, the generator, run
with enough fuel, returns a non-empty competing set whose largest difficulty is the minimum over all
competing sets of the largest difficulty in the set. -/
theorem raire_optimal_total (asn : Nat → Nat → Nat → Nat → D) (C : Contest α) (cvrs : List (Option (Ballot α)))
    (winner : α) (hC : C.candidates.Nodup) (hn : 2 ≤ C.candidates.length) (fuel : Nat)
    (hfuel : raireFuel C winner ≤ fuel) (S0 : List (Assertion α D)) (hS0 : Competing asn C cvrs winner S0) :
    ∃ as m, computeRaireAssertions asn C cvrs winner fuel = Res.ok as ∧ Competing asn C cvrs winner as ∧
      IsMaxDiff as m ∧ ∀ S m', Competing asn C cvrs winner S → IsMaxDiff S m' → DiffOrd.le m m' = true := by
  obtain ⟨as, h⟩ := computeG_terminates asn C cvrs winner gapOK_noGap hC hn fuel hfuel
  have hne := raire_nonempty_of_possible asn C cvrs winner hC hn fuel as h S0 hS0
  obtain ⟨m, hm⟩ := exists_isMaxDiff as hne
  obtain ⟨g1, g2⟩ := raire_optimal asn C cvrs winner hC hn fuel as h hne m hm
  exact ⟨as, m, h, g1, hm, g2⟩

/-- **What C15 becomes with a positive allowed gap** (outside the property's "zero allowed gap", stated so
that nobody assumes more): for every `agap` test `gap` that is false at `inf`, a non-empty result of
`computeRaireAssertionsG gap` is a competing set, and EITHER its largest difficulty is the least possible (the
search ended normally), OR the test `gap mx l` was true of an upper bound `mx` of every returned difficulty and
a value `l` that every competing set's largest difficulty reaches. For the Python test `mx - l <= agap` that
is: the largest returned difficulty exceeds the optimum by at most `agap`. -/
theorem raire_near_optimal_gap (gap : Diff D → Diff D → Bool) (hgap : GapOK gap)
    (asn : Nat → Nat → Nat → Nat → D) (C : Contest α) (cvrs : List (Option (Ballot α)))
    (winner : α) (hC : C.candidates.Nodup) (hn : 2 ≤ C.candidates.length) (fuel : Nat)
    (as : List (Assertion α D)) (h : computeRaireAssertionsG gap asn C cvrs winner fuel = Res.ok as)
    (hne : as ≠ []) :
    Competing asn C cvrs winner as ∧
    ((∀ S m', Competing asn C cvrs winner S → IsMaxDiff S m' →
        ∀ a ∈ as, DiffOrd.le a.difficulty m' = true) ∨
     ∃ mx l, gap mx l = true ∧ (∀ a ∈ as, Diff.le (Diff.fin a.difficulty) mx = true) ∧
        ∀ S m', Competing asn C cvrs winner S → IsMaxDiff S m' → Diff.le l (Diff.fin m') = true) := by
  refine ⟨(computeG_spec asn C cvrs winner hgap hC hn h).2 hne, ?_⟩
  rcases computeG_near_opt asn C cvrs winner hgap hC hn h hne with hopt | ⟨mx, l, hg, hl, hmx⟩
  · left
    intro S m' hS hm' a ha
    obtain ⟨b, hb, hle⟩ := hopt a ha S hS.1 hS.2
    exact DiffOrd.Lawful.le_trans _ _ _ hle (hm'.2 b hb)
  · right
    refine ⟨mx, l, hg, hmx, ?_⟩
    intro S m' hS hm'
    obtain ⟨b, hb, hle⟩ := hl S hS.1 hS.2
    exact Diff.le_trans hle (hm'.2 b hb)

/-! ### Non-vacuity: the ballots and difficulty function of C04's example (`C04.cvrsEx`, `C04.asnEx`; repeated here,
C04 not being imported), with the true elimination order 2, 0, 1 as `outcome` (diving hint) instead of none -/

def asnEx (w l _o t : Nat) : Nat := t * 1000 / (w - l)
def balEx (l : List Nat) : Option (Ballot Nat) := some l.zipIdx
def cvrsEx : List (Option (Ballot Nat)) :=
  List.replicate 4 (balEx [0, 1]) ++ List.replicate 3 (balEx [1, 2]) ++ List.replicate 2 (balEx [2, 1])
def CEx : Contest Nat := { candidates := [0, 1, 2], totBallots := 9, outcome := [2, 0, 1] }
def diffs (r : Res (List (Assertion Nat Nat))) : Option (List Nat) :=
  match r with
  | Res.ok as => some (as.map (·.difficulty))
  | _ => none

theorem diffs_run : diffs (computeRaireAssertions asnEx CEx cvrsEx 1 100) = some [9000, 9000] := by decide +kernel

-- with the true elimination order as hint: two assertions, both of difficulty 9000 = 9 * 1000 / 1
example : diffs (computeRaireAssertions asnEx CEx cvrsEx 1 100) = some [9000, 9000] := diffs_run
-- hence the hypotheses of `raire_optimal` are satisfiable (non-empty result with a largest difficulty)
example : ∃ as, computeRaireAssertions asnEx CEx cvrsEx 1 100 = Res.ok as ∧ as ≠ [] ∧ ∃ m, IsMaxDiff as m := by
  match h : computeRaireAssertions asnEx CEx cvrsEx 1 100, diffs_run with
  | Res.ok (a :: as), _ => exact ⟨a :: as, rfl, List.cons_ne_nil a as, exists_isMaxDiff _ (List.cons_ne_nil a as)⟩

end Shangrla.C15
